import Harper.Model.Stats
import Harper.Lemmas.Keyed
/-! Helper lemmas for C19 (escaping, line framing, summary counters); the line framing is also used by C07. -/
namespace Harper.Stats

/-! ### the predicates the property theorems are stated with -/

section
variable {κ : Type}
def total (m : List (κ × Nat)) : Nat := (m.map (·.2)).sum
end

/-- the lint records of kind `k` -/
def isLintOf (k : Nat) : Rec → Bool
  | .lint k' _ => k' = k
  | .configUpdate _ => false

def isLint : Rec → Bool
  | .lint _ _ => true
  | .configUpdate _ => false

/-- occurrences of `w` among the unknown-word context tokens of a record -/
def unknownOcc (w : List Char) : Rec → Nat
  | .lint _ ws => ws.count w
  | .configUpdate _ => 0

/-- the last configuration update, or the start value -/
def lastConfig (d : Nat) : List Rec → Nat
  | [] => d
  | .configUpdate c :: rs => lastConfig c rs
  | .lint _ _ :: rs => lastConfig d rs

/-! ### escaping -/

theorem escapeChar_plain (c : Char) (hc : ¬ c.toNat < 32) (hq : c ≠ '"') (hb : c ≠ '\\') :
    escapeChar c = [c] := by
  have h : ∀ d : Char, d.toNat < 32 → c ≠ d := fun d hd e => hc (e ▸ hd)
  simp only [escapeChar, hq, hb, h '\x08' (by decide), h '\x0c' (by decide), h '\n' (by decide),
    h '\r' (by decide), h '\t' (by decide), hc, if_false]

/-- the escape of a control character has one of the two escape shapes, and that shape decodes to
the character -/
def ctrlShapeOk (n : Nat) : Bool :=
  match escapeChar (Char.ofNat n) with
  | ['\\', e] => e ≠ 'u' ∧ simpleEscape e = some (Char.ofNat n)
  | ['\\', 'u', a, b, c, d] => hex4 a b c d = some n
  | _ => false

/-- the 32 rows of the `ESCAPE` table for control characters -/
theorem ctrl_table : ∀ n < 32,
    ('\n' ∉ escapeChar (Char.ofNat n) ∧ '\r' ∉ escapeChar (Char.ofNat n)) ∧ ctrlShapeOk n = true := by
  decide +kernel

theorem escapeChar_no_linebreak (c : Char) : '\n' ∉ escapeChar c ∧ '\r' ∉ escapeChar c := by
  by_cases hc : c.toNat < 32
  · have := (ctrl_table c.toNat hc).1
    rwa [Char.ofNat_toNat] at this
  by_cases hq : c = '"'
  · subst hq; decide
  by_cases hb : c = '\\'
  · subst hb; decide
  rw [escapeChar_plain c hc hq hb, List.mem_singleton, List.mem_singleton]
  exact ⟨by rintro rfl; exact hc (by decide), by rintro rfl; exact hc (by decide)⟩

theorem escape_no_linebreak (s : List Char) : '\n' ∉ escape s ∧ '\r' ∉ escape s := by
  induction s with
  | nil => exact ⟨List.not_mem_nil, List.not_mem_nil⟩
  | cons c cs ih =>
    have := escapeChar_no_linebreak c
    simp only [escape, List.mem_append, not_or]
    exact ⟨⟨this.1, ih.1⟩, ⟨this.2, ih.2⟩⟩

theorem escape_append (a b : List Char) : escape (a ++ b) = escape a ++ escape b := by
  induction a with
  | nil => rfl
  | cons c cs ih => simp [escape, ih]

/-! ### un-escaping -/

theorem step_simple (e x : Char) (t : List Char) (hu : e ≠ 'u') (hs : simpleEscape e = some x) :
    unescapeStep ('\\' :: e :: t) = some (x, t) := by
  simp [unescapeStep, hu, hs]

theorem step_hex (a b c d : Char) (n : Nat) (t : List Char) (hh : hex4 a b c d = some n)
    (hn : n < 0xD800) : unescapeStep ('\\' :: 'u' :: a :: b :: c :: d :: t) = some (Char.ofNat n, t) := by
  have h1 : ¬ (0xDC00 ≤ n ∧ n ≤ 0xDFFF) := by omega
  have h2 : ¬ (0xD800 ≤ n ∧ n ≤ 0xDBFF) := by omega
  simp only [unescapeStep, if_true, hh, h1, h2, if_false]

theorem step_escapeChar (c : Char) (t : List Char) :
    unescapeStep (escapeChar c ++ t) = some (c, t) := by
  by_cases hc : c.toNat < 32
  · have hok := (ctrl_table c.toNat hc).2
    unfold ctrlShapeOk at hok
    rw [Char.ofNat_toNat] at hok
    split at hok
    · rename_i e he
      simp only [decide_eq_true_eq] at hok
      rw [he]
      exact step_simple e c t hok.1 hok.2
    · rename_i a b c' d he
      simp only [decide_eq_true_eq] at hok
      rw [he]
      have := step_hex a b c' d c.toNat t hok (by omega)
      rwa [Char.ofNat_toNat] at this
    · exact absurd hok (by simp)
  · by_cases hq : c = '"'
    · subst hq; rfl
    by_cases hb : c = '\\'
    · subst hb; rfl
    have hc' : ¬ c.toNat < 0x20 := hc
    rw [escapeChar_plain c hc hq hb]
    simp only [List.singleton_append, unescapeStep, hb, hq, hc', if_false, false_or]

theorem escapeChar_ne_nil (c : Char) : escapeChar c ≠ [] := fun h => by
  have := step_escapeChar c []
  rw [h] at this
  cases this

theorem unescapeFuel_escape (s : List Char) :
    ∀ fuel, (escape s).length ≤ fuel → unescapeFuel fuel (escape s) = some s := by
  induction s with
  | nil => intro fuel _; cases fuel <;> rfl
  | cons c cs ih =>
    intro fuel hf
    have hstep := step_escapeChar c (escape cs)
    simp only [escape] at hf ⊢
    match hx : escapeChar c, escapeChar_ne_nil c with
    | x :: xs, _ =>
      rw [hx] at hstep hf
      match fuel, hf with
      | f + 1, hf =>
        simp only [List.cons_append] at hstep ⊢
        have hlen : (escape cs).length ≤ f := by
          simp only [List.cons_append, List.length_cons, List.length_append] at hf; omega
        simp only [unescapeFuel, hstep, ih f hlen]

theorem unescape_escape (s : List Char) : unescape (escape s) = some s :=
  unescapeFuel_escape s _ (Nat.le_refl _)

/-! ### line framing -/

theorem linesGo_line (l t : List Char) (hl : '\n' ∉ l) :
    ∀ acc, linesGo acc (l ++ '\n' :: t) = finishLine (l.reverse ++ acc) :: linesGo [] t := by
  induction l with
  | nil => intro acc; simp [linesGo]
  | cons c cs ih =>
    intro acc
    have hc : c ≠ '\n' := fun h => hl (by simp [h])
    have hcs : '\n' ∉ cs := fun h => hl (by simp [h])
    simp only [List.cons_append, linesGo, hc, if_false, ih hcs, List.reverse_cons,
      List.append_assoc, List.nil_append]

theorem finishLine_reverse (l : List Char) (h : l.getLast? ≠ some '\r') :
    finishLine l.reverse = l := by
  unfold finishLine
  split
  · rename_i r hr
    have : l = r.reverse ++ ['\r'] := by
      have := congrArg List.reverse hr
      simpa using this
    exact absurd (by simp [this]) h
  · simp

theorem writeLog_eq_flatten (ls : List (List Char)) :
    writeLog ls = (ls.map (· ++ ['\n'])).flatten := by
  induction ls with
  | nil => rfl
  | cons l ls ih => simp [writeLog, ih]

theorem writeLog_append (a b : List (List Char)) :
    writeLog (a ++ b) = writeLog a ++ writeLog b := by
  induction a with
  | nil => rfl
  | cons l ls ih => simp [writeLog, ih]

theorem lines_writeLog (ls : List (List Char))
    (h : ∀ l ∈ ls, '\n' ∉ l ∧ l.getLast? ≠ some '\r') : lines (writeLog ls) = ls := by
  induction ls with
  | nil => rfl
  | cons l ls ih =>
    have hl := h l (by simp)
    have ih' := ih (fun l' hl' => h l' (by simp [hl']))
    unfold lines at ih' ⊢
    simp only [writeLog]
    rw [linesGo_line l _ hl.1 [], List.append_nil, finishLine_reverse l hl.2, ih']

theorem parseAll_map {ρ} (ser : ρ → List Char) (parse : List Char → Option ρ)
    (h : ∀ r, parse (ser r) = some r) (rs : List ρ) : parseAll parse (rs.map ser) = some rs := by
  induction rs with
  | nil => rfl
  | cons r rs ih => simp [parseAll, h, ih]

theorem parseAll_none_of_mem {ρ} (parse : List Char → Option ρ) (ls : List (List Char))
    (l : List Char) (hl : l ∈ ls) (h : parse l = none) : parseAll parse ls = none := by
  induction ls with
  | nil => cases hl
  | cons x xs ih =>
    rcases List.mem_cons.mp hl with rfl | hl
    · simp only [parseAll, h]
    · simp only [parseAll, ih hl]
      cases parse x <;> rfl

theorem lines_write {ρ} (ser : ρ → List Char)
    (hline : ∀ r, '\n' ∉ ser r ∧ (ser r).getLast? ≠ some '\r') (rs : List ρ) :
    lines (write ser rs) = rs.map ser :=
  lines_writeLog _ fun l hl => by
    obtain ⟨r, _, rfl⟩ := List.mem_map.mp hl
    exact hline r

/-! ### the concrete JSON-string record -/

theorem jsonString_no_linebreak (s : List Char) :
    '\n' ∉ jsonString s ∧ '\r' ∉ jsonString s := by
  have := escape_no_linebreak s
  simp only [jsonString, List.mem_cons, List.mem_append, List.not_mem_nil, or_false, not_or]
  exact ⟨⟨by decide, this.1, by decide⟩, ⟨by decide, this.2, by decide⟩⟩

theorem jsonString_getLast (s : List Char) : (jsonString s).getLast? = some '"' := by
  show (('"' :: escape s) ++ ['"']).getLast? = some '"'
  rw [List.getLast?_append]
  rfl

theorem jsonString_line (s : List Char) :
    '\n' ∉ jsonString s ∧ (jsonString s).getLast? ≠ some '\r' :=
  ⟨(jsonString_no_linebreak s).1, by rw [jsonString_getLast]; decide⟩

theorem dropWhile_ws_eq (l : List Char) (h : ∀ c, l.head? = some c → isJsonWs c = false) :
    l.dropWhile isJsonWs = l := by
  cases l with
  | nil => rfl
  | cons c cs => simp [h c rfl]

theorem trimJsonWs_eq (l : List Char) (h1 : ∀ c, l.head? = some c → isJsonWs c = false)
    (h2 : ∀ c, l.getLast? = some c → isJsonWs c = false) : trimJsonWs l = l := by
  unfold trimJsonWs
  rw [dropWhile_ws_eq l h1, dropWhile_ws_eq l.reverse (by simpa using h2), List.reverse_reverse]

theorem parseQuoted_jsonString (s : List Char) : parseQuoted (jsonString s) = some s := by
  simp only [jsonString, parseQuoted, List.reverse_append, List.reverse_cons, List.reverse_nil,
    List.nil_append, List.singleton_append, List.reverse_reverse]
  exact unescape_escape s

theorem parseJsonString_jsonString (s : List Char) : parseJsonString (jsonString s) = some s := by
  unfold parseJsonString
  rw [trimJsonWs_eq _ (by intro c h; simp [jsonString] at h; subst h; decide)
    (by intro c h; rw [jsonString_getLast] at h; cases h; decide)]
  exact parseQuoted_jsonString s

/-! ### a record that is a fixed skeleton around one string -/

theorem stripPrefix_append (p l : List Char) : stripPrefix p (p ++ l) = some l := by
  induction p with
  | nil => cases l <;> rfl
  | cons c cs ih => simp [stripPrefix, ih]

theorem stripSuffix_append (suf l : List Char) : stripSuffix suf (l ++ suf) = some l := by
  simp [stripSuffix, List.reverse_append, stripPrefix_append]

theorem frameSer_head (pre suf s : List Char) (c : Char)
    (hpre : ∀ c, pre.head? = some c → isJsonWs c = false)
    (h : (frameSer pre suf s).head? = some c) : isJsonWs c = false := by
  cases pre with
  | nil => simp [frameSer, jsonString] at h; subst h; decide
  | cons p ps => simp [frameSer] at h; subst h; exact hpre _ rfl

theorem frameSer_getLast (pre suf s : List Char) (c : Char)
    (hsuf : ∀ c, suf.getLast? = some c → isJsonWs c = false)
    (h : (frameSer pre suf s).getLast? = some c) : isJsonWs c = false := by
  rw [frameSer, List.getLast?_append, List.getLast?_append, jsonString_getLast] at h
  cases hs : suf.getLast? with
  | some x => rw [hs] at h; cases h; exact hsuf _ hs
  | none => rw [hs] at h; cases h; decide

theorem frameParse_frameSer (pre suf s : List Char)
    (hpre : ∀ c, pre.head? = some c → isJsonWs c = false)
    (hsuf : ∀ c, suf.getLast? = some c → isJsonWs c = false) :
    frameParse pre suf (frameSer pre suf s) = some s := by
  unfold frameParse
  rw [trimJsonWs_eq _ (fun c h => frameSer_head pre suf s c hpre h)
    (fun c h => frameSer_getLast pre suf s c hsuf h)]
  simp only [frameSer, stripPrefix_append, stripSuffix_append]
  exact parseQuoted_jsonString s

theorem frameSer_no_linebreak (pre suf s : List Char) (c : Char) (hc : c = '\n' ∨ c = '\r')
    (hpre : c ∉ pre) (hsuf : c ∉ suf) : c ∉ frameSer pre suf s := by
  have := jsonString_no_linebreak s
  have hj : c ∉ jsonString s := by rcases hc with rfl | rfl; exact this.1; exact this.2
  simp only [frameSer, List.mem_append, not_or]
  exact ⟨hpre, hj, hsuf⟩

/-! ### summary counters -/

section
variable {κ : Type} [DecidableEq κ]

theorem getCount_bump (k k' : κ) (m : List (κ × Nat)) :
    getCount k (bump k' m) = getCount k m + (if k' = k then 1 else 0) := by
  induction m with
  | nil => simp [bump, getCount]
  | cons p m ih =>
    obtain ⟨a, n⟩ := p
    by_cases h : a = k'
    · subst h
      by_cases h2 : a = k <;> simp [bump, getCount, h2]
    · by_cases h2 : a = k
      · subst h2
        have : ¬ k' = a := fun e => h e.symm
        simp [bump, getCount, h, this]
      · simp [bump, getCount, h, h2, ih]

theorem total_bump (k : κ) (m : List (κ × Nat)) : total (bump k m) = total m + 1 := by
  induction m with
  | nil => simp [bump, total]
  | cons p m ih =>
    obtain ⟨a, n⟩ := p
    by_cases h : a = k
    · simp [bump, total, h]; omega
    · simp only [bump, h, if_false]
      simp only [total, List.map_cons, List.sum_cons] at ih ⊢
      omega

theorem keys_bump (k : κ) (m : List (κ × Nat)) :
    (bump k m).map (·.1) = if k ∈ m.map (·.1) then m.map (·.1) else m.map (·.1) ++ [k] := by
  induction m with
  | nil => simp [bump]
  | cons p m ih =>
    obtain ⟨a, n⟩ := p
    by_cases h : a = k
    · subst h; simp [bump]
    · have h' : ¬ k = a := fun e => h e.symm
      simp only [bump, h, if_false, List.map_cons, ih, List.mem_cons, h', false_or]
      split <;> simp

theorem keyLaw_bump : KeyLaw (·.1) id fun (m : List (κ × Nat)) k => bump k m := fun m k =>
  ⟨fun h => (keys_bump k m).trans (if_pos h), fun h => (keys_bump k m).trans (if_neg h)⟩

theorem nodup_bump (k : κ) (m : List (κ × Nat)) (h : (m.map (·.1)).Nodup) :
    ((bump k m).map (·.1)).Nodup :=
  keyLaw_bump.nodup h k

theorem pos_bump (k : κ) (m : List (κ × Nat)) (h : ∀ p ∈ m, 0 < p.2) :
    ∀ p ∈ bump k m, 0 < p.2 := by
  induction m with
  | nil => simp [bump]
  | cons q m ih =>
    simp only [bump]
    split <;> simp only [List.forall_mem_cons] at h ⊢
    · exact ⟨Nat.succ_pos _, h.2⟩
    · exact ⟨h.1, ih h.2⟩

end

theorem getCount_bumpAll (w : List Char) (ws : List (List Char)) (m : List (List Char × Nat)) :
    getCount w (bumpAll ws m) = getCount w m + ws.count w := by
  induction ws generalizing m with
  | nil => simp [bumpAll]
  | cons x xs ih =>
    have := ih (bump x m)
    unfold bumpAll at this ⊢
    simp only [List.foldl_cons, this, getCount_bump, List.count_cons, beq_iff_eq]
    split <;> omega

theorem nodup_bumpAll (ws : List (List Char)) (m : List (List Char × Nat))
    (h : (m.map (·.1)).Nodup) : ((bumpAll ws m).map (·.1)).Nodup :=
  keyLaw_bump.nodup_foldl ws h

theorem summarizeFrom_append (s : Summary) (a b : List Rec) :
    summarizeFrom s (a ++ b) = summarizeFrom (summarizeFrom s a) b := by
  simp [summarizeFrom, List.foldl_append]

theorem summarizeFrom_cons (s : Summary) (r : Rec) (rs : List Rec) :
    summarizeFrom s (r :: rs) = summarizeFrom (s.step r) rs := rfl

theorem summarizeFrom_counter (f : Summary → Nat) (g : List Rec → Nat) (h0 : g [] = 0)
    (hstep : ∀ s r rs, f (s.step r) + g rs = f s + g (r :: rs)) (rs : List Rec) :
    ∀ s, f (summarizeFrom s rs) = f s + g rs := by
  induction rs with
  | nil => intro s; rw [h0]; rfl
  | cons r rs ih => intro s; rw [summarizeFrom_cons, ih, hstep]

theorem summarizeFrom_total (rs : List Rec) (s : Summary) :
    (summarizeFrom s rs).totalApplied = s.totalApplied + rs.countP isLint := by
  refine summarizeFrom_counter (·.totalApplied) (·.countP isLint) rfl (fun s r rs => ?_) rs s
  cases r <;> simp [Summary.step, isLint, List.countP_cons] <;> omega

theorem summarizeFrom_count (k : Nat) (rs : List Rec) (s : Summary) :
    getCount k (summarizeFrom s rs).lintCounts = getCount k s.lintCounts + rs.countP (isLintOf k) := by
  refine summarizeFrom_counter (getCount k ·.lintCounts) (·.countP (isLintOf k)) rfl
    (fun s r rs => ?_) rs s
  cases r with
  | lint k' ws =>
    simp only [Summary.step, getCount_bump, isLintOf, List.countP_cons, decide_eq_true_eq]
    split <;> omega
  | configUpdate c => simp [Summary.step, isLintOf]

theorem summarizeFrom_sum (rs : List Rec) (s : Summary) :
    total (summarizeFrom s rs).lintCounts = total s.lintCounts + rs.countP isLint := by
  refine summarizeFrom_counter (total ·.lintCounts) (·.countP isLint) rfl (fun s r rs => ?_) rs s
  cases r with
  | lint k' ws => simp only [Summary.step, total_bump, isLint, List.countP_cons]; simp; omega
  | configUpdate c => simp [Summary.step, isLint]

theorem summarizeFrom_misspelled (w : List Char) (rs : List Rec) (s : Summary) :
    getCount w (summarizeFrom s rs).misspelled
      = getCount w s.misspelled + (rs.map (unknownOcc w)).sum := by
  refine summarizeFrom_counter (getCount w ·.misspelled) (fun rs => (rs.map (unknownOcc w)).sum) rfl
    (fun s r rs => ?_) rs s
  cases r with
  | lint k' ws =>
    simp only [Summary.step, getCount_bumpAll, unknownOcc, List.map_cons, List.sum_cons]; omega
  | configUpdate c => simp [Summary.step, unknownOcc]

theorem summarizeFrom_nodup (rs : List Rec) : ∀ s : Summary,
    (s.lintCounts.map (·.1)).Nodup → (s.misspelled.map (·.1)).Nodup →
    ((summarizeFrom s rs).lintCounts.map (·.1)).Nodup ∧
    ((summarizeFrom s rs).misspelled.map (·.1)).Nodup := by
  induction rs with
  | nil => intro s h1 h2; exact ⟨h1, h2⟩
  | cons r rs ih =>
    intro s h1 h2
    cases r with
    | lint k ws => exact ih _ (nodup_bump k _ h1) (nodup_bumpAll ws _ h2)
    | configUpdate c => exact ih _ h1 h2

theorem summarizeFrom_config (rs : List Rec) : ∀ s : Summary,
    (summarizeFrom s rs).finalConfig = lastConfig s.finalConfig rs := by
  induction rs with
  | nil => intro s; rfl
  | cons r rs ih => intro s; rw [summarizeFrom_cons, ih]; cases r <;> rfl

end Harper.Stats
