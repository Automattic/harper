import Harper.Lemmas.DocAppend
/-! Shape facts about the tokens of a `Document`: quote twins, `Space` tokens, number suffixes. -/
namespace Harper

/-! # `match_quotes`: twins point at each other -/

theorem setTwins_getElem (tab : List (Nat × Nat)) : ∀ (toks : List Tok) (s i : Nat) (t : Tok),
    toks[i]? = some t → (setTwins tab s toks)[i]? = some (twinOf tab (s + i) t) := by
  intro toks
  induction toks with
  | nil => intro s i t h; simp at h
  | cons a r ih =>
    intro s i t h
    rw [setTwins_cons]
    cases i with
    | zero =>
      simp only [List.getElem?_cons_zero, Option.some.injEq] at h
      subst h
      simp
    | succ i =>
      simp only [List.getElem?_cons_succ] at h
      have := ih (s + 1) i t h
      simp only [List.getElem?_cons_succ]
      rw [this, show s + 1 + i = s + (i + 1) by omega]

theorem setTwins_length (tab : List (Nat × Nat)) (toks : List Tok) (s : Nat) :
    (setTwins tab s toks).length = toks.length := by
  induction toks generalizing s with
  | nil => rfl
  | cons a r ih => rw [setTwins_cons]; simp [ih]

theorem mem_quoteIdx (toks : List Tok) (s j : Nat) :
    j ∈ quoteIdx s toks ↔ ∃ i t, j = s + i ∧ toks[i]? = some t ∧ t.kind.isQuote = true := by
  induction toks generalizing s with
  | nil => simp [quoteIdx]
  | cons a r ih =>
    simp only [quoteIdx]
    constructor
    · intro h
      split at h
      · rcases List.mem_cons.mp h with rfl | h
        · exact ⟨0, a, rfl, rfl, by assumption⟩
        · obtain ⟨i, t, rfl, h1, h2⟩ := (ih (s + 1)).mp h
          exact ⟨i + 1, t, by omega, h1, h2⟩
      · obtain ⟨i, t, rfl, h1, h2⟩ := (ih (s + 1)).mp h
        exact ⟨i + 1, t, by omega, h1, h2⟩
    · rintro ⟨i, t, rfl, h1, h2⟩
      cases i with
      | zero =>
        simp only [List.getElem?_cons_zero, Option.some.injEq] at h1
        subst h1
        simp [h2]
      | succ i =>
        simp only [List.getElem?_cons_succ] at h1
        have : s + (i + 1) ∈ quoteIdx (s + 1) r := (ih (s + 1)).mpr ⟨i, t, by omega, h1, h2⟩
        split
        · exact List.mem_cons_of_mem _ this
        · exact this

theorem quoteIdx_sorted (toks : List Tok) (s : Nat) :
    (quoteIdx s toks).Pairwise (· < ·) ∧ ∀ j ∈ quoteIdx s toks, s ≤ j := by
  induction toks generalizing s with
  | nil => simp [quoteIdx]
  | cons a r ih =>
    obtain ⟨h1, h2⟩ := ih (s + 1)
    simp only [quoteIdx]
    split
    · refine ⟨List.pairwise_cons.mpr ⟨fun j hj => by have := h2 j hj; omega, h1⟩, ?_⟩
      intro j hj
      rcases List.mem_cons.mp hj with rfl | hj
      · omega
      · have := h2 j hj; omega
    · exact ⟨h1, fun j hj => by have := h2 j hj; omega⟩

/-- the pairing table of a strictly increasing list of indices is symmetric -/
theorem twinTable_symm : ∀ (qs : List Nat), qs.Pairwise (· < ·) → ∀ i j, (twinTable qs).lookup i = some j →
    (twinTable qs).lookup j = some i ∧ i ∈ qs ∧ j ∈ qs ∧ i ≠ j
  | [], _, i, j, h => by simp [twinTable] at h
  | [a], _, i, j, h => by simp [twinTable] at h
  | a :: b :: r, hs, i, j, h => by
    have hab : a < b := (List.pairwise_cons.mp hs).1 b (by simp)
    have hr : r.Pairwise (· < ·) := (List.pairwise_cons.mp (List.pairwise_cons.mp hs).2).2
    have hbr : ∀ x ∈ r, b < x := (List.pairwise_cons.mp (List.pairwise_cons.mp hs).2).1
    simp only [twinTable, List.lookup_cons] at h ⊢
    by_cases hia : i = a
    · subst hia
      simp only [beq_self_eq_true, Option.some.injEq] at h
      subst h
      have : (b == i) = false := by simp; omega
      simp [this]; omega
    · have h1 : (i == a) = false := by simp [hia]
      rw [h1] at h
      by_cases hib : i = b
      · subst hib
        simp only [beq_self_eq_true, Option.some.injEq] at h
        subst h
        simp; omega
      · have h2 : (i == b) = false := by simp [hib]
        rw [h2] at h
        obtain ⟨e1, e2, e3, e4⟩ := twinTable_symm r hr i j h
        have hja : (j == a) = false := by have := hbr j e3; simp; omega
        have hjb : (j == b) = false := by have := hbr j e3; simp; omega
        rw [hja, hjb]
        exact ⟨e1, by simp [e2], by simp [e3], e4⟩

/-- the last quotation mark of an odd number of them has no partner -/
theorem twinTable_odd_last : ∀ (qs : List Nat), qs.Pairwise (· < ·) → qs.length % 2 = 1 →
    ∀ q, qs.getLast? = some q → (twinTable qs).lookup q = none
  | [], _, h, _, _ => by simp at h
  | [a], _, _, q, _ => by simp [twinTable]
  | a :: b :: r, hs, hodd, q, hq => by
    have hr : r.Pairwise (· < ·) := (List.pairwise_cons.mp (List.pairwise_cons.mp hs).2).2
    have hbr : ∀ x ∈ r, b < x := (List.pairwise_cons.mp (List.pairwise_cons.mp hs).2).1
    have hab : a < b := (List.pairwise_cons.mp hs).1 b (by simp)
    have hne : r ≠ [] := by intro e; subst e; simp at hodd
    have hq' : r.getLast? = some q := by
      rw [List.getLast?_cons_cons, List.getLast?_cons_of_ne_nil hne] at hq
      · exact hq
    have hqr : q ∈ r := List.mem_of_getLast? hq'
    have := hbr q hqr
    simp only [twinTable, List.lookup_cons]
    have h1 : (q == a) = false := by simp; omega
    have h2 : (q == b) = false := by simp; omega
    rw [h1, h2]
    exact twinTable_odd_last r hr (by simp at hodd; omega) q hq'

theorem fresh_quote {toks : List Tok} (hf : Fresh toks) {t : Tok} (ht : t ∈ toks) (hq : t.kind.isQuote = true) :
    t.kind = .quote none := by
  cases hk : t.kind with
  | quote tw =>
    cases tw with
    | none => rfl
    | some x => exact absurd hk (hf t ht x)
  | _ => rw [hk] at hq; cases hq

/-- a quote token's twin is a quote token whose twin is the first one -/
theorem matchQuotes_twin (toks : List Tok) (hf : Fresh toks) (i j : Nat) (t : Tok)
    (h : (matchQuotes toks)[i]? = some t) (hk : t.kind = .quote (some j)) :
    ∃ u, (matchQuotes toks)[j]? = some u ∧ u.kind = .quote (some i) ∧ i ≠ j := by
  unfold matchQuotes at h ⊢
  have hi : i < toks.length := by
    have := (List.getElem?_eq_some_iff.mp h).1
    rwa [setTwins_length] at this
  have h0 : toks[i]? = some toks[i] := List.getElem?_eq_getElem hi
  rw [setTwins_getElem _ _ 0 i _ h0, Nat.zero_add] at h
  simp only [Option.some.injEq] at h
  have hmem : toks[i] ∈ toks := List.getElem_mem hi
  -- the token at `i` is a quote that was given the twin `j`
  have hl : (twinTable (quoteIdx 0 toks)).lookup i = some j := by
    unfold twinOf at h
    split at h
    · rename_i j' _ hl
      rw [← h] at hk
      simp only [Kind.quote.injEq, Option.some.injEq] at hk
      rw [← hk]; exact hl
    · rw [h] at hmem
      exact absurd hk (hf t hmem j)
  obtain ⟨hs, _, hjq, hne⟩ := twinTable_symm _ (quoteIdx_sorted toks 0).1 i j hl
  obtain ⟨jj, u0, rfl, hu0, huq⟩ := (mem_quoteIdx toks 0 j).mp hjq
  rw [Nat.zero_add] at hs hne ⊢
  refine ⟨twinOf _ jj u0, by rw [setTwins_getElem _ _ 0 jj _ hu0, Nat.zero_add], ?_, hne⟩
  have hu0k := fresh_quote hf (List.mem_of_getElem? hu0) huq
  simp [twinOf, hu0k, hs]

/-- of an odd number of quotation marks the last one has no twin -/
theorem matchQuotes_unpaired (toks : List Tok) (hf : Fresh toks) (q : Nat)
    (hodd : (quoteIdx 0 toks).length % 2 = 1) (hq : (quoteIdx 0 toks).getLast? = some q) :
    ∃ t, (matchQuotes toks)[q]? = some t ∧ t.kind = .quote none := by
  have hmem : q ∈ quoteIdx 0 toks := List.mem_of_getLast? hq
  obtain ⟨qq, t0, rfl, ht0, htq⟩ := (mem_quoteIdx toks 0 q).mp hmem
  have hnone := twinTable_odd_last _ (quoteIdx_sorted toks 0).1 hodd _ hq
  have hk := fresh_quote hf (List.mem_of_getElem? ht0) htq
  unfold matchQuotes
  rw [Nat.zero_add] at hnone ⊢
  refine ⟨twinOf _ qq t0, by rw [setTwins_getElem _ _ 0 qq _ ht0, Nat.zero_add], ?_⟩
  simp [twinOf, hk, hnone]

/-- `match_quotes` touches nothing but the twin of quote tokens -/
theorem matchQuotes_other (toks : List Tok) (i : Nat) (t : Tok) (h : toks[i]? = some t) (hq : t.kind.isQuote = false) :
    (matchQuotes toks)[i]? = some t := by
  unfold matchQuotes
  rw [setTwins_getElem _ _ 0 i _ h, twinOf_of_not_quote _ _ hq]

/-- the tokens `Document::parse` hands to `match_quotes` carry no twin yet -/
theorem document_prequotes (cls : Cls) (ext : Ext) (src : List Char) (out : List Tok)
    (h : document cls ext src = .ok out) : ∃ t8, Fresh t8 ∧ out = matchQuotes t8 := by
  cases hp : parsePlain cls ext src with
  | error e => simp [document, hp] at h
  | ok t0 =>
    rw [document_eq cls ext src t0 hp] at h
    obtain ⟨t8, h8, rfl⟩ := Except.map_eq_ok h
    exact ⟨t8, prePasses_fresh h8 (parsePlain_fresh cls ext src t0 hp), rfl⟩

/-! # tokens that survive the passes unchanged -/

/-- every token of `out` is a token of `inp`, or is of a kind `p` rejects -/
def KeptOr (p : Kind → Bool) (out inp : List Tok) : Prop := ∀ t ∈ out, t ∈ inp ∨ p t.kind = false

theorem KeptOr.refl (p : Kind → Bool) (l : List Tok) : KeptOr p l l := fun _ ht => Or.inl ht

/-- a kind predicate that rejects everything the passes write rejects every written token -/
theorem DocWrites.rejects {p : Kind → Bool} (hw : ∀ k, k.isWord = true → p k = false) (hs : ∀ n, p (.space n) = false)
    (hn : ∀ n, p (.newline n) = false) (hb : p .paragraphBreak = false) (hnum : ∀ r s, p (.number r s) = false)
    (hq : ∀ tw, p (.quote tw) = false) (hell : p (.punct .Ellipsis) = false) {src : List Char} {blk : List Tok} {t : Tok}
    (hW : DocWrites IsWordTok src blk t) : p t.kind = false := by
  rcases hW with hW | hW
  · cases hW with
    | spaces hW => cases hW; exact hs _
    | newlines hW => cases hW; exact hn _
    | breaks hW => obtain ⟨a, k, n, _, _, rfl⟩ := hW; exact hb
    | word hW => obtain ⟨first, tl, sp, h, _, _⟩ := hW; exact hw _ h
    | init hW => obtain ⟨a, b, h⟩ := hW; exact hw _ h
    | suffix hW =>
      obtain ⟨a, b, s, h⟩ := hW
      obtain ⟨r, e⟩ := setSuffix_number (suffixHit_eq_some h).1 s
      simp only [e]; exact hnum _ _
    | ellipsis hW => cases hW; exact hell
  · obtain ⟨a, k, tw, j, _, rfl⟩ := hW; exact hq _

/-! # `Space` tokens -/

/-- a `Space(m)` token covers only blanks and tabs, and `m` = blanks + 2·tabs -/
def SpanShape (src : List Char) (s : Span) (m : Nat) : Prop :=
  (∀ c ∈ (src.drop s.start).take (s.stop - s.start), c = ' ' ∨ c = '\t') ∧
    m = ((src.drop s.start).take (s.stop - s.start)).count ' ' +
      2 * ((src.drop s.start).take (s.stop - s.start)).count '\t'

def SpOK (src : List Char) (t : Tok) : Prop := ∀ m, t.kind = .space m → SpanShape src t.span m

theorem blankRun_shape (cs : List Char) (m : Nat) (h : BlankRun cs m) :
    (∀ c ∈ cs, c = ' ' ∨ c = '\t') ∧ m = cs.count ' ' + 2 * cs.count '\t' := by
  rcases h with ⟨h1, h2⟩ | ⟨h1, h2⟩
  · refine ⟨fun c hc => Or.inl (h1 c hc), ?_⟩
    have e1 : cs.count ' ' = cs.length := List.count_eq_length.mpr (fun c hc => (h1 c hc).symm)
    have e2 : cs.count '\t' = 0 := List.count_eq_zero.mpr (fun hc => by have := h1 _ hc; revert this; decide)
    omega
  · refine ⟨fun c hc => Or.inr (h1 c hc), ?_⟩
    have e1 : cs.count '\t' = cs.length := List.count_eq_length.mpr (fun c hc => (h1 c hc).symm)
    have e2 : cs.count ' ' = 0 := List.count_eq_zero.mpr (fun hc => by have := h1 _ hc; revert this; decide)
    omega

theorem span_concat (src : List Char) (a b c : Nat) (hab : a ≤ b) (hbc : b ≤ c) :
    (src.drop a).take (c - a) = (src.drop a).take (b - a) ++ (src.drop b).take (c - b) := by
  rw [show c - a = (b - a) + (c - b) by omega, List.take_add, List.drop_drop,
    show a + (b - a) = b by omega]

theorem spanShape_merge (src : List Char) (s c : Span) (n m : Nat) (hs : s.start ≤ s.stop) (hc : c.start ≤ c.stop)
    (hadj : s.stop = c.start) (h1 : SpanShape src s n) (h2 : SpanShape src c m) :
    SpanShape src ⟨s.start, c.stop⟩ (n + m) := by
  unfold SpanShape at *
  simp only
  rw [span_concat src s.start s.stop c.stop hs (by omega), hadj]
  rw [hadj] at h1
  refine ⟨?_, ?_⟩
  · intro x hx
    rcases List.mem_append.mp hx with h | h
    · exact h1.1 x h
    · exact h2.1 x h
  · rw [List.count_append, List.count_append]
    have := h1.2; have := h2.2
    omega

/-- the lexer's `Space` tokens have the shape, and its `Number` tokens carry no suffix -/
theorem parsePlain_shape {cls : Cls} {ext : Ext} {P : List Char} {toks : List Tok} (h : parsePlain cls ext P = .ok toks)
    {t : Tok} (ht : t ∈ toks) : SpOK P t ∧ (∀ r s, t.kind = .number r s → s = none) := by
  have hs := parsePlain_spec h ht
  refine ⟨fun m hm => ?_, fun r s hk => ?_⟩
  · rw [hm] at hs
    exact blankRun_shape _ m hs
  · rw [hk] at hs
    exact hs.1

/-! # number suffixes -/

/-- the last two characters under the token spell the suffix (one of the rows of `from_chars`) -/
def SuffixSpelled (src : List Char) (sp : Span) (s : Suffix) : Prop :=
  ∃ pre c1 c2, (src.drop sp.start).take (sp.stop - sp.start) = pre ++ [c1, c2] ∧ fromCharsRow c1 c2 = some s

/-- a suffixed `Number` token ends in its suffix letters -/
def NumOK (src : List Char) (t : Tok) : Prop := ∀ r s, t.kind = .number r (some s) → SuffixSpelled src t.span s

theorem suffixHit_spelled (src : List Char) (a b : Tok) (s : Suffix) (h : suffixHit src a b = .ok (some s)) :
    b.span.start ≤ b.span.stop ∧ SuffixSpelled src b.span s := by
  obtain ⟨_, _, hle, hlen, hf⟩ := suffixHit_eq_some h
  refine ⟨hle, ?_⟩
  unfold SuffixSpelled
  generalize hcs : (src.drop b.span.start).take (b.span.stop - b.span.start) = cs at hf
  have hlen2 : cs.length ≤ 2 := by rw [← hcs, List.length_take, hlen]; exact Nat.min_le_left _ _
  unfold fromChars at hf
  match cs, hf, hlen2 with
  | [c1, c2], hf, _ =>
    rw [if_neg (show ¬ [c1, c2].length < Tables.NumberSuffix.fromCharsMinLen from Nat.lt_irrefl 2)] at hf
    exact ⟨[], c1, c2, rfl, Except.ok.inj hf⟩
  | c1 :: c2 :: c3 :: rest, _, hl => simp at hl
  | [], hf, _ => rw [if_pos (show ([] : List Char).length < Tables.NumberSuffix.fromCharsMinLen from Nat.zero_lt_two)] at hf; cases hf
  | [c], hf, _ => rw [if_pos (show [c].length < Tables.NumberSuffix.fromCharsMinLen from Nat.one_lt_two)] at hf; cases hf

/-! # the shape facts for a whole `Document` -/

def ShapeOK (src : List Char) (l : List Tok) : Prop := ∀ t ∈ l, SpOK src t ∧ NumOK src t

theorem shapeOK_of_kind {src : List Char} {t : Tok} (h1 : t.kind.isSpace = false) (h2 : t.kind.isNumber = false) :
    SpOK src t ∧ NumOK src t :=
  ⟨fun m hm => (by rw [hm] at h1; cases h1), fun r s hk => (by rw [hk] at h2; cases h2)⟩

/-- `condense_spaces` adds up the counts of the adjacent blank tokens it merges, `condense_number_suffixes` puts the
suffix letters (adjacent, on tiling tokens) under the number; no other pass writes a `Space` or `Number` token -/
theorem shape_closed (src : List Char) : Closed (DocWrites IsWordTok src) fun l p q => Tiles l p q ∧ ShapeOK src l where
  cons := fun a l l' p q hl h =>
    have h' := hl _ ⟨h.1.2.2, fun t ht => h.2 t (List.mem_cons_of_mem _ ht)⟩
    ⟨⟨h.1.1, h.1.2.1, h'.1⟩, List.forall_mem_cons.mpr ⟨h.2 a List.mem_cons_self, h'.2⟩⟩
  write := fun blk t l p q hW h => by
    refine ⟨Tiles.docWrites.write _ _ _ _ _ hW h.1, List.forall_mem_cons.mpr ⟨?_, fun u hu => h.2 u (List.mem_append_right _ hu)⟩⟩
    have hword : ∀ k : Kind, k.isWord = true → SpOK src ⟨t.span, k⟩ ∧ NumOK src ⟨t.span, k⟩ := fun k hk =>
      shapeOK_of_kind (isWord_not_isSpace hk) (isWord_not_isNumber hk)
    rcases hW with hW | hW
    · cases hW with
      | spaces hW =>
        obtain ⟨a, b, n, m, ha, hb, hadj⟩ := hW
        have hb' : b.kind = .space m := spacesCfg_exact _ _ hb
        refine ⟨fun m' hm' => ?_, fun r s hk => nomatch hk⟩
        cases hm'
        exact spanShape_merge src a.span b.span n m (Nat.le_of_lt (h.1.pos a (by simp))) (Nat.le_of_lt (h.1.pos b (by simp)))
          (hadj rfl) ((h.2 a (by simp)).1 n ha) ((h.2 b (by simp)).1 m hb')
      | newlines hW => cases hW; exact shapeOK_of_kind rfl rfl
      | breaks hW => obtain ⟨a, k, n, _, _, rfl⟩ := hW; exact shapeOK_of_kind rfl rfl
      | word hW => obtain ⟨first, tl, sp, hw, _, _⟩ := hW; exact hword _ hw
      | init hW => obtain ⟨a, b, hw⟩ := hW; exact hword _ hw
      | suffix hW =>
        obtain ⟨a, b, s, hh⟩ := hW
        obtain ⟨r', er⟩ := setSuffix_number (suffixHit_eq_some hh).1 s
        refine ⟨fun m hm => (by simp only [er] at hm; cases hm), fun r s' hk => ?_⟩
        simp only [er, Kind.number.injEq, Option.some.injEq] at hk
        obtain ⟨_, rfl⟩ := hk
        obtain ⟨hb, pre', c1, c2, hc, hrow⟩ := suffixHit_spelled src a b s hh
        -- `a` and `b` are adjacent in the text
        obtain ⟨a1, a2, b1, _, _⟩ := h.1
        refine ⟨(src.drop a.span.start).take (a.span.stop - a.span.start) ++ pre', c1, c2, ?_, hrow⟩
        simp only
        rw [span_concat src a.span.start a.span.stop b.span.stop (by omega) (by omega), ← b1, hc]
        simp
      | ellipsis hW => cases hW; exact shapeOK_of_kind rfl rfl
    · obtain ⟨a, k, tw, j, _, rfl⟩ := hW; exact shapeOK_of_kind rfl rfl

-- the passes are kept opaque: see the section in `CondensePats.lean`
attribute [local irreducible] condenseSpaces condenseNewlines newlinesToBreaks dottedInitialisms matchQuotes in
theorem document_shape (cls : Cls) (ext : Ext) (src : List Char) (hext : ExtOK ext src.length) (out : List Tok)
    (h : document cls ext src = .ok out) : ShapeOK src out := by
  obtain ⟨t0, e0, hT0, _⟩ := parseLoop_tiles cls ext src.length hext (src.length + 1) 0 src (by omega) (by omega)
  have e0' : parsePlain cls ext src = .ok t0 := e0
  have hs0 : ShapeOK src t0 := by
    intro t ht
    obtain ⟨h1, h2⟩ := parsePlain_shape e0' ht
    exact ⟨h1, fun r s hk => by have := h2 r (some s) hk; cases this⟩
  obtain ⟨out', e, r⟩ := condenseAll_rewrites hT0.gap (Nat.le_refl _)
  simp only [document, e0', e, Except.ok.injEq] at h
  exact h ▸ (r.keeps (shape_closed src) 0 src.length ⟨hT0, hs0⟩).2

end Harper
