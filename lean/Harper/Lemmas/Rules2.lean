import Harper.Model.Rules2
import Harper.Lemmas.Rules
import Harper.Lemmas.RulesPattern
import Harper.Lemmas.Leaves
import Harper.Lemmas.Span
/-!
Closure lemmas for rule bodies (guards, `thenE`); for the per-token rules and LinkingVerbs of `Model/Rules2.lean`: locality, and
what a run returns (`…_out`; `…_ok` and `rule<X>_nf`, never `.outOfFuel`, are readings of it); `walkE_out`.
Whole-document rules: `Rules2Walk.lean`; pattern rules: `Rules2Pat.lean`.
-/
namespace Harper.Rules2
open Harper Harper.Chunks Harper.Rules Harper.Leaves

/-! ## kinds under `shiftTwin` -/

section kinds
variable (j : Nat) (k : Kind)
@[simp] theorem isHostname_shiftTwin : isHostname (shiftTwin j k) = isHostname k := shiftTwin_inv _ (fun _ _ => rfl) j k
@[simp] theorem isComma_shiftTwin : isComma (shiftTwin j k) = isComma k := shiftTwin_inv _ (fun _ _ => rfl) j k
end kinds

theorem shiftTwin_number (j r : Nat) (s : Option Suffix) : shiftTwin j (.number r s) = .number r s := rfl

/-! ## what is proved of every rule body, carried through its guards

A body is a cascade of guards `if c then .ok [] else …` around reads of the text
(`match e with | .error e => .error e | .ok x => …`), ending in `.ok [lint]` or in pushes one after the other (`thenE`).
Each of the two things proved of a body — what it returns (`Out`: no hang, no panic on good tokens, lints inside the text);
moved with its text it returns its lints moved — passes through a guard, a read and `thenE` by a lemma, so a proof takes a
case only where the body does. (`split` on a guard re-simplifies every guard nested below it, twice: on a cascade that
doubles with each level.) -/

section closure
variable {c : Prop} [Decidable c] {x x' : Except Panic (List RuleLint)} {n : Nat}

theorem _root_.Harper.Rules.Out.thenE {G : Prop} {Q : RuleLint → Prop} {a b : Except Panic (List RuleLint)}
    (ha : OutAll G Q a) (hb : OutAll G Q b) : OutAll G Q (thenE a b) := Out.append ha hb

/-- what `LintOK` is for a token's own span -/
theorem lintOK_tok {n : Nat} {t : Tok} {sg : List Sugg} {m a : Nat} (h : Within n t) : LintOK n ⟨t.span, sg, m, a⟩ :=
  within_le h

theorem shift_guard {j : Nat} (h : x' = x.map (shiftRLs j)) :
    (if c then .ok [] else x') = (if c then Except.ok [] else x).map (shiftRLs j) := ite_shift rfl h

theorem thenE_shift (k : Nat) (a b : Except Panic (List RuleLint)) :
    thenE (a.map (shiftRLs k)) (b.map (shiftRLs k)) = (thenE a b).map (shiftRLs k) := by
  cases a with
  | error e => rfl
  | ok x =>
    cases b with
    | error e => rfl
    | ok y => exact congrArg Except.ok (shiftRLs_append k x y).symm

end closure

/-! ## the per-token rules -/

theorem spelledNumbers_tokLocal (env : Env) : TokLocal (spelledNumbersTok env) where
  left := by
    intro P D t _ h
    simp only [spelledNumbersTok, textOf_left P D t.span h]
  right := by
    intro P D t j _
    simp only [spelledNumbersTok, shTok_kind, shTok_span, textOf_shift]
    cases hk : t.kind with
    | number r s =>
      cases s with
      | some s => rfl
      | none =>
        simp only [shiftTwin_number]
        cases env.numVal (textOf D t.span) with
        | nonInt => rfl
        | int n =>
          refine ite_shift ?_ rfl
          cases spellDigit n <;> rfl
    | quote q => cases q <;> rfl
    | _ => rfl

theorem spellDigit_isSome : ∀ n < 10, (spellDigit n).isSome = true := by decide

/-- SpelledNumbers never reads the text through a span (and `spell_out_number(..).unwrap()` is reached below 10 only):
on any token whatsoever it returns, and what it reports is the token -/
theorem spelledNumbersTok_out {G : Prop} (env : Env) (src : List Char) (t : Tok) :
    OutAll G (fun l => l.span = t.span) (spelledNumbersTok env src t) := by
  unfold spelledNumbersTok
  split
  · split
    · rename_i n _
      refine .ite' (fun hn => ?_) fun _ => .nil
      obtain ⟨s, hs⟩ := Option.isSome_iff_exists.mp (spellDigit_isSome n hn)
      rw [hs]
      exact .one rfl
    · exact .nil
  · exact .nil

theorem spelledNumbers_ok (env : Env) (n : Nat) (src : List Char) (t : Tok) (h : t.span.start ≤ t.span.stop ∧ t.span.stop ≤ n) :
    LintsOK n (spelledNumbersTok env src t) :=
  (spelledNumbersTok_out (G := True) env src t).lintsOK' trivial fun _ hl => show _ ∧ _ from hl ▸ h

theorem ruleSpelledNumbers_out {G : Prop} (env : Env) (src : List Char) (toks : List Tok) :
    OutAll G (fun l => ∃ t ∈ toks, l.span = t.span) (ruleSpelledNumbers env src toks) :=
  perTok_out_span fun t _ => spelledNumbersTok_out env src t

theorem capitalizePronoun_tokLocal : TokLocal capitalizePronounTok where
  left := by
    intro P D t _ h
    simp only [capitalizePronounTok, Span.getContent_append_left P D t.span h]
  right := by
    intro P D t j _
    simp only [capitalizePronounTok, shTok_kind, isWord_shiftTwin, shTok_span, getContent_shift']
    refine shift_guard ?_
    cases t.span.getContent D
    · rfl
    · exact ite_shift rfl rfl

theorem capitalizePronounTok_out (src : List Char) (t : Tok) : OutOK (TokIn src t) src.length (capitalizePronounTok src t) :=
  .guard (.content id fun _ _ => .ite (.one id) .nil)

theorem capitalizePronoun_ok (src : List Char) (t : Tok) (h : TokIn src t) : LintsOK src.length (capitalizePronounTok src t) :=
  (capitalizePronounTok_out src t).lintsOK h

theorem ruleCapitalizePersonalPronouns_out (env : Env) (src : List Char) (toks : List Tok) :
    OutOK (InText src toks) src.length (ruleCapitalizePersonalPronouns env src toks) :=
  collectE_out fun t ht => (capitalizePronounTok_out src t).mono fun g => g t ht

theorem avoidCurses_tokLocal (env : Env) : TokLocal (avoidCursesTok env) where
  left := by
    intro P D t _ h
    simp only [avoidCursesTok, hasFlag_left env P D t 18 h]
  right := by
    intro P D t j _
    simp only [avoidCursesTok, hasFlag_shift, shTok_span]
    exact ite_shift rfl rfl

/-- AvoidCurses never reads the text through a span -/
theorem avoidCursesTok_out {G : Prop} (env : Env) (src : List Char) (t : Tok) :
    OutAll G (fun l => l.span = t.span) (avoidCursesTok env src t) := .ite (.one rfl) .nil

theorem avoidCurses_ok (env : Env) (n : Nat) (src : List Char) (t : Tok) (h : t.span.start ≤ t.span.stop ∧ t.span.stop ≤ n) :
    LintsOK n (avoidCursesTok env src t) :=
  (avoidCursesTok_out (G := True) env src t).lintsOK' trivial fun _ hl => show _ ∧ _ from hl ▸ h

theorem ruleAvoidCurses_out {G : Prop} (env : Env) (src : List Char) (toks : List Tok) :
    OutAll G (fun l => ∃ t ∈ toks, l.span = t.span) (ruleAvoidCurses env src toks) :=
  perTok_out_span fun t _ => avoidCursesTok_out env src t

theorem wordPress_tokLocal (env : Env) : TokLocal (wordPressTok env) where
  left := by
    intro P D t _ h
    simp only [wordPressTok, Span.getContent_append_left P D t.span h]
  right := by
    intro P D t j _
    simp only [wordPressTok, shTok_kind, isHostname_shiftTwin, shTok_span, getContent_shift']
    refine shift_guard ?_
    cases t.span.getContent D
    · rfl
    · exact ite_shift rfl rfl

theorem wordPressTok_out (env : Env) (src : List Char) (t : Tok) : OutOK (TokIn src t) src.length (wordPressTok env src t) :=
  .guard (.content id fun _ _ => .ite (.one id) .nil)

theorem wordPress_ok (env : Env) (src : List Char) (t : Tok) (h : TokIn src t) : LintsOK src.length (wordPressTok env src t) :=
  (wordPressTok_out env src t).lintsOK h

theorem ruleWordPressDotcom_out (env : Env) (src : List Char) (toks : List Tok) :
    OutOK (InText src toks) src.length (ruleWordPressDotcom env src toks) :=
  collectE_out fun t ht => (wordPressTok_out env src t).mono fun g => g t ht

/-! ## LinkingVerbs -/

theorem linkingAt_shift (env : Env) (P D : List Char) (prev : Option Tok) (t : Tok) (j : Nat) :
    linkingAt env (P ++ D) (prev.map (shTok P.length j)) (shTok P.length j t) =
      (linkingAt env D prev t).map (shiftRLs P.length) := by
  simp only [linkingAt, hasFlag_shift, shTok_span, getContent_shift']
  refine ite_shift ?_ rfl
  cases prev with
  | none => rfl
  | some p =>
    simp only [Option.map_some, hasFlag_shift]
    refine ite_shift ?_ rfl
    cases t.span.getContent D <;> rfl

theorem linkingAt_left (env : Env) (P D : List Char) (prev : Option Tok) (t : Tok)
    (hp : ∀ p, prev = some p → p.span.stop ≤ P.length) (ht : t.span.stop ≤ P.length) :
    linkingAt env (P ++ D) prev t = linkingAt env P prev t := by
  simp only [linkingAt, hasFlag_left env P D t 11 ht, Span.getContent_append_left P D t.span ht]
  cases prev with
  | none => rfl
  | some p => simp only [hasFlag_left env P D p _ (hp p rfl)]

theorem linkingGo_cons (env : Env) (src : List Char) (prev : Option Tok) (t : Tok) (ts : List Tok) :
    linkingGo env src prev (t :: ts) =
      thenE (linkingAt env src prev t) (linkingGo env src (if t.kind.isWord then some t else prev) ts) := rfl

theorem linkingGo_shift (env : Env) (P D : List Char) (j : Nat) (ts : List Tok) (prev : Option Tok) :
    linkingGo env (P ++ D) (prev.map (shTok P.length j)) (ts.map (shTok P.length j)) =
      (linkingGo env D prev ts).map (shiftRLs P.length) := by
  induction ts generalizing prev with
  | nil => rfl
  | cons t ts ih =>
    have e : (if t.kind.isWord = true then some (shTok P.length j t) else prev.map (shTok P.length j)) =
        (if t.kind.isWord = true then some t else prev).map (shTok P.length j) := by
      split <;> rfl
    rw [List.map_cons, linkingGo_cons, linkingGo_cons, linkingAt_shift, shTok_kind, isWord_shiftTwin, e, ih, thenE_shift]

theorem linkingGo_left (env : Env) (P D : List Char) (ts : List Tok) (prev : Option Tok)
    (hp : ∀ p, prev = some p → p.span.stop ≤ P.length) (h : ∀ t ∈ ts, t.span.stop ≤ P.length) :
    linkingGo env (P ++ D) prev ts = linkingGo env P prev ts := by
  induction ts generalizing prev with
  | nil => rfl
  | cons t ts ih =>
    have ht := h t (by simp)
    rw [linkingGo_cons, linkingGo_cons, linkingAt_left env P D prev t hp ht, ih _ (by
      intro p hpp
      split at hpp
      · cases hpp; exact ht
      · exact hp p hpp) (fun u hu => h u (List.mem_cons_of_mem _ hu))]

/-- per chunk: the last word before each linking verb, its metadata, the verb's text -/
theorem linkingVerbs_xlocal (env : Env) : XLocalE (linkingVerbsPiece env) where
  nil := fun _ => rfl
  left := by
    intro P D piece h
    exact linkingGo_left env P D piece none (fun _ hp => by cases hp) (fun t ht => (h t ht).2)
  right := by
    intro P D piece j _
    exact linkingGo_shift env P D j piece none

theorem linkingAt_out (env : Env) (src : List Char) (prev : Option Tok) (t : Tok) :
    OutOK (TokIn src t) src.length (linkingAt env src prev t) := by
  unfold linkingAt
  refine .ite ?_ .nil
  cases prev with
  | none => exact .nil
  | some p => exact .ite (.content id fun _ _ => .one id) .nil

/-- the loop only remembers the last word token: no token order is needed -/
theorem linkingGo_out (env : Env) (src : List Char) : ∀ (ts : List Tok) (prev : Option Tok),
    OutOK (InText src ts) src.length (linkingGo env src prev ts)
  | [], _ => .nil
  | t :: ts, prev => linkingGo_cons env src prev t ts ▸
    .thenE ((linkingAt_out env src prev t).mono fun h => h t List.mem_cons_self)
      ((linkingGo_out env src ts _).mono fun h u hu => h u (List.mem_cons_of_mem _ hu))

theorem linkingVerbs_ok (env : Env) (src : List Char) (chunk : List Tok) (h : InText src chunk) :
    LintsOK src.length (linkingVerbsPiece env src chunk) := (linkingGo_out env src chunk none).lintsOK h

theorem ruleLinkingVerbs_out (env : Env) (src : List Char) (toks : List Tok) :
    OutOK (InText src toks) src.length (ruleLinkingVerbs env src toks) :=
  collectE_out fun chunk hc => (linkingGo_out env src chunk none).mono fun g t ht => g t (split_mem _ _ chunk hc t ht)

/-! ## rules that index the whole document -/

theorem walkE_step (g : List Tok → List Tok → Except Panic (List RuleLint)) (pre : List Tok) (t : Tok) (ts : List Tok) :
    walkE g pre (t :: ts) = thenE (g pre (t :: ts)) (walkE g (t :: pre) ts) := rfl

/-- at every position the document is `pre.reverse ++ suf`: what is assumed of it is assumed of each window -/
theorem walkE_out {n : Nat} {H : List Tok → Prop} (g : List Tok → List Tok → Except Panic (List RuleLint))
    (hg : ∀ pre suf, OutOK (H (pre.reverse ++ suf)) n (g pre suf)) :
    ∀ (suf pre : List Tok), OutOK (H (pre.reverse ++ suf)) n (walkE g pre suf)
  | [], _ => .nil
  | t :: ts, pre => walkE_step g pre t ts ▸ .thenE (hg pre _)
      (by simpa only [List.reverse_cons, List.append_assoc, List.singleton_append] using walkE_out g hg ts (t :: pre))

/-! ## never out of fuel: the per-token rules and LinkingVerbs (the other eight: with their bodies) -/

variable (env : Env) (src : List Char) (toks : List Tok)

theorem ruleSpelledNumbers_nf : ruleSpelledNumbers env src toks ≠ .error .outOfFuel :=
  (ruleSpelledNumbers_out (G := True) env src toks).nf

theorem ruleCapitalizePersonalPronouns_nf : ruleCapitalizePersonalPronouns env src toks ≠ .error .outOfFuel :=
  (ruleCapitalizePersonalPronouns_out env src toks).nf

theorem ruleAvoidCurses_nf : ruleAvoidCurses env src toks ≠ .error .outOfFuel := (ruleAvoidCurses_out (G := True) env src toks).nf

theorem ruleWordPressDotcom_nf : ruleWordPressDotcom env src toks ≠ .error .outOfFuel := (ruleWordPressDotcom_out env src toks).nf

theorem ruleLinkingVerbs_nf : ruleLinkingVerbs env src toks ≠ .error .outOfFuel := (ruleLinkingVerbs_out env src toks).nf

end Harper.Rules2
