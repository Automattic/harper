import Harper.Model.Server
/-! # Lemmas for C09: big-step forms of the handlers, the invariant of sequential histories, and the
bridge `runMacro (seqActs …) = seqRun` (`solo_run`, `macro_handle`, `macro_is_seq`) -/
namespace Harper.Server

/-! ## effect of one update + publication -/

/-- `update_document(u, t, lang)` + `publish_diagnostics(u)` of a handler running alone -/
def updPub (ck : CfgV) (s : State) (t : Text) (u : Url) (lang : Option Lang) : State :=
  lintSendDoc (replaceDoc { s with config := ck } ck s.userDict (s.fileDict u) t u lang) ck u

/-- `update_document_from_file(u)` + `publish_diagnostics(u)` of a handler running alone -/
def rereadPub (ck : CfgV) (s : State) (u : Url) : State :=
  match s.disk u with
  | none => lintSendDoc s s.config u
  | some t => updPub ck s t u none

/-- the files are untouched -/
structure Same (a b : State) : Prop where
  disk : a.disk = b.disk
  userDict : a.userDict = b.userDict
  fileDict : a.fileDict = b.fileDict

theorem setF_same {α} (f : Url → α) (u : Url) (a : α) : setF f u a u = a := by simp [setF]
theorem setF_other {α} (f : Url → α) (u v : Url) (a : α) (h : v ≠ u) : setF f u a v = f v := by
  simp [setF, h]

/-- what `generate_diagnostics` publishes for what `doc_state` holds of a URL -/
def outOf (sev : CfgV) : Option Doc → Out
  | none => .empty
  | some d => .diag (pubOf d sev)

theorem lintSendDoc_eq (s : State) (sev : CfgV) (u : Url) :
    lintSendDoc s sev u = publish s u (outOf sev (s.docs u)) := by
  unfold lintSendDoc
  cases s.docs u <;> rfl

structure Off (u : Url) (s' s : State) : Prop extends Same s' s where
  others : ∀ v, v ≠ u → s'.docs v = s.docs v ∧ s'.outbox v = s.outbox v

theorem lintSendDoc_frame (s : State) (sev : CfgV) (u : Url) :
    (lintSendDoc s sev u).config = s.config ∧ Off u (lintSendDoc s sev u) s ∧
    (lintSendDoc s sev u).docs = s.docs ∧ (lintSendDoc s sev u).outbox u = outOf sev (s.docs u) := by
  rw [lintSendDoc_eq]
  exact ⟨rfl, ⟨⟨rfl, rfl, rfl⟩, fun v hv => ⟨rfl, setF_other _ _ _ _ hv⟩⟩, rfl, setF_same _ _ _⟩

theorem replaceDoc_frame (s : State) (rcfg : CfgV) (du df : List Word) (t : Text) (u : Url)
    (lang : Option Lang) :
    (replaceDoc s rcfg du df t u lang).config = s.config ∧ Same (replaceDoc s rcfg du df t u lang) s ∧
    (replaceDoc s rcfg du df t u lang).outbox = s.outbox ∧
    ∀ v, v ≠ u → (replaceDoc s rcfg du df t u lang).docs v = s.docs v := by
  unfold replaceDoc
  simp only []
  split
  · exact ⟨rfl, ⟨rfl, rfl, rfl⟩, rfl, fun _ _ => rfl⟩
  · split <;> exact ⟨rfl, ⟨rfl, rfl, rfl⟩, rfl, fun v hv => setF_other _ _ _ _ hv⟩

theorem replaceDoc_config (s : State) (rcfg : CfgV) (du df : List Word) (t : Text) (u : Url)
    (lang : Option Lang) : (replaceDoc s rcfg du df t u lang).config = s.config :=
  (replaceDoc_frame s rcfg du df t u lang).1

theorem updPub_docs (ck : CfgV) (s : State) (t : Text) (u : Url) (lang : Option Lang) :
    (updPub ck s t u lang).docs
      = (replaceDoc { s with config := ck } ck s.userDict (s.fileDict u) t u lang).docs := by
  rw [updPub, lintSendDoc_eq]; rfl

theorem updPub_frame (ck : CfgV) (s : State) (t : Text) (u : Url) (lang : Option Lang) :
    (updPub ck s t u lang).config = ck ∧ Off u (updPub ck s t u lang) s ∧
    (updPub ck s t u lang).outbox u = outOf ck ((updPub ck s t u lang).docs u) := by
  obtain ⟨h1, h2, h3, h4⟩ := replaceDoc_frame { s with config := ck } ck s.userDict (s.fileDict u) t u lang
  rw [updPub, lintSendDoc_eq]
  exact ⟨h1, ⟨⟨h2.disk, h2.userDict, h2.fileDict⟩,
    fun v hv => ⟨h4 v hv, (setF_other _ _ _ _ hv).trans (congrFun h3 v)⟩⟩, setF_same _ _ _⟩

theorem rereadPub_frame (ck : CfgV) (s : State) (u : Url) :
    Off u (rereadPub ck s u) s ∧ (s.config = ck → (rereadPub ck s u).config = ck ∧
      (rereadPub ck s u).outbox u = outOf ck ((rereadPub ck s u).docs u)) := by
  unfold rereadPub
  split
  · obtain ⟨h1, h2, h3, h4⟩ := lintSendDoc_frame s s.config u
    exact ⟨h2, fun hk => ⟨h1.trans hk, by rw [h4, h3, hk]⟩⟩
  · exact ⟨(updPub_frame _ _ _ _ _).2.1, fun _ => ⟨(updPub_frame _ _ _ _ _).1, (updPub_frame _ _ _ _ _).2.2⟩⟩

/-! ## `runSeq`, `pullsRun`, `pullCount` one segment at a time -/

/-- the number of configuration requests a handler running alone really sends (`runSeq`'s recursion,
counting) -/
def pullsRun (ck : CfgV) : State → Regs → List Seg → Nat
  | _, _, [] => 0
  | s, r, seg :: rest =>
    if r.skip > 0 then pullsRun ck s { r with skip := r.skip - 1 } rest
    else match seg with
      | .pull => pullsRun ck s { r with reply := ck } rest + 1
      | seg => pullsRun ck (step s r seg).1 (step s r seg).2 rest

theorem runSeq_skip (ck : CfgV) (s : State) (r : Regs) (seg : Seg) (rest : List Seg) (h : r.skip > 0) :
    runSeq ck s r (seg :: rest) = runSeq ck s { r with skip := r.skip - 1 } rest := by
  by_cases hp : seg = .pull
  · rw [hp, runSeq.eq_2, if_pos h]
  · rw [runSeq.eq_3 _ _ _ _ _ hp, if_pos h]

theorem runSeq_pull (ck : CfgV) (s : State) (r : Regs) (rest : List Seg) (h : ¬ r.skip > 0) :
    runSeq ck s r (.pull :: rest) = runSeq ck s { r with reply := ck } rest := by
  rw [runSeq.eq_2, if_neg h]

theorem runSeq_step (ck : CfgV) (s : State) (r : Regs) (seg : Seg) (rest : List Seg) (h : ¬ r.skip > 0)
    (hp : seg ≠ .pull) :
    runSeq ck s r (seg :: rest) = runSeq ck (step s r seg).1 (step s r seg).2 rest := by
  rw [runSeq.eq_3 _ _ _ _ _ hp, if_neg h]

theorem pullsRun_skip (ck : CfgV) (s : State) (r : Regs) (seg : Seg) (rest : List Seg) (h : r.skip > 0) :
    pullsRun ck s r (seg :: rest) = pullsRun ck s { r with skip := r.skip - 1 } rest := by
  by_cases hp : seg = .pull
  · rw [hp, pullsRun.eq_2, if_pos h]
  · rw [pullsRun.eq_3 _ _ _ _ _ hp, if_pos h]

theorem pullsRun_pull (ck : CfgV) (s : State) (r : Regs) (rest : List Seg) (h : ¬ r.skip > 0) :
    pullsRun ck s r (.pull :: rest) = pullsRun ck s { r with reply := ck } rest + 1 := by
  rw [pullsRun.eq_2, if_neg h]

theorem pullsRun_step (ck : CfgV) (s : State) (r : Regs) (seg : Seg) (rest : List Seg) (h : ¬ r.skip > 0)
    (hp : seg ≠ .pull) :
    pullsRun ck s r (seg :: rest) = pullsRun ck (step s r seg).1 (step s r seg).2 rest := by
  rw [pullsRun.eq_3 _ _ _ _ _ hp, if_neg h]

theorem pullCount_pull (rest : List Seg) : pullCount (.pull :: rest) = pullCount rest + 1 := rfl

theorem pullCount_ne (seg : Seg) (rest : List Seg) (hp : seg ≠ .pull) :
    pullCount (seg :: rest) = pullCount rest :=
  pullCount.eq_3 seg rest hp


theorem pullsRun_le (ck : CfgV) : ∀ (segs : List Seg) (s : State) (r : Regs),
    pullsRun ck s r segs ≤ pullCount segs := by
  intro segs
  induction segs with
  | nil => intro s r; exact Nat.le_refl 0
  | cons seg rest ih =>
    intro s r
    by_cases hp : seg = .pull
    · subst hp
      rw [pullCount_pull]
      by_cases hs : r.skip > 0
      · rw [pullsRun_skip _ _ _ _ _ hs]; exact Nat.le_succ_of_le (ih _ _)
      · rw [pullsRun_pull _ _ _ _ hs]; exact Nat.succ_le_succ (ih _ _)
    · rw [pullCount_ne _ _ hp]
      by_cases hs : r.skip > 0
      · rw [pullsRun_skip _ _ _ _ _ hs]; exact ih _ _
      · rw [pullsRun_step _ _ _ _ _ hs hp]; exact ih _ _

/-! ## the handlers as big steps -/

theorem run_update (ck : CfgV) (s : State) (r : Regs) (t : Text) (u : Url) (lang : Option Lang)
    (rest : List Seg) (hr : r.skip = 0) (ht : r.txt = some t) :
    ∃ r', r'.skip = 0 ∧
      runSeq ck s r (update u lang ++ publishSegs u ++ rest) = runSeq ck (updPub ck s t u lang) r' rest ∧
      pullsRun ck s r (update u lang ++ publishSegs u ++ rest)
        = pullsRun ck (updPub ck s t u lang) r' rest + 1 := by
  refine ⟨{ r with reply := ck, rcfg := ck, du := s.userDict, df := s.fileDict u, sev := ck }, hr, ?_, ?_⟩
  · simp [update, publishSegs, runSeq, step, hr, ht, updPub, replaceDoc_config]
  · simp [update, publishSegs, pullsRun, step, hr, ht, updPub, replaceDoc_config]

theorem run_reread (ck : CfgV) (s : State) (r : Regs) (u : Url) (rest : List Seg) (hr : r.skip = 0) :
    ∃ r', r'.skip = 0 ∧
      runSeq ck s r (rereadAndPublish u ++ rest) = runSeq ck (rereadPub ck s u) r' rest ∧
      pullsRun ck s r (rereadAndPublish u ++ rest)
        = pullsRun ck (rereadPub ck s u) r' rest + (if (s.disk u).isSome then 1 else 0) := by
  have h0 : ¬ r.skip > 0 := by rw [hr]; exact Nat.lt_irrefl 0
  show ∃ r' : Regs, r'.skip = 0 ∧
    runSeq ck s r (.readDisk u 6 :: (update u none ++ publishSegs u ++ rest)) = _ ∧
    pullsRun ck s r (.readDisk u 6 :: (update u none ++ publishSegs u ++ rest)) = _
  rw [runSeq_step _ _ _ (.readDisk u 6) _ h0 nofun, pullsRun_step _ _ _ (.readDisk u 6) _ h0 nofun]
  unfold rereadPub
  cases h : s.disk u with
  | none =>
    refine ⟨{ r with skip := 0, sev := s.config }, rfl, ?_, ?_⟩
    · simp [update, publishSegs, runSeq, step, h]
    · simp [update, publishSegs, pullsRun, step, h]
  | some t =>
    have hst : step s r (.readDisk u 6) = (s, { r with txt := some t }) := by simp only [step, h]
    rw [hst]
    exact run_update ck s { r with txt := some t } t u none rest hr rfl

theorem run_rereads (ck : CfgV) (order : List Url) : ∀ (s : State) (r : Regs), r.skip = 0 →
    runSeq ck s r (order.flatMap rereadAndPublish) = order.foldl (rereadPub ck) s ∧
    pullsRun ck s r (order.flatMap rereadAndPublish) = order.countP fun u => (s.disk u).isSome := by
  induction order with
  | nil => intro s r _; exact ⟨rfl, rfl⟩
  | cons u us ih =>
    intro s r hr
    obtain ⟨r', hr', e1, e2⟩ := run_reread ck s r u (us.flatMap rereadAndPublish) hr
    have := ih (rereadPub ck s u) r' hr'
    rw [(rereadPub_frame ck s u).1.1.1] at this
    rw [List.flatMap_cons, e1, e2, this.1, this.2, List.countP_cons]
    exact ⟨rfl, rfl⟩

theorem handle_didOpen (ck : CfgV) (s : State) (u : Url) (l : Lang) (t : Text) :
    handle ck s (.didOpen u l t) = updPub ck s t u (some l) := by
  obtain ⟨r', _, e, _⟩ := run_update ck s { txt := some t } t u (some l) [] rfl rfl
  rw [List.append_nil] at e
  exact e

theorem handle_didChange (ck : CfgV) (s : State) (u : Url) (t : Text) :
    handle ck s (.didChange u t) = updPub ck s t u none := by
  obtain ⟨r', _, e, _⟩ := run_update ck s { txt := some t } t u none [] rfl rfl
  rw [List.append_nil] at e
  exact e

theorem handle_didSave (ck : CfgV) (s : State) (u : Url) :
    handle ck s (.didSave u) = rereadPub ck s u := by
  obtain ⟨r', _, e, _⟩ := run_reread ck s {} u [] rfl
  rw [List.append_nil] at e
  exact e

/-- `did_change_configuration`, first two segments -/
def rebuild (k : CfgV) (s : State) (order : List Url) : State :=
  { s with config := k, docs := fun v => (s.docs v).map fun d => { d with lintCfg := k },
           badOrder := s.badOrder || !validOrder { s with config := k } order }

theorem handle_config (ck k : CfgV) (s : State) (order : List Url) :
    handle ck s (.didChangeConfiguration k order) = order.foldl (rereadPub ck) (rebuild k s order) :=
  (run_rereads ck order (rebuild k s order) {} rfl).1

theorem rebuild_docs (k : CfgV) (s : State) (order : List Url) (v : Url) :
    (rebuild k s order).docs v = (s.docs v).map fun d => { d with lintCfg := k } := rfl

theorem pullsRun_config (ck k : CfgV) (s : State) (order : List Url) :
    pullsRun ck s {} (prog (.didChangeConfiguration k order)).1 = order.countP fun u => (s.disk u).isSome :=
  (run_rereads ck order (rebuild k s order) {} rfl).2

theorem handle_addUser (ck : CfgV) (s : State) (w : Word) (u : Url) :
    handle ck s (.addUser w u) = rereadPub ck { s with userDict := addWord w s.userDict } u := by
  obtain ⟨r', _, e, _⟩ := run_reread ck { s with userDict := addWord w s.userDict } { du := s.userDict } u [] rfl
  rw [List.append_nil] at e
  show runSeq ck s {} (.loadUser :: .saveUser w :: rereadAndPublish u) = _
  rw [runSeq_step _ _ _ .loadUser _ (Nat.lt_irrefl 0) nofun, runSeq_step _ _ _ (.saveUser w) _ (Nat.lt_irrefl 0) nofun]
  exact e

theorem handle_addFile (ck : CfgV) (s : State) (w : Word) (u : Url) :
    handle ck s (.addFile w u) =
      rereadPub ck { s with fileDict := setF s.fileDict u (addWord w (s.fileDict u)) } u := by
  obtain ⟨r', _, e, _⟩ := run_reread ck { s with fileDict := setF s.fileDict u (addWord w (s.fileDict u)) }
    { df := s.fileDict u } u [] rfl
  rw [List.append_nil] at e
  show runSeq ck s {} (.loadFile u :: .saveFile u w :: rereadAndPublish u) = _
  rw [runSeq_step _ _ _ (.loadFile u) _ (Nat.lt_irrefl 0) nofun,
    runSeq_step _ _ _ (.saveFile u w) _ (Nat.lt_irrefl 0) nofun]
  exact e

theorem handle_didClose (ck : CfgV) (s : State) (u : Url) :
    handle ck s (.didClose u) = publish { s with docs := setF s.docs u none } u .empty := rfl

theorem handle_deleted (ck : CfgV) (s : State) (us : List Url) :
    handle ck s (.deleted us) = deleteDocs s us := rfl

theorem handle_ignore (ck : CfgV) (s : State) (u : Url) :
    handle ck s (.ignore u) =
      match s.docs u with
      | none => s
      | some d => lintSendDoc { s with docs := setF s.docs u (some { d with ignored := true }) } s.config u := by
  cases h : s.docs u <;> simp [handle, prog, publishSegs, runSeq, step, h]

theorem handle_noop (ck : CfgV) (s : State) : handle ck s .noop = s := rfl


/-! ## what an update leaves in `doc_state` -/

/-- an update without language id of a document the server does not hold keeps nothing -/
theorem updPub_absent (ck : CfgV) (s : State) (t : Text) (u : Url) (hd : s.docs u = none) :
    (updPub ck s t u none).docs u = none := by
  rw [updPub_docs]; simp [replaceDoc, hd]

/-- didOpen of a document the server does not hold: a brand-new `DocumentState` -/
theorem updPub_open (ck : CfgV) (s : State) (t : Text) (u : Url) (l : Lang)
    (hd : s.docs u = none) (hi : l = .ts → t.idents = 0) :
    (updPub ck s t u (some l)).docs u = if l = .unknown then none else some
      { text := t, lang := l, parseCfg := ck, lintCfg := ck, dictUser := s.userDict,
        dictFile := s.fileDict u, dictIdent := none, identDict := 0, ignored := false } := by
  rw [updPub_docs]
  cases l <;> simp_all [replaceDoc, dictDiffers, setF_same]

/-- update of a document the server holds, whose linter was built with `ck` -/
theorem updPub_held (ck : CfgV) (s : State) (t : Text) (u : Url) (lang : Option Lang) (d : Doc)
    (hd : s.docs u = some d) (h1 : d.dictIdent = none) (h2 : d.identDict = 0) (h3 : d.lintCfg = ck)
    (h4 : d.lang ≠ .unknown) (hi : d.lang = .ts → t.idents = 0) :
    (updPub ck s t u lang).docs u
      = some { d with text := t, parseCfg := ck, dictUser := s.userDict, dictFile := s.fileDict u } := by
  -- whether or not the dictionaries differ, the document ends up with the loaded ones
  have hadj : (if dictDiffers d s.userDict (s.fileDict u) = true then
        { d with dictUser := s.userDict, dictFile := s.fileDict u, dictIdent := none, lintCfg := ck } else d)
      = { d with dictUser := s.userDict, dictFile := s.fileDict u } := by
    cases d
    simp only at h1 h3
    subst h1 h3
    split
    · rfl
    · rename_i hdiff
      simp [dictDiffers] at hdiff
      obtain ⟨rfl, rfl⟩ := hdiff
      rfl
  rw [updPub_docs]
  unfold replaceDoc
  simp only [hd]
  rw [hadj]
  cases hl : d.lang with
  | unknown => exact absurd hl h4
  | ts =>
    -- the (empty) identifier dictionary stays: the text has no identifiers
    have : (d.identDict != t.idents) = false := by rw [h2, hi hl]; rfl
    simp [this, setF_same]
  | plain => simp [setF_same]
  | markdown => simp [setF_same]

/-! ## the invariant of one-handler-at-a-time histories -/

/-- the `DocumentState` a document the client has open ought to have -/
def goodDoc (c : Client) (s : State) (u : Url) (t : Text) (l : Lang) : Doc :=
  { text := t, lang := l, parseCfg := c.ck, lintCfg := c.ck, dictUser := s.userDict,
    dictFile := s.fileDict u, dictIdent := none, identDict := 0, ignored := c.ign u }

def InvAt (c : Client) (s : State) (u : Url) : Prop :=
  match c.buf u with
  | none => s.docs u = none ∧ (s.outbox u = .empty ∨ s.outbox u = .never)
  | some (t, l) =>
    (l = .ts → t.idents = 0) ∧
    if l = .unknown then s.docs u = none ∧ s.outbox u = .empty
    else s.docs u = some (goodDoc c s u t l) ∧ s.outbox u = .diag (pubOf (goodDoc c s u t l) c.ck)

def Inv (c : Client) (s : State) : Prop := s.config = c.ck ∧ ∀ u, InvAt c s u

/-! `InvAt` and `WeakAt` distinguish closed documents, open documents of a language without parser,
and the rest; only the last are loaded. `opened` makes that one case distinction. -/

/-- the client's text and language of `u`, if `u` is open in a language a parser exists for -/
def opened (c : Client) (u : Url) : Option (Text × Lang) :=
  match c.buf u with
  | some (t, l) => if l = .unknown then none else some (t, l)
  | none => none

def IdFree (c : Client) (u : Url) : Prop := ∀ t l, c.buf u = some (t, l) → l = .ts → t.idents = 0

/-- the last publication of a document that is not loaded: an empty list — or, for a document the
client does not have open, none at all -/
def Quiet (c : Client) (s : State) (u : Url) : Prop :=
  s.outbox u = .empty ∨ (c.buf u = none ∧ s.outbox u = .never)

theorem invAt_iff {c : Client} {s : State} {u : Url} : InvAt c s u ↔ IdFree c u ∧
    match opened c u with
    | none => s.docs u = none ∧ Quiet c s u
    | some (t, l) =>
      s.docs u = some (goodDoc c s u t l) ∧ s.outbox u = .diag (pubOf (goodDoc c s u t l) c.ck) := by
  unfold InvAt opened IdFree Quiet
  cases hb : c.buf u with
  | none => simp
  | some p =>
    obtain ⟨t, l⟩ := p
    by_cases hl : l = .unknown
    · subst hl; simp
    · simp [hl]

theorem weakAt_iff {c : Client} {s : State} {u : Url} : WeakAt c s u ↔ IdFree c u ∧
    match opened c u with
    | none => s.docs u = none ∧ Quiet c s u
    | some (_, l) => ∃ d, s.docs u = some d ∧ d.lang = l ∧ d.dictIdent = none ∧ d.identDict = 0 ∧
        d.ignored = c.ign u := by
  unfold WeakAt opened IdFree Quiet
  cases hb : c.buf u with
  | none => simp
  | some p =>
    obtain ⟨t, l⟩ := p
    by_cases hl : l = .unknown
    · subst hl; simp
    · simp [hl]

theorem opened_some {c : Client} {u : Url} {t : Text} {l : Lang} (h : opened c u = some (t, l)) :
    c.buf u = some (t, l) ∧ l ≠ .unknown := by
  unfold opened at h
  cases hb : c.buf u with
  | none => rw [hb] at h; cases h
  | some p =>
    obtain ⟨t', l'⟩ := p
    rw [hb] at h
    by_cases hl : l' = .unknown
    · simp [hl] at h
    · simp only [hl, if_false, Option.some.injEq, Prod.mk.injEq] at h
      rw [← h.1, ← h.2]; exact ⟨rfl, hl⟩

theorem opened_none {c : Client} {u : Url} (hb : c.buf u = none) : opened c u = none := by
  unfold opened; rw [hb]

/-- After a publication for `u` the invariant at `u` is a statement about `doc_state` alone. -/
theorem invAt_of_docs {c : Client} {s : State} {u : Url} (hid : IdFree c u)
    (ho : s.outbox u = outOf c.ck (s.docs u))
    (hd : s.docs u = (opened c u).map fun p => goodDoc c s u p.1 p.2) : InvAt c s u := by
  refine invAt_iff.mpr ⟨hid, ?_⟩
  cases h : opened c u with
  | none => rw [h] at hd; exact ⟨hd, Or.inl (by rw [ho, hd]; rfl)⟩
  | some p => rw [h] at hd; exact ⟨hd, by rw [ho, hd]; rfl⟩

theorem InvAt_congr {c c' : Client} {s s' : State} {v : Url}
    (hb : c'.buf v = c.buf v) (hk : c'.ck = c.ck) (hi : c'.ign v = c.ign v)
    (hd : s'.docs v = s.docs v) (ho : s'.outbox v = s.outbox v)
    (hu : s'.userDict = s.userDict) (hf : s'.fileDict v = s.fileDict v)
    (h : InvAt c s v) : InvAt c' s' v := by
  unfold InvAt goodDoc at *
  rw [hb, hk, hi, hd, ho, hu, hf]
  exact h

theorem WeakAt_congr {c : Client} {s s' : State} {v : Url} (hd : s'.docs v = s.docs v)
    (ho : s'.outbox v = s.outbox v) (h : WeakAt c s v) : WeakAt c s' v := by
  unfold WeakAt at *
  rw [hd, ho]
  exact h

theorem inv_latest {c : Client} {s : State} (h : Inv c s) : Latest c s := by
  intro u
  have hu := h.2 u
  unfold InvAt at hu
  unfold LatestAt truth
  cases hb : c.buf u with
  | none =>
    simp only [hb] at hu
    rcases hu.2 with h1 | h1
    · left; simpa using h1
    · right; exact ⟨rfl, h1⟩
  | some p =>
    obtain ⟨t, l⟩ := p
    simp only [hb] at hu
    left
    by_cases hl : l = .unknown
    · simp_all
    · simp only [hl, if_false] at hu ⊢
      rw [hu.2.2]
      have : freshIdent l t = none := by
        unfold freshIdent
        by_cases hts : l = .ts
        · simp [hu.1 hts]
        · simp [hts]
      simp [pubOf, goodDoc, this]

theorem inv_init : Inv Client.init State.init := by
  refine ⟨rfl, fun u => ?_⟩
  simp [InvAt, Client.init, State.init]

theorem InvAt.weak {c : Client} {s : State} {u : Url} (h : InvAt c s u) :
    WeakAt c s u ∧ ∀ d, s.docs u = some d → d.lintCfg = c.ck := by
  obtain ⟨hid, h⟩ := invAt_iff.mp h
  rw [weakAt_iff]
  cases ho : opened c u with
  | none =>
    rw [ho] at h
    exact ⟨⟨hid, h⟩, fun d hd => by rw [h.1] at hd; cases hd⟩
  | some p =>
    rw [ho] at h
    exact ⟨⟨hid, _, h.1, rfl, rfl, rfl, rfl⟩, fun d hd => by rw [h.1] at hd; cases hd; rfl⟩

/-- a state that satisfies the invariant is structurally sound for ANY client configuration -/
theorem Inv.weak {c : Client} {s : State} (hI : Inv c s) (k : CfgV) :
    ∀ v, WeakAt { c with ck := k } s v :=
  fun v => (hI.2 v).weak.1

theorem WeakAt.inv_of_closed {c c' : Client} {s s' : State} {v : Url} (h : WeakAt c s v)
    (hn : s.docs v = none) (hb : c'.buf v = c.buf v) (hd : s'.docs v = none)
    (ho : s'.outbox v = s.outbox v) : InvAt c' s' v := by
  obtain ⟨hid, h⟩ := weakAt_iff.mp h
  have hop : opened c' v = opened c v := by unfold opened; rw [hb]
  refine invAt_iff.mpr ⟨fun t l hb' => hid t l (hb ▸ hb'), ?_⟩
  rw [hop]
  cases hc : opened c v with
  | none => rw [hc] at h; exact ⟨hd, by unfold Quiet; rw [ho, hb]; exact h.2⟩
  | some p =>
    rw [hc] at h
    obtain ⟨d, hd', _⟩ := h
    rw [hn] at hd'; cases hd'

/-- One `update_document + publish_diagnostics` with the client's text makes a structurally sound
document whose linter is current right. -/
theorem upd_fix {c : Client} {s : State} {u : Url} {t : Text} (hW : WeakAt c s u)
    (hL : ∀ d, s.docs u = some d → d.lintCfg = c.ck) (ht : ∀ t' l, c.buf u = some (t', l) → t' = t) :
    InvAt c (updPub c.ck s t u none) u := by
  obtain ⟨hid, hW⟩ := weakAt_iff.mp hW
  obtain ⟨_, hoff, hout⟩ := updPub_frame c.ck s t u none
  refine invAt_of_docs hid hout ?_
  cases ho : opened c u with
  | none => rw [ho] at hW; exact updPub_absent c.ck s t u hW.1
  | some p =>
    obtain ⟨t', l⟩ := p
    rw [ho] at hW
    obtain ⟨d, hd, hlang, hident, hidd, hign⟩ := hW
    obtain ⟨hb, hl⟩ := opened_some ho
    have ht' := ht t' l hb
    subst ht'
    rw [updPub_held c.ck s t' u none d hd hident hidd (hL d hd) (hlang ▸ hl) (hlang ▸ hid t' l hb)]
    obtain ⟨text, lang', parseCfg, lintCfg, dictUser, dictFile, dictIdent, identDict, ignored⟩ := d
    have hlint := hL _ hd
    simp only at hlang hident hidd hlint hign
    subst hlang hident hidd hlint hign
    simp [goodDoc, hoff.userDict, hoff.fileDict]

/-- The same for `update_document_from_file`: `DiskIsBuf` says that the text it installs is the
client's, and that a missing file is not open. -/
theorem reread_fix {c : Client} {s : State} {u : Url} (hk : s.config = c.ck) (hW : WeakAt c s u)
    (hL : ∀ d, s.docs u = some d → d.lintCfg = c.ck) (hd : DiskIsBuf c s u) :
    InvAt c (rereadPub c.ck s u) u := by
  unfold rereadPub
  cases hdisk : s.disk u with
  | some t => exact upd_fix hW hL fun t' l hb => Option.some.inj ((hd t' l hb).symm.trans hdisk)
  | none =>
    -- the client does not have `u` open: nothing is loaded, the publication is empty
    obtain ⟨hid, hW⟩ := weakAt_iff.mp hW
    have hb : c.buf u = none := by
      cases hb : c.buf u with
      | none => rfl
      | some p => exact absurd ((hd p.1 p.2 hb).symm.trans hdisk) nofun
    rw [opened_none hb] at hW
    obtain ⟨_, _, h3, h4⟩ := lintSendDoc_frame s s.config u
    exact invAt_of_docs hid (by rw [h4, h3, ← hk]) (by rw [opened_none hb, h3]; exact hW.1)

theorem inv_frame {c c' : Client} {s s' : State} {u : Url}
    (hI : Inv c s) (hk : c'.ck = c.ck) (hcfg : s'.config = c'.ck)
    (hb : ∀ v, v ≠ u → c'.buf v = c.buf v) (hi : ∀ v, v ≠ u → c'.ign v = c.ign v)
    (hu : s'.userDict = s.userDict) (hf : ∀ v, v ≠ u → s'.fileDict v = s.fileDict v)
    (hfr : ∀ v, v ≠ u → s'.docs v = s.docs v ∧ s'.outbox v = s.outbox v)
    (hu' : InvAt c' s' u) : Inv c' s' := by
  refine ⟨hcfg, fun v => ?_⟩
  by_cases hv : v = u
  · subst hv; exact hu'
  · exact InvAt_congr (hb v hv) hk (hi v hv) (hfr v hv).1 (hfr v hv).2 hu (hf v hv) (hI.2 v)

theorem inv_disk {c : Client} {s : State} (hI : Inv c s) (u : Url) (t : Option Text) :
    Inv c { s with disk := setF s.disk u t } :=
  ⟨hI.1, fun v => InvAt_congr rfl rfl rfl rfl rfl rfl rfl (hI.2 v)⟩

theorem inv_off {c c' : Client} {s s' : State} {u : Url}
    (hI : Inv c s) (hk : c'.ck = c.ck) (hcfg : s'.config = c'.ck)
    (hb : ∀ v, v ≠ u → c'.buf v = c.buf v) (hi : ∀ v, v ≠ u → c'.ign v = c.ign v)
    (hoff : Off u s' s) (hu : InvAt c' s' u) : Inv c' s' :=
  inv_frame hI hk hcfg hb hi hoff.userDict (fun v _ => congrFun hoff.fileDict v) hoff.others hu

theorem inv_open {c : Client} {s : State} (hI : Inv c s) (u : Url) (l : Lang) (t : Text)
    (hb : c.buf u = none) (hts : l = .ts → t.idents = 0) :
    Inv (clientStep c (.didOpen u l t)) (handle c.ck s (.didOpen u l t)) := by
  rw [handle_didOpen]
  obtain ⟨h1, hoff, hout⟩ := updPub_frame c.ck s t u (some l)
  have hn : s.docs u = none := by
    have := (invAt_iff.mp (hI.2 u)).2
    rw [opened_none hb] at this
    exact this.1
  refine inv_off hI rfl h1 (fun v hv => setF_other _ _ _ _ hv) (fun v hv => setF_other _ _ _ _ hv) hoff
    (invAt_of_docs ?_ hout ?_)
  · intro t' l' hb' hl'
    obtain ⟨rfl, rfl⟩ : t = t' ∧ l = l' := by simpa [clientStep, setF_same] using hb'
    exact hts hl'
  · rw [updPub_open c.ck s t u l hn hts]
    by_cases hl : l = .unknown
    · simp [opened, clientStep, setF_same, hl]
    · simp [opened, clientStep, setF_same, hl, goodDoc, hoff.userDict, hoff.fileDict]

theorem clientStep_ck (c : Client) (m : Msg) (h : ∀ k order, m ≠ .didChangeConfiguration k order) :
    (clientStep c m).ck = c.ck := by
  cases m with
  | didChangeConfiguration k order => exact absurd rfl (h k order)
  | didChange u t => simp only [clientStep]; split <;> rfl
  | ignore u =>
    simp only [clientStep]
    split
    · split <;> rfl
    · rfl
  | _ => rfl

theorem clientStep_change (c : Client) (u : Url) (t : Text) :
    (clientStep c (.didChange u t)).ign = c.ign ∧
    (∀ v, v ≠ u → (clientStep c (.didChange u t)).buf v = c.buf v) ∧
    (clientStep c (.didChange u t)).buf u = (c.buf u).map fun p => (t, p.2) := by
  simp only [clientStep]
  cases hb : c.buf u with
  | none => exact ⟨rfl, fun _ _ => rfl, hb⟩
  | some p => exact ⟨rfl, fun v hv => setF_other _ _ _ _ hv, setF_same _ _ _⟩

theorem inv_change {c : Client} {s : State} (hI : Inv c s) (u : Url) (t : Text)
    (hts : ∀ t0, c.buf u = some (t0, .ts) → t.idents = 0) :
    Inv (clientStep c (.didChange u t)) (handle c.ck s (.didChange u t)) := by
  rw [handle_didChange]
  obtain ⟨hi, hb, hbu⟩ := clientStep_change c u t
  have hck := clientStep_ck c (.didChange u t) fun _ _ => nofun
  generalize clientStep c (.didChange u t) = c' at hi hb hbu hck ⊢
  obtain ⟨h1, hoff, _⟩ := updPub_frame c.ck s t u none
  refine inv_off hI hck (h1.trans hck.symm) hb (fun v _ => congrFun hi v) hoff ?_
  rw [← hck]
  have hop : opened c' u = (opened c u).map fun p => (t, p.2) := by
    unfold opened
    rw [hbu]
    cases c.buf u with
    | none => rfl
    | some p => by_cases hl : p.2 = .unknown <;> simp [hl]
  obtain ⟨hW, hL⟩ := (hI.2 u).weak
  obtain ⟨_, hW⟩ := weakAt_iff.mp hW
  refine upd_fix (weakAt_iff.mpr ⟨?_, ?_⟩) (fun d hd => (hL d hd).trans hck.symm) ?_
  · intro t' l' hb' hl'
    rw [hbu] at hb'
    cases hc : c.buf u with
    | none => rw [hc] at hb'; cases hb'
    | some p =>
      rw [hc] at hb'
      cases hb'
      exact hts p.1 (by rw [hc, ← hl'])
  · rw [hop, congrFun hi u]
    cases ho : opened c u with
    | none => rw [ho] at hW; exact ⟨hW.1, hW.2.imp id fun h => ⟨by rw [hbu, h.1]; rfl, h.2⟩⟩
    | some p => rw [ho] at hW; exact hW
  · intro t' l hb'
    rw [hbu] at hb'
    cases hc : c.buf u with
    | none => rw [hc] at hb'; cases hb'
    | some p => rw [hc] at hb'; cases hb'; rfl

theorem inv_reread {c : Client} {s : State} (hI : Inv c s) (u : Url) (hd : DiskIsBuf c s u) :
    Inv c (rereadPub c.ck s u) := by
  obtain ⟨hoff, h1⟩ := rereadPub_frame c.ck s u
  exact inv_off hI rfl (h1 hI.1).1 (fun _ _ => rfl) (fun _ _ => rfl) hoff
    (reread_fix hI.1 (hI.2 u).weak.1 (hI.2 u).weak.2 hd)

theorem inv_close {c : Client} {s : State} (hI : Inv c s) (u : Url) :
    Inv (clientStep c (.didClose u)) (handle c.ck s (.didClose u)) := by
  rw [handle_didClose]
  refine inv_off (u := u) hI rfl hI.1 (fun v hv => setF_other _ _ _ _ hv) (fun v hv => setF_other _ _ _ _ hv)
    ⟨⟨rfl, rfl, rfl⟩, fun v hv => ⟨setF_other _ _ _ _ hv, setF_other _ _ _ _ hv⟩⟩ ?_
  simp [InvAt, clientStep, publish, setF_same]

theorem inv_ignore {c : Client} {s : State} (hI : Inv c s) (u : Url) :
    Inv (clientStep c (.ignore u)) (handle c.ck s (.ignore u)) := by
  rw [handle_ignore]
  obtain ⟨hid, h⟩ := invAt_iff.mp (hI.2 u)
  cases ho : opened c u with
  | none =>
    -- not loaded: the handler returns, and the client does not count the request
    rw [ho] at h
    have hc : clientStep c (.ignore u) = c := by
      simp only [clientStep]
      cases hb : c.buf u with
      | none => rfl
      | some p =>
        have hl : p.2 = .unknown := Decidable.of_not_not fun hl => by simp [opened, hb, hl] at ho
        simp [hl]
    rw [hc]
    simp only [h.1]
    exact hI
  | some p =>
    obtain ⟨t, l⟩ := p
    rw [ho] at h
    obtain ⟨hb, hl⟩ := opened_some ho
    have hc : clientStep c (.ignore u) = { c with ign := setF c.ign u true } := by simp [clientStep, hb, hl]
    rw [hc]
    simp only [h.1]
    obtain ⟨h1, hoff, h3, h4⟩ := lintSendDoc_frame
      { s with docs := setF s.docs u (some { goodDoc c s u t l with ignored := true }) } s.config u
    generalize lintSendDoc _ s.config u = s' at h1 hoff h3 h4 ⊢
    refine inv_frame hI rfl (h1.trans hI.1) (fun _ _ => rfl) (fun v hv => setF_other _ _ _ _ hv) hoff.userDict
      (fun v _ => congrFun hoff.fileDict v)
      (fun v hv => ⟨(congrFun h3 v).trans (setF_other _ _ _ _ hv), (hoff.others v hv).2⟩)
      (invAt_of_docs hid (by rw [h4, h3, hI.1]) ?_)
    have hop : opened { c with ign := setF c.ign u true } u = some (t, l) := ho
    rw [hop, h3]
    simp [setF_same, goodDoc, hoff.userDict, hoff.fileDict]

theorem deleteDocs_spec (us : List Url) : ∀ (s : State),
    (deleteDocs s us).config = s.config ∧ Same (deleteDocs s us) s ∧
    ∀ v, (deleteDocs s us).docs v = (if v ∈ us then none else s.docs v) ∧
         (deleteDocs s us).outbox v = (if v ∈ us ∧ (s.docs v).isSome then .empty else s.outbox v) := by
  induction us with
  | nil => intro s; exact ⟨rfl, ⟨rfl, rfl, rfl⟩, fun v => by simp [deleteDocs]⟩
  | cons u us ih =>
    intro s
    unfold deleteDocs
    cases hd : s.docs u with
    | none =>
      simp only []
      obtain ⟨h1, h2, h3⟩ := ih s
      refine ⟨h1, h2, fun v => ?_⟩
      obtain ⟨h3a, h3b⟩ := h3 v
      by_cases hv : v = u
      · subst hv; simp [h3a, h3b, hd]
      · simp [h3a, h3b, hv]
    | some d =>
      simp only []
      obtain ⟨h1, h2, h3⟩ := ih (publish { s with docs := setF s.docs u none } u .empty)
      refine ⟨by rw [h1]; rfl, ⟨by rw [h2.disk]; rfl, by rw [h2.userDict]; rfl, by rw [h2.fileDict]; rfl⟩, fun v => ?_⟩
      obtain ⟨h3a, h3b⟩ := h3 v
      rw [h3a, h3b]
      by_cases hv : v = u
      · subst hv
        simp [hd, publish, setF_same]
      · simp [hv, publish, setF_other _ _ _ _ hv]

theorem inv_deleted {c : Client} {s : State} (hI : Inv c s) (us : List Url) :
    Inv (clientStep c (.deleted us)) (handle c.ck s (.deleted us)) := by
  rw [handle_deleted]
  obtain ⟨h1, h2, h3⟩ := deleteDocs_spec us s
  refine ⟨h1.trans hI.1, fun v => ?_⟩
  obtain ⟨h3a, h3b⟩ := h3 v
  by_cases hmem : v ∈ us
  · -- closed by the client, unloaded by the server; what was published last stays or becomes empty
    have hb : (clientStep c (.deleted us)).buf v = none := if_pos hmem
    rw [if_pos hmem] at h3a
    refine invAt_iff.mpr ⟨fun t l hb' => (by rw [hb] at hb'; cases hb'), ?_⟩
    rw [opened_none hb]
    refine ⟨h3a, ?_⟩
    unfold Quiet
    rw [h3b, hb]
    cases hd : s.docs v with
    | some d => exact Or.inl (if_pos ⟨hmem, rfl⟩)
    | none =>
      rw [if_neg (fun h => Bool.false_ne_true h.2)]
      obtain ⟨_, h⟩ := invAt_iff.mp (hI.2 v)
      cases ho : opened c v with
      | none => rw [ho] at h; exact h.2.imp id fun h => ⟨rfl, h.2⟩
      | some p => rw [ho, hd] at h; cases h.1
  · refine InvAt_congr (c := c) (s := s) ?_ rfl ?_ ?_ ?_ h2.userDict (by rw [h2.fileDict]) (hI.2 v)
    · simp [clientStep, hmem]
    · simp [clientStep, hmem]
    · simp [h3a, hmem]
    · simp [h3b, hmem]

theorem inv_addFile {c : Client} {s : State} (hI : Inv c s) (w : Word) (u : Url) (hd : DiskIsBuf c s u) :
    Inv c (handle c.ck s (.addFile w u)) := by
  rw [handle_addFile]
  obtain ⟨hoff, h1⟩ :=
    rereadPub_frame c.ck { s with fileDict := setF s.fileDict u (addWord w (s.fileDict u)) } u
  exact inv_frame hI rfl (h1 hI.1).1 (fun _ _ => rfl) (fun _ _ => rfl) hoff.userDict
    (fun v hv => (congrFun hoff.fileDict v).trans (setF_other _ _ _ _ hv)) hoff.others
    (reread_fix hI.1 (hI.2 u).weak.1 (hI.2 u).weak.2 hd)

theorem inv_addUser {c : Client} {s : State} (hI : Inv c s) (w : Word) (u : Url) (hd : DiskIsBuf c s u)
    (hw : w ∈ s.userDict ∨ ∀ v, v ≠ u → s.docs v = none) :
    Inv c (handle c.ck s (.addUser w u)) := by
  rw [handle_addUser]
  rcases hw with hw | hw
  · have : addWord w s.userDict = s.userDict := by simp [addWord, hw]
    rw [this]
    exact inv_reread hI u hd
  · -- no other document is loaded: none holds the old dictionary
    obtain ⟨hoff, h1⟩ := rereadPub_frame c.ck { s with userDict := addWord w s.userDict } u
    refine ⟨(h1 hI.1).1, fun v => ?_⟩
    by_cases hv : v = u
    · subst hv; exact reread_fix hI.1 (hI.2 v).weak.1 (hI.2 v).weak.2 hd
    · exact (hI.2 v).weak.1.inv_of_closed (hw v hv) rfl ((hoff.others v hv).1.trans (hw v hv)) (hoff.others v hv).2

/-- loop invariant of the `for url in urls` loop of `did_change_configuration` -/
def LoopInv (c : Client) (s : State) : Prop :=
  s.config = c.ck ∧ (∀ v, DiskIsBuf c s v) ∧
  ∀ v, WeakAt c s v ∧ ∀ d, s.docs v = some d → d.lintCfg = c.ck

theorem loop_all {c : Client} (order : List Url) : ∀ (s : State), LoopInv c s →
    (order.foldl (rereadPub c.ck) s).config = c.ck ∧
    ∀ v, v ∈ order ∨ InvAt c s v → InvAt c (order.foldl (rereadPub c.ck) s) v := by
  induction order with
  | nil => intro s hL; exact ⟨hL.1, fun _ h => h.resolve_left nofun⟩
  | cons u us ih =>
    intro s hL
    obtain ⟨hoff, h1⟩ := rereadPub_frame c.ck s u
    have hu := reread_fix hL.1 (hL.2.2 u).1 (hL.2.2 u).2 (hL.2.1 u)
    have hL1 : LoopInv c (rereadPub c.ck s u) := by
      refine ⟨(h1 hL.1).1, fun v t l hb => by rw [hoff.disk]; exact hL.2.1 v t l hb, fun v => ?_⟩
      by_cases hvu : v = u
      · subst hvu; exact hu.weak
      · exact ⟨WeakAt_congr (hoff.others v hvu).1 (hoff.others v hvu).2 (hL.2.2 v).1,
          fun d hd => (hL.2.2 v).2 d ((hoff.others v hvu).1 ▸ hd)⟩
    obtain ⟨hk, hall⟩ := ih _ hL1
    refine ⟨hk, fun v hv => hall v ?_⟩
    by_cases hvu : v = u
    · subst hvu; exact Or.inr hu
    · exact hv.imp (fun h => (List.mem_cons.mp h).resolve_left hvu) fun h =>
        InvAt_congr rfl rfl rfl (hoff.others v hvu).1 (hoff.others v hvu).2 hoff.userDict (congrFun hoff.fileDict v) h

/-- **After a `didChangeConfiguration` everything is current** — from any structurally sound state,
however stale its configuration facets are. -/
theorem config_repairs {c : Client} {s : State} (hW : ∀ v, WeakAt c s v) (k : CfgV) (order : List Url)
    (hd : ∀ u, DiskIsBuf c s u) (ho : ∀ u, u ∈ order ↔ (s.docs u).isSome = true) :
    Inv { c with ck := k } (handle k s (.didChangeConfiguration k order)) := by
  rw [handle_config]
  -- the first two segments rebuild every linter and keep the structure
  have hL : LoopInv { c with ck := k } (rebuild k s order) := by
    refine ⟨rfl, hd, fun v => ?_⟩
    obtain ⟨hid, h⟩ := weakAt_iff.mp (hW v)
    have hop : opened { c with ck := k } v = opened c v := rfl
    refine ⟨weakAt_iff.mpr ⟨hid, ?_⟩, fun d hd' => ?_⟩
    · rw [hop]
      cases hc : opened c v with
      | none =>
        rw [hc] at h
        exact ⟨by rw [rebuild_docs, h.1]; rfl, h.2⟩
      | some p =>
        rw [hc] at h
        obtain ⟨d, h1, h2⟩ := h
        exact ⟨{ d with lintCfg := k }, by rw [rebuild_docs, h1]; rfl, h2⟩
    · have := (rebuild_docs k s order v).symm.trans hd'
      cases hs : s.docs v with
      | none => rw [hs] at this; cases this
      | some d0 => rw [hs] at this; cases this; rfl
  obtain ⟨hk, hall⟩ := loop_all (c := { c with ck := k }) order _ hL
  refine ⟨hk, fun v => hall v ?_⟩
  by_cases hv : v ∈ order
  · exact Or.inl hv
  · -- never loaded: right already, and never visited
    have hnone : s.docs v = none := by
      cases h : s.docs v with
      | none => rfl
      | some d => exact absurd ((ho v).mpr (by rw [h]; rfl)) hv
    exact Or.inr ((hW v).inv_of_closed hnone rfl (by rw [rebuild_docs, hnone]; rfl) rfl)

theorem inv_config {c : Client} {s : State} (hI : Inv c s) (k : CfgV) (order : List Url)
    (hd : ∀ u, DiskIsBuf c s u) (ho : ∀ u, u ∈ order ↔ (s.docs u).isSome = true) :
    Inv (clientStep c (.didChangeConfiguration k order)) (handle k s (.didChangeConfiguration k order)) :=
  config_repairs (hI.weak c.ck) k order hd ho

theorem inv_step {c : Client} {s : State} (hI : Inv c s) (op : Op) (hok : OpOk c s op) :
    Inv (seqStep (c, s) op).1 (seqStep (c, s) op).2 := by
  cases op with
  | disk u t => exact inv_disk hI u t
  | msg m =>
    show Inv (clientStep c m) (handle (clientStep c m).ck s m)
    cases m with
    | didOpen u l t => exact inv_open hI u l t hok.1 hok.2
    | didChange u t => rw [clientStep_ck c (.didChange u t) fun _ _ => nofun]; exact inv_change hI u t hok
    | didSave u => rw [handle_didSave]; exact inv_reread hI u hok
    | didClose u => exact inv_close hI u
    | deleted us => exact inv_deleted hI us
    | didChangeConfiguration k order => exact inv_config hI k order hok.1 hok.2
    | addUser w u => exact inv_addUser hI w u hok.1 hok.2
    | addFile w u => exact inv_addFile hI w u hok
    | ignore u => rw [clientStep_ck c (.ignore u) fun _ _ => nofun]; exact inv_ignore hI u
    | noop => exact hI

theorem seq_inv (ops : List Op) : ∀ (w : Client × State), Inv w.1 w.2 → HistOk w ops →
    Inv (seqRun w ops).1 (seqRun w ops).2 := by
  induction ops with
  | nil => intro w h _; exact h
  | cons op ops ih =>
    intro w h hok
    obtain ⟨c, s⟩ := w
    exact ih _ (inv_step h op hok.1) hok.2

/-! ## the bridge: `runMacro` on the sequential schedule is `seqRun` -/

/-- nothing in flight, nothing queued, no configuration request outstanding -/
def Idle (y : Sys) : Prop := y.run = [] ∧ y.queue = [] ∧ y.pend = []

def idleSys (s : State) (nid : Nat) : Sys := { st := s, run := [], queue := [], pend := [], nextId := nid }

/-- one handler in flight, not waiting -/
def solo (s : State) (id : Nat) (segs : List Seg) (r : Regs) (nid : Nat) : Sys :=
  { st := s, run := [{ id := id, segs := segs, regs := r, waiting := false }], queue := [], pend := [],
    nextId := nid }

/-- one handler in flight, blocked in its configuration request -/
def soloWaiting (s : State) (id : Nat) (segs : List Seg) (r : Regs) (nid : Nat) : Sys :=
  { st := s, run := [{ id := id, segs := segs, regs := r, waiting := true }], queue := [], pend := [id],
    nextId := nid }

/-! ### one handler alone under the scheduler -/

theorem Idle.eq {y : Sys} (h : Idle y) : y = idleSys y.st y.nextId := by
  obtain ⟨st, run, queue, pend, nid⟩ := y
  obtain ⟨h1, h2, h3⟩ := h
  simp only at h1 h2 h3
  subst h1 h2 h3
  rfl

theorem idleSys_idle (s : State) (nid : Nat) : Idle (idleSys s nid) := ⟨rfl, rfl, rfl⟩

theorem settle_idle (fuel : Nat) (s : State) (nid : Nat) : settle fuel (idleSys s nid) = idleSys s nid := by
  cases fuel <;> rfl

/-- answers nobody waits for change nothing -/
theorem reply_no_pend (y : Sys) (h : y.pend = []) (i : Nat) (k : CfgV) : reply y i k = y := by
  simp only [reply, h, List.getElem?_nil]

theorem replies_idle (s : State) (nid : Nat) (ck : CfgV) (n : Nat) :
    runMacro (idleSys s nid) (List.replicate n (.reply 0 ck)) = idleSys s nid := by
  induction n with
  | zero => rfl
  | succ n ih =>
    show runMacro (settle settleFuel (reply (idleSys s nid) 0 ck)) (List.replicate n (.reply 0 ck)) = _
    rw [reply_no_pend _ rfl, settle_idle, ih]

theorem micro_recv_idle (s : State) (nid : Nat) (m : Msg) :
    micro (idleSys s nid) (.recv m) = solo s nid (prog m).1 (prog m).2 (nid + 1) := rfl

theorem settle_solo_succ (fuel : Nat) (s : State) (id : Nat) (segs : List Seg) (r : Regs) (nid : Nat) :
    settle (fuel + 1) (solo s id segs r nid) = settle fuel (stepHandler (solo s id segs r nid) id) := rfl

theorem settle_waiting (fuel : Nat) (s : State) (id : Nat) (segs : List Seg) (r : Regs) (nid : Nat) :
    settle fuel (soloWaiting s id segs r nid) = soloWaiting s id segs r nid := by
  cases fuel <;> rfl

theorem stepHandler_solo_nil (s : State) (id : Nat) (r : Regs) (nid : Nat) :
    stepHandler (solo s id [] r nid) id = idleSys s nid := by
  simp only [stepHandler, solo, findHandler, if_true, Bool.false_eq_true, if_false, dropHandler, idleSys]

theorem stepHandler_solo_skip (s : State) (id : Nat) (seg : Seg) (rest : List Seg) (r : Regs) (nid : Nat)
    (hs : r.skip > 0) :
    stepHandler (solo s id (seg :: rest) r nid) id = solo s id rest { r with skip := r.skip - 1 } nid := by
  simp only [stepHandler, solo, findHandler, if_true, Bool.false_eq_true, if_false, hs, setHandler]

theorem stepHandler_solo_pull (s : State) (id : Nat) (rest : List Seg) (r : Regs) (nid : Nat)
    (hs : ¬ r.skip > 0) :
    stepHandler (solo s id (.pull :: rest) r nid) id = soloWaiting s id (.pull :: rest) r nid := by
  simp only [stepHandler, solo, findHandler, if_true, Bool.false_eq_true, if_false, hs, setHandler,
    soloWaiting, List.nil_append]

theorem stepHandler_solo_step (s : State) (id : Nat) (seg : Seg) (rest : List Seg) (r : Regs) (nid : Nat)
    (hs : ¬ r.skip > 0) (hp : seg ≠ .pull) :
    stepHandler (solo s id (seg :: rest) r nid) id
      = solo (step s r seg).1 id rest (step s r seg).2 nid := by
  simp only [stepHandler, solo, findHandler, if_true, Bool.false_eq_true, if_false, hs, setHandler]

theorem reply_waiting (s : State) (id : Nat) (rest : List Seg) (r : Regs) (nid : Nat) (ck : CfgV) :
    reply (soloWaiting s id (.pull :: rest) r nid) 0 ck = solo s id rest { r with reply := ck } nid := by
  simp only [reply, soloWaiting, solo, List.getElem?_cons_zero, findHandler, if_true, setHandler, removeNth,
    List.drop_succ_cons, List.drop_zero]

theorem solo_advance (ck : CfgV) (s : State) (id : Nat) (seg : Seg) (rest : List Seg) (r : Regs) (nid : Nat)
    (h : r.skip > 0 ∨ seg ≠ .pull) :
    ∃ s' r', stepHandler (solo s id (seg :: rest) r nid) id = solo s' id rest r' nid ∧
      runSeq ck s r (seg :: rest) = runSeq ck s' r' rest ∧
      pullsRun ck s r (seg :: rest) = pullsRun ck s' r' rest := by
  by_cases hs : r.skip > 0
  · exact ⟨s, _, stepHandler_solo_skip _ _ _ _ _ _ hs, runSeq_skip _ _ _ _ _ hs, pullsRun_skip _ _ _ _ _ hs⟩
  · have hp := h.resolve_left hs
    exact ⟨_, _, stepHandler_solo_step _ _ _ _ _ _ hs hp, runSeq_step _ _ _ _ _ hs hp,
      pullsRun_step _ _ _ _ _ hs hp⟩

/-- **One handler alone under the scheduler.** A handler that is the only one in flight, given at
least as many answers as it sends configuration requests, runs to completion and leaves the idle
system in the state `runSeq` computes. `fuel` is what is left of the current `settle`; every later
`settle` starts with `settleFuel`, hence the two bounds. -/
theorem solo_run (ck : CfgV) (id nid : Nat) : ∀ (segs : List Seg) (fuel : Nat) (s : State) (r : Regs) (n : Nat),
    segs.length < fuel → segs.length < settleFuel → pullsRun ck s r segs ≤ n →
    runMacro (settle fuel (solo s id segs r nid)) (List.replicate n (.reply 0 ck))
      = idleSys (runSeq ck s r segs) nid := by
  intro segs
  induction segs with
  | nil =>
    intro fuel s r n hf _ _
    obtain ⟨f, rfl⟩ := Nat.exists_eq_succ_of_ne_zero (Nat.ne_of_gt hf)
    rw [settle_solo_succ, stepHandler_solo_nil, settle_idle, replies_idle]
    rfl
  | cons seg rest ih =>
    intro fuel s r n hf hF hn
    obtain ⟨f, rfl⟩ := Nat.exists_eq_succ_of_ne_zero (Nat.ne_of_gt (Nat.zero_lt_of_lt hf))
    have hf' : rest.length < f := Nat.lt_of_succ_lt_succ hf
    have hF' : rest.length < settleFuel := Nat.lt_of_succ_lt hF
    rw [settle_solo_succ]
    by_cases h : r.skip > 0 ∨ seg ≠ .pull
    · obtain ⟨s', r', e0, e1, e2⟩ := solo_advance ck s id seg rest r nid h
      rw [e0, e1]
      exact ih f s' r' n hf' hF' (e2 ▸ hn)
    · have hs : ¬ r.skip > 0 := fun hs => h (Or.inl hs)
      have hp : seg = .pull := Decidable.of_not_not fun hp => h (Or.inr hp)
      subst hp
      rw [pullsRun_pull _ _ _ _ hs] at hn
      obtain ⟨n', rfl⟩ := Nat.exists_eq_succ_of_ne_zero (Nat.ne_of_gt (Nat.zero_lt_of_lt hn))
      rw [stepHandler_solo_pull _ _ _ _ _ hs, settle_waiting, runSeq_pull _ _ _ _ hs]
      show runMacro (settle settleFuel (reply (soloWaiting s id (.pull :: rest) r nid) 0 ck))
        (List.replicate n' (.reply 0 ck)) = _
      rw [reply_waiting]
      exact ih settleFuel s _ n' hF' hF' (Nat.le_of_succ_le_succ hn)

theorem settle_solo_no_pull (ck : CfgV) (id nid : Nat) : ∀ (fuel : Nat) (segs : List Seg) (s : State) (r : Regs),
    fuel ≤ segs.length → pullsRun ck s r segs = 0 →
    ∃ s' r', settle fuel (solo s id segs r nid) = solo s' id (segs.drop fuel) r' nid ∧
      pullsRun ck s' r' (segs.drop fuel) = 0 ∧ runSeq ck s r segs = runSeq ck s' r' (segs.drop fuel) := by
  intro fuel
  induction fuel with
  | zero => intro segs s r _ h; exact ⟨s, r, rfl, h, rfl⟩
  | succ f ih =>
    intro segs s r hf h
    match segs, hf with
    | seg :: rest, hf =>
      have hadv : r.skip > 0 ∨ seg ≠ .pull := by
        by_cases hs : r.skip > 0
        · exact Or.inl hs
        · refine Or.inr fun hp => ?_
          rw [hp, pullsRun_pull _ _ _ _ hs] at h
          exact Nat.succ_ne_zero _ h
      obtain ⟨s1, r1, e0, e1, e2⟩ := solo_advance ck s id seg rest r nid hadv
      rw [settle_solo_succ, e0, e1]
      exact ih rest s1 r1 (Nat.le_of_succ_le_succ hf) (e2 ▸ h)

theorem runMacro_cons (y : Sys) (a : Act) (as : List Act) :
    runMacro y (a :: as) = runMacro (settle settleFuel (micro y a)) as := rfl

/-- **A message to an idle server, then its answers** (`n` of them, at least as many as the handler
sends requests; the program shorter than the scheduler's fuel): the server is idle again, in the
state `handle` computes, one handler id consumed. -/
theorem macro_handle (ck : CfgV) (s : State) (nid : Nat) (m : Msg) (n : Nat)
    (hF : (prog m).1.length < settleFuel) (hn : pullsRun ck s (prog m).2 (prog m).1 ≤ n) :
    runMacro (idleSys s nid) (.recv m :: List.replicate n (.reply 0 ck)) = idleSys (handle ck s m) (nid + 1) :=
  solo_run ck nid (nid + 1) _ settleFuel s _ n hF hF hn

/-- **The fuel is per client action**: any further client action lets a handler that ran out of it go on. -/
theorem macro_out_of_fuel (ck k : CfgV) (s : State) (nid : Nat) (m : Msg) (i : Nat)
    (hp : pullsRun ck s (prog m).2 (prog m).1 = 0)
    (h1 : settleFuel ≤ (prog m).1.length) (h2 : (prog m).1.length < settleFuel + settleFuel) :
    (runMacro (idleSys s nid) [.recv m]).run.length = 1 ∧
    runMacro (idleSys s nid) [.recv m, .reply i k] = idleSys (handle ck s m) (nid + 1) := by
  obtain ⟨s', r', hs, hp', hr⟩ := settle_solo_no_pull ck nid (nid + 1) settleFuel _ s (prog m).2 h1 hp
  have hlen : ((prog m).1.drop settleFuel).length < settleFuel := by rw [List.length_drop]; omega
  have := solo_run ck nid (nid + 1) _ settleFuel s' r' 0 hlen hlen (Nat.le_of_eq hp')
  rw [runMacro_cons, runMacro_cons, micro_recv_idle, hs]
  refine ⟨rfl, ?_⟩
  show runMacro (settle settleFuel (reply (solo s' nid _ r' (nid + 1)) i k)) [] = _
  rw [reply_no_pend _ rfl, handle, hr]
  exact this

/-! ### a whole history: one handler after the other -/

theorem runMacro_append (y : Sys) (as bs : List Act) :
    runMacro y (as ++ bs) = runMacro (runMacro y as) bs := by
  simp [runMacro, List.foldl_append]

theorem macro_disk (s : State) (nid : Nat) (u : Url) (t : Option Text) :
    runMacro (idleSys s nid) [.disk u t] = idleSys { s with disk := setF s.disk u t } nid := by
  simp only [runMacro, List.foldl_cons, List.foldl_nil, macroStep, micro]
  exact settle_idle _ _ _

/-- number of messages of a history (= handler ids the scheduler consumes) -/
def msgCount : List Op → Nat
  | [] => 0
  | .msg _ :: ops => msgCount ops + 1
  | .disk _ _ :: ops => msgCount ops

/-- `actsOfOp` with a free number of answers -/
def actsOfOpN (c : Client) (n : Nat) : Op → List Act
  | .disk u t => [.disk u t]
  | .msg m => .recv m :: List.replicate n (.reply 0 (clientStep c m).ck)

/-- `seqActs` with a free number of answers after every message: the schedules "each handler runs
alone" (`seqActs c ops` is the one with `pullCount` answers, `seqActs_eq_N`) -/
def seqActsN : Client → List (Op × Nat) → List Act
  | _, [] => []
  | c, (op, n) :: ops => actsOfOpN c n op ++ seqActsN (clientOfOp c op) ops

/-- every message is followed by at least as many answers as its handler — running alone from the
state the history has reached — sends requests, and no program exhausts the scheduler's fuel -/
def Answered : Client × State → List (Op × Nat) → Prop
  | _, [] => True
  | w, (op, n) :: ops =>
    (match op with
      | .disk _ _ => True
      | .msg m => (prog m).1.length < settleFuel ∧
          pullsRun (clientStep w.1 m).ck w.2 (prog m).2 (prog m).1 ≤ n) ∧
    Answered (seqStep w op) ops

theorem client_actsOfOpN (c : Client) (n : Nat) (op : Op) :
    (actsOfOpN c n op).foldl clientOfAct c = clientOfOp c op := by
  cases op with
  | disk u t => rfl
  | msg m =>
    show (List.replicate n (Act.reply 0 _)).foldl clientOfAct (clientStep c m) = clientStep c m
    induction n with
    | zero => rfl
    | succ n ih => exact ih

theorem seqStep_client (w : Client × State) (op : Op) : (seqStep w op).1 = clientOfOp w.1 op := by
  cases op <;> rfl

/-- **`runMacro` on a one-handler-at-a-time schedule is `seqRun`.** From an idle server, a history
whose every message is followed at once by enough answers (`Answered`) leaves the server idle, in
exactly the state `seqRun` computes (so with the same publication log, dictionaries, documents and
configuration), and the client the schedule implies is `seqRun`'s client. -/
theorem macro_is_seq_N : ∀ (ops : List (Op × Nat)) (c : Client) (s : State) (nid : Nat),
    Answered (c, s) ops →
    runMacro (idleSys s nid) (seqActsN c ops)
      = idleSys (seqRun (c, s) (ops.map (·.1))).2 (nid + msgCount (ops.map (·.1))) ∧
    (seqActsN c ops).foldl clientOfAct c = (seqRun (c, s) (ops.map (·.1))).1 := by
  intro ops
  induction ops with
  | nil => intro c s nid _; exact ⟨rfl, rfl⟩
  | cons opn ops ih =>
    intro c s nid h
    obtain ⟨op, n⟩ := opn
    obtain ⟨h1, h2⟩ := h
    simp only [seqActsN, runMacro_append, List.foldl_append, client_actsOfOpN, List.map_cons, seqRun,
      List.foldl_cons]
    cases op with
    | disk u t =>
      have := ih c { s with disk := setF s.disk u t } nid h2
      simp only [actsOfOpN, macro_disk, clientOfOp, msgCount]
      exact this
    | msg m =>
      have := ih (clientStep c m) (handle (clientStep c m).ck s m) (nid + 1) h2
      simp only [actsOfOpN, clientOfOp, msgCount, macro_handle _ _ _ _ _ h1.1 h1.2]
      rw [show nid + (msgCount (ops.map (·.1)) + 1) = nid + 1 + msgCount (ops.map (·.1)) by omega]
      exact this

/-- every handler's program is shorter than the scheduler's fuel (`settleFuel` = 4096 segments) -/
def Fits (ops : List Op) : Prop := ∀ m, Op.msg m ∈ ops → (prog m).1.length < settleFuel

/-- the annotation that makes `seqActsN` the canonical schedule -/
def withPulls (ops : List Op) : List (Op × Nat) :=
  ops.map fun op => (op, match op with | .disk _ _ => 0 | .msg m => pullCount (prog m).1)

theorem seqActs_eq_N : ∀ (ops : List Op) (c : Client), seqActs c ops = seqActsN c (withPulls ops) := by
  intro ops
  induction ops with
  | nil => intro c; rfl
  | cons op ops ih =>
    intro c
    cases op <;>
      (simp only [seqActs, withPulls, List.map_cons, seqActsN, actsOfOp, actsOfOpN]; rw [← withPulls, ← ih])

/-- **The bridge.** The canonical sequential schedule `seqActs c ops` (what the driver op `srvseq`
hands to `runMacro`) run from an idle server ends idle in the state `seqRun` computes. -/
theorem macro_is_seq (ops : List Op) (c : Client) (s : State) (nid : Nat) (hF : Fits ops) :
    runMacro (idleSys s nid) (seqActs c ops) = idleSys (seqRun (c, s) ops).2 (nid + msgCount ops) ∧
    (seqActs c ops).foldl clientOfAct c = (seqRun (c, s) ops).1 := by
  have hA : ∀ (ops : List Op) (w : Client × State), Fits ops → Answered w (withPulls ops) := by
    intro ops
    induction ops with
    | nil => intro w _; trivial
    | cons op ops ih =>
      intro w hF
      refine ⟨?_, ih _ fun m hm => hF m (List.mem_cons_of_mem _ hm)⟩
      cases op with
      | disk u t => trivial
      | msg m => exact ⟨hF m List.mem_cons_self, pullsRun_le _ _ _ _⟩
  have := macro_is_seq_N (withPulls ops) c s nid (hA ops (c, s) hF)
  rw [show (withPulls ops).map (·.1) = ops by simp [withPulls, List.map_map, Function.comp_def],
    ← seqActs_eq_N] at this
  exact this

/-! ### which programs fit -/

theorem reread_length (u : Url) : (rereadAndPublish u).length = 9 := rfl

theorem prog_config_length (k : CfgV) (order : List Url) :
    (prog (.didChangeConfiguration k order)).1.length = 2 + 9 * order.length := by
  show (order.flatMap rereadAndPublish).length + 1 + 1 = _
  induction order with
  | nil => rfl
  | cons u us ih => rw [List.flatMap_cons, List.length_append, reread_length, List.length_cons]; omega

/-- only `didChangeConfiguration` has a program of unbounded length: 2 + 9 segments per key -/
theorem prog_length (m : Msg) :
    (prog m).1.length = match m with
      | .didChangeConfiguration _ order => 2 + 9 * order.length
      | .didOpen .. | .didChange .. => 8
      | .didSave _ => 9
      | .addUser .. | .addFile .. => 11
      | .ignore _ => 3
      | .didClose _ | .deleted _ => 1
      | .noop => 0 := by
  cases m with
  | didChangeConfiguration k order => exact prog_config_length k order
  | _ => rfl

/-- a history fits when no configuration handler iterates over more than 454 keys -/
theorem fits_of_orders (ops : List Op)
    (h : ∀ k order, Op.msg (.didChangeConfiguration k order) ∈ ops → order.length ≤ 454) : Fits ops := by
  intro m hm
  rw [prog_length]
  cases m <;> simp only [settleFuel] <;> try omega
  next k order => have := h k order hm; omega

/-! ### how many configuration requests a program holds -/

theorem pullCount_rereads (order : List Url) : pullCount (order.flatMap rereadAndPublish) = order.length := by
  induction order with
  | nil => rfl
  | cons u us ih =>
    show pullCount (rereadAndPublish u ++ us.flatMap rereadAndPublish) = _
    rw [show pullCount (rereadAndPublish u ++ us.flatMap rereadAndPublish)
      = pullCount (us.flatMap rereadAndPublish) + 1 from rfl, ih]
    rfl

/-- one request per document update: one for `didOpen` / `didChange` / `didSave` / the two
add-to-dictionary commands, one per key for `didChangeConfiguration`, none otherwise -/
theorem pullCount_prog (m : Msg) :
    pullCount (prog m).1 = match m with
      | .didChangeConfiguration _ order => order.length
      | .didOpen .. | .didChange .. | .didSave _ | .addUser .. | .addFile .. => 1
      | _ => 0 := by
  cases m with
  | didChangeConfiguration k order => simp only [prog, pullCount, pullCount_rereads]
  | _ => rfl

end Harper.Server
