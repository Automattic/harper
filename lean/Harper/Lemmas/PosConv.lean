import Harper.Model.PosConv
import Harper.Model.Pattern
-- for `DecidableEq (Except Panic α)` (`Pat.instDecEqResult`), needed by `decide` on model results
import Harper.Lemmas.Span
/-!
Helper lemmas for C08. The recurring view of a text around an index `i` is
`src = pre ++ tail ++ rest` with `pre` the complete lines before `i`'s line (`LineStart pre`:
empty or ending in `'\n'`), `tail` the part of `i`'s line before `i` (no `'\n'`), and
`i = pre.length + tail.length`.
-/
namespace Harper.PosConv
open Harper

/-! ### Vocabulary of the property statements -/

/-- number of `'\n'` in the text -/
def newlines (src : List Char) : Nat := src.count '\n'

/-- number of `'\n'` before index `i`: the (server) line of `i` -/
def lineOf (src : List Char) (i : Nat) : Nat := (src.take i).count '\n'

/-- every `'\r'` is immediately followed by `'\n'` -/
def NoLoneCR (src : List Char) : Prop :=
  ∀ j, j < src.length → src[j]? = some '\r' → src[j + 1]? = some '\n'

instance (src : List Char) : Decidable (NoLoneCR src) :=
  inferInstanceAs (Decidable (∀ j, j < src.length → _))

/-- index `i` is between the `'\r'` and the `'\n'` of one line terminator -/
def InsideCRLF (src : List Char) (i : Nat) : Prop :=
  0 < i ∧ src[i - 1]? = some '\r' ∧ src[i]? = some '\n'

instance (src : List Char) (i : Nat) : Decidable (InsideCRLF src i) :=
  inferInstanceAs (Decidable (_ ∧ _ ∧ _))

/-- `pre` consists of complete lines -/
def LineStart (pre : List Char) : Prop := pre = [] ∨ pre.getLast? = some '\n'

/-! ### `nlIdx`, `sum16`, `slice` -/

theorem nlIdx_append (k : Nat) (xs ys : List Char) :
    nlIdx k (xs ++ ys) = nlIdx k xs ++ nlIdx (k + xs.length) ys := by
  induction xs generalizing k with
  | nil => simp [nlIdx]
  | cons c cs ih =>
    simp only [List.cons_append, nlIdx, List.length_cons]
    split <;> simp [ih, Nat.add_assoc, Nat.add_comm 1]

theorem nlIdx_of_not_mem (k : Nat) (xs : List Char) (h : '\n' ∉ xs) : nlIdx k xs = [] := by
  induction xs generalizing k with
  | nil => rfl
  | cons c cs ih =>
    have hc : c ≠ '\n' := fun e => h (e ▸ List.mem_cons_self)
    have hcs : '\n' ∉ cs := fun m => h (List.mem_cons_of_mem _ m)
    simp [nlIdx, hc, ih _ hcs]

theorem nlIdx_length (k : Nat) (xs : List Char) : (nlIdx k xs).length = xs.count '\n' := by
  induction xs generalizing k with
  | nil => rfl
  | cons c cs ih =>
    simp only [nlIdx]
    by_cases hc : c = '\n'
    · subst hc; simp [ih]
    · simp [hc, ih]

theorem nlIdx_bounds (k : Nat) (xs : List Char) : ∀ x ∈ nlIdx k xs, k < x ∧ x ≤ k + xs.length := by
  induction xs generalizing k with
  | nil => simp [nlIdx]
  | cons c cs ih =>
    intro x hx
    simp only [nlIdx] at hx
    have hrec : ∀ x ∈ nlIdx (k + 1) cs, k < x ∧ x ≤ k + (c :: cs).length := by
      intro x hx
      have := ih (k + 1) x hx
      simp only [List.length_cons]; omega
    split at hx
    · rcases List.mem_cons.mp hx with rfl | hx
      · simp only [List.length_cons]; omega
      · exact hrec x hx
    · exact hrec x hx

theorem nlIdx_pairwise (k : Nat) (xs : List Char) : (nlIdx k xs).Pairwise (· < ·) := by
  induction xs generalizing k with
  | nil => simp [nlIdx]
  | cons c cs ih =>
    simp only [nlIdx]
    split
    · refine List.pairwise_cons.mpr ⟨?_, ih (k + 1)⟩
      intro y hy
      exact (nlIdx_bounds (k + 1) cs y hy).1
    · exact ih (k + 1)

theorem LineStart.eq_append_nl {pre : List Char} (h : LineStart pre) (hne : pre ≠ []) :
    ∃ ys, pre = ys ++ ['\n'] := by
  rcases h with h | h
  · exact absurd h hne
  · rcases List.eq_nil_or_concat pre with rfl | ⟨ys, y, rfl⟩
    · exact absurd rfl hne
    · rw [List.concat_eq_append, List.getLast?_concat] at h
      exact ⟨ys, by rw [List.concat_eq_append, Option.some.inj h]⟩

theorem nlIdx_last_of_lineStart (pre : List Char) (h : LineStart pre) :
    (nlIdx 0 pre).getLast?.getD 0 = pre.length := by
  by_cases hne : pre = []
  · subst hne; rfl
  · obtain ⟨ys, rfl⟩ := h.eq_append_nl hne
    simp [nlIdx_append, nlIdx]

theorem sum16_append (len16 : Char → Nat) (xs ys : List Char) :
    sum16 len16 (xs ++ ys) = sum16 len16 xs + sum16 len16 ys := by
  induction xs with
  | nil => simp [sum16]
  | cons c cs ih => simp [sum16, ih, Nat.add_assoc]

theorem slice_mid (pre mid rest : List Char) :
    slice (pre ++ mid ++ rest) pre.length (pre.length + mid.length) = .ok mid := by
  unfold slice
  have : ¬ (pre.length > pre.length + mid.length ∨
      pre.length + mid.length > (pre ++ mid ++ rest).length) := by
    simp only [List.length_append]; omega
  rw [if_neg this]
  simp

theorem slice_zero (xs rest : List Char) : slice (xs ++ rest) 0 xs.length = .ok xs := by
  simpa using slice_mid [] xs rest

theorem split_last_nl (xs : List Char) :
    ∃ pre tail, xs = pre ++ tail ∧ LineStart pre ∧ '\n' ∉ tail := by
  by_cases h : '\n' ∈ xs
  · obtain ⟨as, bs, e, ha⟩ := List.eq_append_cons_of_mem (List.mem_reverse.mpr h)
    refine ⟨bs.reverse ++ ['\n'], as.reverse, ?_, .inr List.getLast?_concat,
      fun m => ha (List.mem_reverse.mp m)⟩
    simpa using congrArg List.reverse e
  · exact ⟨[], xs, rfl, .inl rfl, h⟩

/-! ### The decomposition `src = pre ++ tail ++ rest` -/

theorem take_pre_tail (pre tail rest : List Char) :
    (pre ++ tail ++ rest).take (pre.length + tail.length) = pre ++ tail := by
  rw [← List.length_append]; exact List.take_left' rfl

theorem drop_pre_tail (pre tail rest : List Char) :
    (pre ++ tail ++ rest).drop (pre.length + tail.length) = rest := by
  rw [← List.length_append]; exact List.drop_left' rfl

theorem decomp_at (src : List Char) (i : Nat) (hi : i ≤ src.length) :
    ∃ pre tail rest, src = pre ++ tail ++ rest ∧ i = pre.length + tail.length ∧
      LineStart pre ∧ '\n' ∉ tail := by
  obtain ⟨pre, tail, h, hp, ht⟩ := split_last_nl (src.take i)
  refine ⟨pre, tail, src.drop i, ?_, ?_, hp, ht⟩
  · rw [← h, List.take_append_drop]
  · have := congrArg List.length h
    simp only [List.length_take, List.length_append] at this
    omega

theorem lineStart_no_nl (pre : List Char) (hp : LineStart pre) (h : '\n' ∉ pre) : pre = [] := by
  rcases hp with rfl | hp
  · rfl
  · exact absurd (List.mem_of_getLast? hp) h

theorem lineOf_decomp (pre tail rest : List Char) (ht : '\n' ∉ tail) :
    lineOf (pre ++ tail ++ rest) (pre.length + tail.length) = pre.count '\n' := by
  rw [lineOf, take_pre_tail, List.count_append, List.count_eq_zero.mpr ht, Nat.add_zero]

theorem newlines_decomp (pre tail rest : List Char) (ht : '\n' ∉ tail) :
    newlines (pre ++ tail ++ rest) = pre.count '\n' + rest.count '\n' := by
  rw [newlines, List.count_append, List.count_append, List.count_eq_zero.mpr ht, Nat.add_zero]

/-! ### `index_to_position` on the decomposed text -/

theorem indexToPosition_decomp (len16 : Char → Nat) (pre tail rest : List Char)
    (hp : LineStart pre) (ht : '\n' ∉ tail) :
    indexToPosition len16 (pre ++ tail ++ rest) (pre.length + tail.length) =
      .ok ⟨pre.count '\n', sum16 len16 tail⟩ := by
  unfold indexToPosition
  have h0 : slice (pre ++ tail ++ rest) 0 (pre.length + tail.length) = .ok (pre ++ tail) := by
    have := slice_zero (pre ++ tail) rest
    simpa using this
  simp only [h0]
  have hnl : nlIdx 0 (pre ++ tail) = nlIdx 0 pre := by
    rw [nlIdx_append, nlIdx_of_not_mem _ tail ht]; simp
  simp only [hnl, nlIdx_last_of_lineStart pre hp, slice_mid, nlIdx_length]

/-! ### The scanning loop -/

theorem scanLoop_tail (len16 : Char → Nat) (h16 : ∀ c, 1 ≤ len16 c) (tail ys : List Char)
    (t0 k : Nat) :
    scanLoop len16 (t0 + sum16 len16 tail) t0 k (tail ++ ys) =
      if ys = [] then .inr (t0 + sum16 len16 tail) else .inl (k + tail.length) := by
  induction tail generalizing t0 k with
  | nil =>
    cases ys with
    | nil => rfl
    | cons x more => rw [if_neg (List.cons_ne_nil x more)]; exact if_pos rfl
  | cons c cs ih =>
    have := h16 c
    rw [List.cons_append, scanLoop, if_neg (by rw [sum16]; omega), sum16, ← Nat.add_assoc, ih]
    simp only [List.length_cons, Nat.add_assoc, Nat.add_comm 1]

theorem scanLoop_inl_lt (len16 : Char → Nat) (col : Nat) (xs : List Char) (t k0 k : Nat)
    (h : scanLoop len16 col t k0 xs = .inl k) : k0 ≤ k ∧ k < k0 + xs.length := by
  induction xs generalizing t k0 with
  | nil => simp [scanLoop] at h
  | cons c cs ih =>
    simp only [scanLoop] at h
    split at h
    · cases h; simp
    · have := ih _ _ h
      simp only [List.length_cons]; omega

/-- what `position_to_index` returns once the two `pop`s have selected the segment `seg` starting
at `base`: the two fall-through returns of the loop included -/
def scanResult (len16 : Char → Nat) (col base : Nat) (seg : List Char) : Nat :=
  match scanLoop len16 col 0 0 seg with
  | .inl k => base + k
  | .inr trav => if trav > 0 then base + seg.length else base

theorem scanResult_le (len16 : Char → Nat) (col base : Nat) (seg : List Char) :
    scanResult len16 col base seg ≤ base + seg.length := by
  unfold scanResult
  cases h : scanLoop len16 col 0 0 seg with
  | inl k => have := (scanLoop_inl_lt len16 col seg 0 0 k h).2; simp only []; omega
  | inr t => simp only []; split <;> omega

theorem scanResult_zero (len16 : Char → Nat) (base : Nat) {seg : List Char} (h : seg ≠ []) :
    scanResult len16 0 base seg = base := by
  obtain ⟨c, cs, rfl⟩ := List.exists_cons_of_ne_nil h
  rfl

theorem scanResult_tail (len16 : Char → Nat) (h16 : ∀ c, 1 ≤ len16 c) (tail ys : List Char)
    (base : Nat) :
    scanResult len16 (sum16 len16 tail) base (tail ++ ys) = base + tail.length := by
  have h := scanLoop_tail len16 h16 tail ys 0 0
  rw [Nat.zero_add, Nat.zero_add] at h
  rw [scanResult, h]
  by_cases hy : ys = []
  · subst hy
    rw [if_pos rfl, List.append_nil]
    cases tail with
    | nil => rfl
    | cons c cs => exact if_pos (by have := h16 c; rw [sum16]; omega)
  · rw [if_neg hy]

/-! ### `position_to_index` on the decomposed text -/

/-- The scan runs over exactly the line `line` (terminator included) for a position on that line —
and also for any position at or beyond the line after it when that is the last line of the text:
`take(line + 1)` then yields every newline index, so the two `pop`s select the line *before*
the last. -/
theorem positionToIndex_line (len16 : Char → Nat) (pre line post : List Char)
    (hp : LineStart pre) (hl : '\n' ∉ line) (l col : Nat)
    (h : l = pre.count '\n' ∨ (pre.count '\n' ≤ l ∧ '\n' ∉ post)) :
    positionToIndex len16 (pre ++ (line ++ ['\n']) ++ post) ⟨l, col⟩ =
      .ok (scanResult len16 col pre.length (line ++ ['\n'])) := by
  have htake : (nlIdx 0 (pre ++ (line ++ ['\n']) ++ post)).take (l + 1) =
      nlIdx 0 pre ++ [pre.length + (line ++ ['\n']).length] := by
    have hnl : nlIdx 0 (pre ++ (line ++ ['\n']) ++ post) =
        nlIdx 0 pre ++ (pre.length + (line ++ ['\n']).length) ::
          nlIdx (pre.length + (line ++ ['\n']).length) post := by
      rw [nlIdx_append, nlIdx_append, nlIdx_append, nlIdx_of_not_mem _ line hl]
      simp [nlIdx, Nat.add_assoc]
    rw [hnl]
    rcases h with rfl | ⟨hge, hlast⟩
    · rw [List.take_append, nlIdx_length]
      simp [List.take_of_length_le, nlIdx_length]
    · rw [nlIdx_of_not_mem _ post hlast]
      apply List.take_of_length_le
      simp only [List.length_append, nlIdx_length, List.length_singleton]; omega
  unfold positionToIndex
  simp only [htake]
  simp only [List.getLast?_append, List.getLast?_singleton, List.dropLast_concat,
    Option.some_or, Option.getD_some, nlIdx_last_of_lineStart pre hp, slice_mid, scanResult]
  cases scanLoop len16 col 0 0 (line ++ ['\n']) with
  | inl k => rfl
  | inr t => exact (apply_ite Except.ok (t > 0) _ _).symm

/-- a text without `'\n'`: whatever the line number, the scan runs over the whole text -/
theorem positionToIndex_noNewline (len16 : Char → Nat) (src : List Char) (h : '\n' ∉ src)
    (line col : Nat) :
    positionToIndex len16 src ⟨line, col⟩ = .ok (scanResult len16 col 0 src) := by
  unfold positionToIndex
  have hs : slice src 0 src.length = .ok src := by simpa using slice_zero src []
  simp only [nlIdx_of_not_mem 0 src h, List.take_nil, List.getLast?_nil, List.dropLast_nil,
    Option.getD_none, hs, scanResult]
  cases scanLoop len16 col 0 0 src with
  | inl k => rfl
  | inr t => simp only [Nat.zero_add, apply_ite Except.ok]

/-! ### The client on the decomposed text -/

theorem clientCol_zero (len16 : Char → Nat) (h16 : ∀ c, 1 ≤ len16 c) (xs : List Char) :
    clientCol len16 0 xs = 0 := by
  cases xs with
  | nil => rfl
  | cons c cs =>
    have := h16 c
    simp only [clientCol]
    split
    · rfl
    · rw [if_pos (by omega)]

theorem clientOffsetLC_zero (len16 : Char → Nat) (xs : List Char) (col : Nat) :
    clientOffsetLC len16 xs 0 col = clientCol len16 col xs := by
  cases xs <;> simp [clientOffsetLC, clientCol]

theorem clientCol_tail (len16 : Char → Nat) (h16 : ∀ c, 1 ≤ len16 c) (tail rest : List Char)
    (hn : '\n' ∉ tail) (hr : '\r' ∉ tail) :
    clientCol len16 (sum16 len16 tail) (tail ++ rest) = tail.length := by
  induction tail with
  | nil => simpa [sum16] using clientCol_zero len16 h16 rest
  | cons c cs ih =>
    have hc1 : c ≠ '\n' := fun e => hn (e ▸ List.mem_cons_self)
    have hc2 : c ≠ '\r' := fun e => hr (e ▸ List.mem_cons_self)
    have hn' : '\n' ∉ cs := fun m => hn (List.mem_cons_of_mem _ m)
    have hr' : '\r' ∉ cs := fun m => hr (List.mem_cons_of_mem _ m)
    have : ¬ (c = '\n' ∨ c = '\r') := by simp [hc1, hc2]
    simp only [List.cons_append, clientCol, sum16, if_neg this]
    rw [if_neg (by omega), Nat.add_sub_cancel_left, ih hn' hr', List.length_cons]
    omega

theorem NoLoneCR_tail (c : Char) (cs : List Char) (h : NoLoneCR (c :: cs)) : NoLoneCR cs := by
  intro j hj hc
  have := h (j + 1) (by simp; omega) (by simpa using hc)
  simpa using this

theorem NoLoneCR_head (cs : List Char) (h : NoLoneCR ('\r' :: cs)) : cs.head? = some '\n' := by
  have := h 0 (by simp) (by simp)
  simpa [List.head?_eq_getElem?] using this

theorem clientOffsetLC_skip (len16 : Char → Nat) (pre rest : List Char) (j col : Nat)
    (hcr : NoLoneCR (pre ++ ['\n'])) :
    clientOffsetLC len16 (pre ++ '\n' :: rest) (pre.count '\n' + j + 1) col =
      pre.length + 1 + clientOffsetLC len16 rest j col := by
  induction pre generalizing j with
  | nil => simp [clientOffsetLC, Nat.add_comm]
  | cons c cs ih =>
    have ih' := ih j (NoLoneCR_tail c _ hcr)
    by_cases hc : c = '\n'
    · subst hc
      rw [List.count_cons_self, Nat.add_right_comm _ 1 j, List.cons_append, clientOffsetLC,
        if_pos rfl, ih', List.length_cons]
      omega
    · have hcond : ¬ (c = '\r' ∧ (cs ++ '\n' :: rest).head? ≠ some '\n') := by
        rintro ⟨rfl, hh⟩
        have := NoLoneCR_head _ hcr
        cases cs with
        | nil => exact hh rfl
        | cons d ds => exact hh this
      rw [List.count_cons_of_ne hc, List.cons_append, clientOffsetLC, if_neg hc, if_neg hcond, ih',
        List.length_cons]
      omega

/-- over complete lines in which every `'\r'` is followed by `'\n'`, the client's line count is the
number of `'\n'` -/
theorem clientOffsetLC_lines (len16 : Char → Nat) (pre rest : List Char) (col : Nat)
    (hp : LineStart pre) (hcr : NoLoneCR pre) :
    clientOffsetLC len16 (pre ++ rest) (pre.count '\n') col =
      pre.length + clientOffsetLC len16 rest 0 col := by
  by_cases hne : pre = []
  · subst hne; simp
  · obtain ⟨ys, rfl⟩ := hp.eq_append_nl hne
    simpa [List.count_append] using clientOffsetLC_skip len16 ys rest 0 col hcr

theorem getElem?_pre_tail (pre tail : List Char) (j : Nat) :
    (pre ++ tail)[pre.length + j]? = tail[j]? := by
  rw [List.getElem?_append_right (by omega)]
  congr 1; omega

theorem NoLoneCR_pre (pre tail : List Char) (hp : LineStart pre) (h : NoLoneCR (pre ++ tail)) :
    NoLoneCR pre := by
  intro j hj hc
  have h1 := h j (by simp; omega) (by rw [List.getElem?_append_left hj]; exact hc)
  by_cases hlt : j + 1 < pre.length
  · rwa [List.getElem?_append_left hlt] at h1
  · exfalso
    rcases hp with rfl | hp
    · simp at hj
    · rw [List.getLast?_eq_getElem?] at hp
      have : pre.length - 1 = j := by omega
      rw [this, hc] at hp
      exact absurd hp (by decide)

theorem tail_no_cr (pre tail : List Char) (ht : '\n' ∉ tail) (h : NoLoneCR (pre ++ tail)) :
    '\r' ∉ tail := by
  intro hm
  obtain ⟨j, hj, hjc⟩ := List.getElem_of_mem hm
  have hc : (pre ++ tail)[pre.length + j]? = some '\r' := by
    rw [getElem?_pre_tail, List.getElem?_eq_getElem hj, hjc]
  have h1 := h (pre.length + j) (by simp; omega) hc
  rw [Nat.add_assoc, getElem?_pre_tail] at h1
  exact ht (List.mem_of_getElem? h1)

/-! ### The two `pop`s are ordered -/

/-- the two `pop`s of an increasing list bounded by `n` are ordered and bounded -/
theorem two_pops_le (L : List Nat) (n : Nat) (hp : L.Pairwise (· < ·)) (hb : ∀ x ∈ L, x ≤ n) :
    L.dropLast.getLast?.getD 0 ≤ L.getLast?.getD n ∧ L.getLast?.getD n ≤ n := by
  rcases List.eq_nil_or_concat L with rfl | ⟨A, x, hL⟩
  · simp
  · rw [List.concat_eq_append] at hL
    subst hL
    have hx : x ≤ n := hb x (by simp)
    rcases List.eq_nil_or_concat A with rfl | ⟨B, y, hA⟩
    · simp [hx]
    · rw [List.concat_eq_append] at hA
      subst hA
      have hyx : y < x := (List.pairwise_append.mp hp).2.2 y (by simp) x (by simp)
      simp only [List.dropLast_concat, List.getLast?_append, List.getLast?_singleton,
        Option.some_or, Option.getD_some]
      omega

theorem editOf_eq {len16 : Char → Nat} {src : List Char} {sp : Span} {r : Range}
    (hr : spanToRange len16 src sp = .ok r) (hse : sp.start ≤ sp.stop)
    (hel : sp.stop ≤ src.length) (sugg : Sugg) :
    editOf len16 src sugg sp = .ok ⟨r, match sugg with
      | .replaceWith x => x
      | .remove => []
      | .insertAfter x => (src.drop sp.start).take (sp.stop - sp.start) ++ x⟩ := by
  cases sugg <;> simp only [editOf, hr, Span.getContent_of_le sp src hse hel]

/-! ### The quick-fix edits of a whole code-action request

`generate_code_actions` (`document_state.rs`) = `range_to_span(..).with_len(1)` once, the `overlaps_with` filter, then
`flat_map(lint_to_code_actions)`; `lint_to_code_actions` (`diagnostics.rs`) builds one `TextEdit` per suggestion
(`editOf`, in the order of `lint.suggestions`). The three definitions below only COMPOSE the model's `rangeToSpan`,
`Span.overlapsWith`, `Span.withLen` and `editOf` in that order (no driver op of its own: `selects` and `editOf` are the
driven pieces); the commands appended after the edits (`HarperIgnoreLint`, dictionary commands, `Open URL`) carry no range
and are left out. -/

/-- the `TextEdit`s of `lint_to_code_actions` for one lint (`span`, `suggestions`), in order; a panic of any
`span_to_range` / `get_content_string` is a panic of the whole call -/
def lintEdits (len16 : Char → Nat) (src : List Char) (sp : Span) : List Sugg → Except Panic (List TextEdit)
  | [] => .ok []
  | s :: ss =>
    match editOf len16 src s sp with
    | .error e => .error e
    | .ok e =>
      match lintEdits len16 src sp ss with
      | .error e => .error e
      | .ok es => .ok (e :: es)

/-- `.flat_map(|lint| lint_to_code_actions(..))` over the lints that passed the filter -/
def flatEdits (len16 : Char → Nat) (src : List Char) : List (Span × List Sugg) → Except Panic (List TextEdit)
  | [] => .ok []
  | l :: ls =>
    match lintEdits len16 src l.1 l.2 with
    | .error e => .error e
    | .ok es =>
      match flatEdits len16 src ls with
      | .error e => .error e
      | .ok rest => .ok (es ++ rest)

/-- the quick-fix edits `generate_code_actions` answers a request with, for the lints `lints` of the document -/
def codeActionEdits (len16 : Char → Nat) (src : List Char) (request : Range) (lints : List (Span × List Sugg)) :
    Except Panic (List TextEdit) :=
  match rangeToSpan len16 src request with
  | .error e => .error e
  | .ok sp => flatEdits len16 src (lints.filter fun l => l.1.overlapsWith (sp.withLen 1))

theorem lintEdits_ok (len16 : Char → Nat) (src : List Char) (sp : Span) (f : Sugg → TextEdit) (suggs : List Sugg)
    (h : ∀ s ∈ suggs, editOf len16 src s sp = .ok (f s)) :
    lintEdits len16 src sp suggs = .ok (suggs.map f) := by
  induction suggs with
  | nil => rfl
  | cons s ss ih =>
    have he := h s (by simp)
    have hes := ih (fun s' hs' => h s' (by simp [hs']))
    simp [lintEdits, he, hes]

theorem flatEdits_ok (len16 : Char → Nat) (src : List Char) (f : Span → Sugg → TextEdit) (ls : List (Span × List Sugg))
    (h : ∀ l ∈ ls, ∀ s ∈ l.2, editOf len16 src s l.1 = .ok (f l.1 s)) :
    flatEdits len16 src ls = .ok (ls.flatMap fun l => l.2.map (f l.1)) := by
  induction ls with
  | nil => rfl
  | cons l ls ih =>
    have hes := lintEdits_ok len16 src l.1 (f l.1) l.2 (h l (by simp))
    have hrest := ih (fun l' hl' => h l' (by simp [hl']))
    simp [flatEdits, hes, hrest]

/-- the edit of a suggestion when `editOf` succeeds (a total reading of `editOf`, used only to NAME the edits in
statements; where `editOf` panics the value is irrelevant) -/
def editOr (len16 : Char → Nat) (src : List Char) (sp : Span) (s : Sugg) : TextEdit :=
  match editOf len16 src s sp with
  | .ok e => e
  | .error _ => default

theorem editOr_of_ok {len16 : Char → Nat} {src : List Char} {sp : Span} {s : Sugg} {e : TextEdit}
    (h : editOf len16 src s sp = .ok e) : editOr len16 src sp s = e := by
  simp [editOr, h]

end Harper.PosConv
