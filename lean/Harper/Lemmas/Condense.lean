import Harper.Model.Condense
import Harper.Lemmas.Parse
import Harper.Lemmas.Span
/-! The condensing passes of `Document::parse` as a rewrite system: `Rewrites W inp out` (any number of times, anywhere in
the vector, one token written in the place of a block of neighbours, `W` saying which), with one lemma `pass_rewrites` per
pass and what survives the writes (`Closed W C`, `Rewrites.keeps`, `.forall`, `.head`, `.last`): tiling (`Tiles`), tokens in
text order with gaps (`Gap`), and a property of every single span that survives merging. -/
namespace Harper

/-! ## `Tiles` -/

theorem Tiles.le {ts : List Tok} {a b : Nat} (h : Tiles ts a b) : a ≤ b := by
  induction ts generalizing a with
  | nil => simp [Tiles] at h; omega
  | cons t ts ih => obtain ⟨h1, h2, h3⟩ := h; have := ih h3; omega

theorem Tiles.eq_nil {ts : List Tok} {a : Nat} (h : Tiles ts a a) : ts = [] := by
  cases ts with
  | nil => rfl
  | cons t ts => obtain ⟨h1, h2, h3⟩ := h; have := h3.le; omega

theorem Tiles.append {l1 l2 : List Tok} {a m b : Nat} (h1 : Tiles l1 a m) (h2 : Tiles l2 m b) :
    Tiles (l1 ++ l2) a b := by
  induction l1 generalizing a with
  | nil => simp [Tiles] at h1; subst h1; simpa using h2
  | cons t ts ih => obtain ⟨x, y, z⟩ := h1; exact ⟨x, y, ih z⟩

theorem Tiles.of_append {l1 l2 : List Tok} {a b : Nat} (h : Tiles (l1 ++ l2) a b) :
    ∃ m, Tiles l1 a m ∧ Tiles l2 m b := by
  induction l1 generalizing a with
  | nil => exact ⟨a, rfl, by simpa using h⟩
  | cons t ts ih =>
    obtain ⟨x, y, z⟩ := h
    obtain ⟨m, h1, h2⟩ := ih z
    exact ⟨m, ⟨x, y, h1⟩, h2⟩

theorem Tiles.pos {ts : List Tok} {a b : Nat} (h : Tiles ts a b) : ∀ t ∈ ts, t.span.start < t.span.stop := by
  induction ts generalizing a with
  | nil => intro t ht; cases ht
  | cons x ts ih =>
    intro t ht
    rcases List.mem_cons.mp ht with rfl | ht
    · exact h.1 ▸ h.2.1
    · exact ih h.2.2 t ht

/-! ## flagged vectors -/

/-- what `remove_indices` leaves of a flagged vector -/
def unflag {α} (l : List (α × Bool)) : List α := (l.filter (fun p => !p.2)).map (·.1)

@[simp] theorem unflag_nil {α} : unflag ([] : List (α × Bool)) = [] := rfl
@[simp] theorem unflag_cons_true {α} (x : α) (l : List (α × Bool)) : unflag ((x, true) :: l) = unflag l := by
  simp [unflag]
@[simp] theorem unflag_cons_false {α} (x : α) (l : List (α × Bool)) :
    unflag ((x, false) :: l) = x :: unflag l := by
  simp [unflag]
@[simp] theorem unflag_append {α} (l1 l2 : List (α × Bool)) : unflag (l1 ++ l2) = unflag l1 ++ unflag l2 := by
  simp [unflag]
@[simp] theorem unflag_map_false {α} (l : List α) : unflag (l.map (·, false)) = l := by
  induction l with
  | nil => rfl
  | cons x xs ih => simp [ih]

theorem flaggedIdx_ge {α} (i : Nat) (l : List (α × Bool)) : ∀ j ∈ flaggedIdx i l, i ≤ j := by
  induction l generalizing i with
  | nil => simp [flaggedIdx]
  | cons p r ih =>
    obtain ⟨x, b⟩ := p
    cases b
    · intro j hj; simp only [flaggedIdx] at hj; have := ih (i + 1) j hj; omega
    · intro j hj
      simp only [flaggedIdx, List.mem_cons] at hj
      rcases hj with rfl | hj
      · omega
      · have := ih (i + 1) j hj; omega

theorem removeIndices_flagged {α} (i : Nat) (l : List (α × Bool)) :
    removeIndices i (flaggedIdx i l) (l.map (·.1)) = unflag l := by
  induction l generalizing i with
  | nil => cases h : flaggedIdx i ([] : List (α × Bool)) <;> simp [removeIndices]
  | cons p r ih =>
    obtain ⟨x, b⟩ := p
    cases b
    · simp only [flaggedIdx, List.map_cons, unflag_cons_false]
      have hge := flaggedIdx_ge (i + 1) r
      cases hq : flaggedIdx (i + 1) r with
      | nil => simp only [removeIndices]; rw [← hq, ih]
      | cons r0 q =>
        have : i + 1 ≤ r0 := hge r0 (by simp [hq])
        simp only [removeIndices]
        rw [if_neg (by omega), ← hq, ih]
    · simp only [flaggedIdx, List.map_cons, unflag_cons_true, removeIndices, if_true]
      exact ih (i + 1)

theorem dropFlagged_eq {α} (l : List (α × Bool)) : dropFlagged l = unflag l :=
  removeIndices_flagged 0 l

/-! ## non-tiling input (Markdown / masked / Typst front-ends): in bounds, possibly with gaps, unordered, zero-width -/

/-- every token is a well-formed span inside a text of `n` characters (any order, gaps, zero width allowed) -/
def InBounds (n : Nat) (toks : List Tok) : Prop := ∀ t ∈ toks, t.span.start ≤ t.span.stop ∧ t.span.stop ≤ n

/-- both endpoints of every token are inside a text of `n` characters (the span may be reversed) -/
def EndsInBounds (n : Nat) (toks : List Tok) : Prop := ∀ t ∈ toks, t.span.start ≤ n ∧ t.span.stop ≤ n

instance (n : Nat) (toks : List Tok) : Decidable (InBounds n toks) :=
  inferInstanceAs (Decidable (∀ t ∈ toks, _))
instance (n : Nat) (toks : List Tok) : Decidable (EndsInBounds n toks) :=
  inferInstanceAs (Decidable (∀ t ∈ toks, _))

theorem InBounds.ends {n : Nat} {toks : List Tok} (h : InBounds n toks) : EndsInBounds n toks :=
  fun t ht => ⟨Nat.le_trans (h t ht).1 (h t ht).2, (h t ht).2⟩

/-- tokens in text order inside `[a, b]`: gaps and zero-width tokens allowed (`Tiles` with `≤` for `=` and `<`) -/
def Gap : List Tok → Nat → Nat → Prop
  | [], a, b => a ≤ b
  | t :: ts, a, b => a ≤ t.span.start ∧ t.span.start ≤ t.span.stop ∧ Gap ts t.span.stop b

instance : (ts : List Tok) → (a b : Nat) → Decidable (Gap ts a b)
  | [], a, b => inferInstanceAs (Decidable (a ≤ b))
  | t :: ts, _, b =>
    have := instDecidableGap ts t.span.stop b
    inferInstanceAs (Decidable (_ ∧ _ ∧ _))

/-- ordered (pairwise `stop ≤ start`), well-formed, in bounds -/
def SortedIn (n : Nat) (toks : List Tok) : Prop :=
  toks.Pairwise (fun x y => x.span.stop ≤ y.span.start) ∧ InBounds n toks

theorem Gap.le {ts : List Tok} {a b : Nat} (h : Gap ts a b) : a ≤ b := by
  induction ts generalizing a with
  | nil => exact h
  | cons t ts ih => obtain ⟨h1, h2, h3⟩ := h; have := ih h3; omega

theorem Gap.mono {ts : List Tok} {a a' b b' : Nat} (h : Gap ts a b) (ha : a' ≤ a) (hb : b ≤ b') : Gap ts a' b' := by
  induction ts generalizing a a' with
  | nil => simp only [Gap] at h ⊢; omega
  | cons t ts ih => obtain ⟨h1, h2, h3⟩ := h; exact ⟨by omega, h2, ih h3 (Nat.le_refl _)⟩

theorem Gap.append {l1 l2 : List Tok} {a m b : Nat} (h1 : Gap l1 a m) (h2 : Gap l2 m b) :
    Gap (l1 ++ l2) a b := by
  induction l1 generalizing a with
  | nil => simp only [Gap] at h1; simpa using h2.mono h1 (Nat.le_refl _)
  | cons t ts ih => obtain ⟨x, y, z⟩ := h1; exact ⟨x, y, ih z⟩

theorem Gap.of_append {l1 l2 : List Tok} {a b : Nat} (h : Gap (l1 ++ l2) a b) :
    ∃ m, Gap l1 a m ∧ Gap l2 m b := by
  induction l1 generalizing a with
  | nil => exact ⟨a, Nat.le_refl _, by simpa using h⟩
  | cons t ts ih =>
    obtain ⟨x, y, z⟩ := h
    obtain ⟨m, h1, h2⟩ := ih z
    exact ⟨m, ⟨x, y, h1⟩, h2⟩

theorem Gap.mem {ts : List Tok} {a b : Nat} (h : Gap ts a b) :
    ∀ t ∈ ts, a ≤ t.span.start ∧ t.span.start ≤ t.span.stop ∧ t.span.stop ≤ b := by
  induction ts generalizing a with
  | nil => intro t ht; cases ht
  | cons x ts ih =>
    obtain ⟨h1, h2, h3⟩ := h
    intro t ht
    rcases List.mem_cons.mp ht with rfl | ht
    · exact ⟨h1, h2, h3.le⟩
    · have := ih h3 t ht; omega

theorem Gap.sortedIn {ts : List Tok} {a b : Nat} (h : Gap ts a b) : SortedIn b ts := by
  refine ⟨?_, fun t ht => ⟨(h.mem t ht).2.1, (h.mem t ht).2.2⟩⟩
  induction ts generalizing a with
  | nil => exact List.Pairwise.nil
  | cons x ts ih =>
    obtain ⟨h1, h2, h3⟩ := h
    exact List.pairwise_cons.mpr ⟨fun y hy => (h3.mem y hy).1, ih h3⟩

theorem SortedIn.gap {n : Nat} {ts : List Tok} (h : SortedIn n ts) : Gap ts 0 n := by
  suffices ∀ a, (∀ t ∈ ts, a ≤ t.span.start) → a ≤ n → Gap ts a n from this 0 (fun _ _ => Nat.zero_le _) (Nat.zero_le _)
  obtain ⟨hp, hb⟩ := h
  induction ts with
  | nil => intro a _ ha; exact ha
  | cons x ts ih =>
    intro a ha _
    obtain ⟨hx, hp'⟩ := List.pairwise_cons.mp hp
    have hbx := hb x (by simp)
    exact ⟨ha x (by simp), hbx.1, ih hp' (fun t ht => hb t (List.mem_cons_of_mem _ ht)) _ hx hbx.2⟩

theorem gap_iff_sortedIn (n : Nat) (ts : List Tok) : Gap ts 0 n ↔ SortedIn n ts := ⟨Gap.sortedIn, SortedIn.gap⟩

theorem Tiles.gap {ts : List Tok} {a b : Nat} (h : Tiles ts a b) : Gap ts a b := by
  induction ts generalizing a with
  | nil => exact Nat.le_of_eq h
  | cons t ts ih => exact ⟨Nat.le_of_eq h.1.symm, Nat.le_of_lt (h.1 ▸ h.2.1), ih h.2.2⟩

theorem Tiles.stop_le {ts : List Tok} {a b : Nat} (h : Tiles ts a b) : ∀ t ∈ ts, t.span.stop ≤ b :=
  fun t ht => (h.gap.mem t ht).2.2

theorem Gap.inBounds {toks : List Tok} {p q n : Nat} (h : Gap toks p q) (hq : q ≤ n) : InBounds n toks :=
  fun t ht => ⟨(h.mem t ht).2.1, Nat.le_trans (h.mem t ht).2.2 hq⟩

/-! ## what the condensing passes do to a token vector -/

/-- `out` arises from `inp` by putting, any number of times and anywhere in the vector, one token `t` in the place of a
block `blk` of neighbours; `W blk t` says which blocks and which tokens. Every pass of `Document::parse` is of this kind
(`*_rewrites`), so whatever survives the writes survives the pass (`Rewrites.keeps`, `Rewrites.forall`). -/
inductive Rewrites (W : List Tok → Tok → Prop) : List Tok → List Tok → Prop
  | refl (l : List Tok) : Rewrites W l l
  | cons (a : Tok) {l l' : List Tok} : Rewrites W l l' → Rewrites W (a :: l) (a :: l')
  | write {blk : List Tok} {t : Tok} (l : List Tok) : W blk t → Rewrites W (blk ++ l) (t :: l)
  | trans {a b c : List Tok} : Rewrites W a b → Rewrites W b c → Rewrites W a c

/-- a property of the tokens between two text positions that survives the writes `W` -/
structure Closed (W : List Tok → Tok → Prop) (C : List Tok → Nat → Nat → Prop) : Prop where
  cons : ∀ (a : Tok) (l l' : List Tok) (p q : Nat), (∀ p', C l p' q → C l' p' q) → C (a :: l) p q → C (a :: l') p q
  write : ∀ (blk : List Tok) (t : Tok) (l : List Tok) (p q : Nat), W blk t → C (blk ++ l) p q → C (t :: l) p q

theorem Rewrites.keeps {W : List Tok → Tok → Prop} {C : List Tok → Nat → Nat → Prop} (hC : Closed W C)
    {inp out : List Tok} (h : Rewrites W inp out) : ∀ p q, C inp p q → C out p q := by
  induction h with
  | refl l => exact fun _ _ h => h
  | cons a _ ih => exact fun p q h => hC.cons a _ _ p q (fun p' => ih p' q) h
  | write l hW => exact fun p q h => hC.write _ _ l p q hW h
  | trans _ _ ih1 ih2 => exact fun p q h => ih2 p q (ih1 p q h)

/-- a property of single tokens that every written token inherits from its block -/
theorem Rewrites.forall {W : List Tok → Tok → Prop} {Ψ : Tok → Prop}
    (hΨ : ∀ blk t, W blk t → (∀ u ∈ blk, Ψ u) → Ψ t) {inp out : List Tok} (h : Rewrites W inp out)
    (hin : ∀ t ∈ inp, Ψ t) : ∀ t ∈ out, Ψ t :=
  h.keeps (C := fun l _ _ => ∀ t ∈ l, Ψ t)
    ⟨fun _ _ _ _ _ hl h => List.forall_mem_cons.mpr ⟨(List.forall_mem_cons.mp h).1, hl 0 (List.forall_mem_cons.mp h).2⟩,
      fun _ _ _ _ _ hW h => List.forall_mem_cons.mpr
        ⟨hΨ _ _ hW (fun u hu => h u (List.mem_append_left _ hu)), fun u hu => h u (List.mem_append_right _ hu)⟩⟩ 0 0 hin

theorem Rewrites.mono {W W' : List Tok → Tok → Prop} (hW : ∀ blk t, W blk t → W' blk t) {a b : List Tok}
    (h : Rewrites W a b) : Rewrites W' a b := by
  induction h with
  | refl l => exact .refl l
  | cons a _ ih => exact .cons a ih
  | write l h => exact .write l (hW _ _ h)
  | trans _ _ ih1 ih2 => exact .trans ih1 ih2

theorem Rewrites.eq_nil {W : List Tok → Tok → Prop} {inp out : List Tok} (h : Rewrites W inp out) :
    out = [] → inp = [] := by
  induction h with
  | refl l => exact id
  | cons a _ _ => exact fun e => nomatch e
  | write l _ => exact fun e => nomatch e
  | trans _ _ ih1 ih2 => exact fun e => ih1 (ih2 e)

/-- what the first token has and a written token inherits from the first token of its block, the first token keeps -/
theorem Rewrites.head {W : List Tok → Tok → Prop} {Ψ : Tok → Prop} (hW : ∀ t, ¬ W [] t)
    (hΨ : ∀ blk t, W blk t → (∀ u, blk.head? = some u → Ψ u) → Ψ t) {inp out : List Tok} (h : Rewrites W inp out) :
    (∀ u, inp.head? = some u → Ψ u) → ∀ u, out.head? = some u → Ψ u := by
  induction h with
  | refl l => exact id
  | cons a _ _ => exact id
  | @write blk t l h =>
    intro hin u hu
    cases hu
    refine hΨ _ _ h fun u hu => hin u ?_
    cases blk with
    | nil => exact absurd h (hW _)
    | cons b blk => exact hu
  | trans _ _ ih1 ih2 => exact fun h => ih2 (ih1 h)

/-- the same for the last token -/
theorem Rewrites.last {W : List Tok → Tok → Prop} {Ψ : Tok → Prop}
    (hΨ : ∀ blk t, W blk t → (∀ u, blk.getLast? = some u → Ψ u) → Ψ t) {inp out : List Tok} (h : Rewrites W inp out) :
    (∀ u, inp.getLast? = some u → Ψ u) → ∀ u, out.getLast? = some u → Ψ u := by
  induction h with
  | refl l => exact id
  | @cons a l l' h ih =>
    intro hin u hu
    cases l' with
    | nil => cases h.eq_nil rfl; exact hin u hu
    | cons b l' =>
      rw [List.getLast?_cons_cons] at hu
      refine ih (fun v hv => hin v ?_) u hu
      cases l with
      | nil => cases hv
      | cons c l => rw [List.getLast?_cons_cons]; exact hv
  | @write blk t l h =>
    intro hin u hu
    cases l with
    | nil =>
      cases hu
      exact hΨ _ _ h fun v hv => hin v (by rw [List.append_nil]; exact hv)
    | cons c l =>
      rw [List.getLast?_cons_cons] at hu
      refine hin u ?_
      rw [List.getLast?_append, hu]; rfl
  | trans _ _ ih1 ih2 => exact fun h => ih2 (ih1 h)

/-- two neighbours (adjacent in the text, if `adj`) become one token from the start of the first to the end of the
second: all that matters to a property of spans -/
inductive Merge2 (adj : Bool) : List Tok → Tok → Prop
  | mk (a b : Tok) (k : Kind) : (adj = true → a.span.stop = b.span.start) →
      Merge2 adj [a, b] ⟨⟨a.span.start, b.span.stop⟩, k⟩

/-- a token gets another kind -/
inductive Rekind (R : Kind → Kind → Prop) : List Tok → Tok → Prop
  | mk (a : Tok) (k : Kind) : R a.kind k → Rekind R [a] ⟨a.span, k⟩

theorem Tiles.closed {W : List Tok → Tok → Prop}
    (hW : ∀ blk t l p q, W blk t → Tiles (blk ++ l) p q → Tiles (t :: l) p q) : Closed W Tiles :=
  ⟨fun _ _ _ _ _ hl h => ⟨h.1, h.2.1, hl _ h.2.2⟩, hW⟩

theorem Gap.closed {W : List Tok → Tok → Prop}
    (hW : ∀ blk t l p q, W blk t → Gap (blk ++ l) p q → Gap (t :: l) p q) : Closed W Gap :=
  ⟨fun _ _ _ _ _ hl h => ⟨h.1, h.2.1, hl _ h.2.2⟩, hW⟩

theorem Tiles.merge2 {adj : Bool} : Closed (Merge2 adj) Tiles :=
  Tiles.closed fun _ _ _ _ _ hW h => by
    cases hW
    exact ⟨h.1, Nat.lt_trans h.2.1 (h.2.2.1 ▸ h.2.2.2.1), h.2.2.2.2⟩

theorem Gap.merge2 {adj : Bool} : Closed (Merge2 adj) Gap :=
  Gap.closed fun _ _ _ _ _ hW h => by
    cases hW
    exact ⟨h.1, Nat.le_trans h.2.1 (Nat.le_trans h.2.2.1 h.2.2.2.1), h.2.2.2.2⟩

theorem Tiles.rekind {R : Kind → Kind → Prop} : Closed (Rekind R) Tiles :=
  Tiles.closed fun _ _ _ _ _ hW h => by cases hW; exact h

theorem Gap.rekind {R : Kind → Kind → Prop} : Closed (Rekind R) Gap :=
  Gap.closed fun _ _ _ _ _ hW h => by cases hW; exact h

/-- a property of spans that survives merging a span with a later one (adjacent, if `adj`) -/
theorem Merge2.span {adj : Bool} (P : Span → Prop)
    (hmerge : ∀ s c : Span, P s → P c → (adj = true → s.stop = c.start) → P ⟨s.start, c.stop⟩) {blk : List Tok} {t : Tok}
    (hW : Merge2 adj blk t) (h : ∀ u ∈ blk, P u.span) : P t.span := by
  obtain ⟨a, b, _, hadj⟩ := hW
  exact hmerge _ _ (h a (by simp)) (h b (by simp)) hadj

theorem Rekind.span {R : Kind → Kind → Prop} (P : Span → Prop) {blk : List Tok} {t : Tok} (hW : Rekind R blk t)
    (h : ∀ u ∈ blk, P u.span) : P t.span := by
  obtain ⟨a, _, _⟩ := hW
  exact h a (by simp)

theorem Tiles.single {t : Tok} {p : Nat} (h1 : t.span.start = p) (h2 : p < t.span.stop) :
    Tiles [t] p t.span.stop := ⟨h1, h2, rfl⟩

/-! ## `condense_spaces` / `condense_newlines` / `newlines_to_breaks` -/

/-- a run of `n` so far takes in a child that counts `m` -/
inductive RunW (cfg : RunCfg) : List Tok → Tok → Prop
  | mk (a b : Tok) (n m : Nat) : a.kind = cfg.mkKind n → cfg.sel b.kind = some m →
      (cfg.adj = true → a.span.stop = b.span.start) →
      RunW cfg [a, b] ⟨⟨a.span.start, b.span.stop⟩, cfg.mkKind (n + m)⟩

theorem RunW.merge2 {cfg : RunCfg} {blk : List Tok} {t : Tok} (h : RunW cfg blk t) : Merge2 cfg.adj blk t := by
  obtain ⟨a, b, _, _, _, _, hadj⟩ := h
  exact .mk a b _ hadj

/-- the kind a run starts from is the kind it is closed with -/
def RunCfg.Exact (cfg : RunCfg) : Prop := ∀ k n, cfg.sel k = some n → k = cfg.mkKind n

theorem spacesCfg_exact : spacesCfg.Exact := fun k n h => by
  cases k <;> cases h; rfl

theorem newlinesCfg_exact : newlinesCfg.Exact := fun k n h => by
  cases k <;> cases h; rfl

/-- In `absorb` mode the run merged so far stands for one token with span `s` in front of the tokens still to
come; `held` (the tokens merged into it) is all flagged. -/
theorem runGo_rewrites {cfg : RunCfg} (hcfg : cfg.Exact) (toks : List Tok) :
    Rewrites (RunW cfg) toks (unflag (runGo cfg .scan toks)) ∧
    ∀ s n held, unflag held.reverse = [] →
      Rewrites (RunW cfg) (⟨s, cfg.mkKind n⟩ :: toks) (unflag (runGo cfg (.absorb s n held) toks)) := by
  induction toks with
  | nil =>
    refine ⟨.refl _, fun s n held hh => ?_⟩
    simp only [runGo, unflag_cons_false, hh]
    exact .refl _
  | cons c r ih =>
    obtain ⟨ih1, ih2⟩ := ih
    -- the run ends before `c`
    have emit : ∀ (s : Span) (n : Nat) (held : List (Tok × Bool)), unflag held.reverse = [] →
        Rewrites (RunW cfg) (⟨s, cfg.mkKind n⟩ :: c :: r)
          (unflag ((⟨s, cfg.mkKind n⟩, false) :: (held.reverse ++ (c, false) :: runGo cfg .scan r))) := by
      intro s n held hh
      simp only [unflag_cons_false, unflag_append, hh, List.nil_append]
      exact .cons _ (.cons c ih1)
    refine ⟨?_, fun s n held hh => ?_⟩
    · simp only [runGo]
      cases hs : cfg.sel c.kind with
      | some n => have := ih2 c.span n [] rfl; rwa [← hcfg _ _ hs] at this
      | none => simp only [unflag_cons_false]; exact .cons c ih1
    · simp only [runGo]
      by_cases hadj : (cfg.adj && s.stop != c.span.start) = true
      · rw [if_pos hadj]; exact emit s n held hh
      · rw [if_neg hadj]
        cases hs : cfg.sel c.kind with
        | some m =>
          refine .trans (.write (blk := [⟨s, cfg.mkKind n⟩, c]) r (.mk _ c n m rfl hs fun ha => by simpa [ha] using hadj))
            (ih2 ⟨s.start, c.span.stop⟩ (n + m) ((c, true) :: held) ?_)
          rw [List.reverse_cons, unflag_append, hh]; rfl
        | none => exact emit s n held hh

/-- `condense_spaces`, `condense_newlines` -/
theorem condenseRun_rewrites {cfg : RunCfg} (hcfg : cfg.Exact) (toks : List Tok) :
    Rewrites (RunW cfg) toks (dropFlagged (runGo cfg .scan toks)) :=
  dropFlagged_eq _ ▸ (runGo_rewrites hcfg toks).1

theorem condenseSpaces_rewrites (toks : List Tok) : Rewrites (RunW spacesCfg) toks (condenseSpaces toks) :=
  condenseRun_rewrites spacesCfg_exact toks

theorem condenseNewlines_rewrites (toks : List Tok) : Rewrites (RunW newlinesCfg) toks (condenseNewlines toks) :=
  condenseRun_rewrites newlinesCfg_exact toks

/-- a map that only changes kinds -/
theorem rekind_rewrites {R : Kind → Kind → Prop} (f : Kind → Kind) (hf : ∀ k, f k = k ∨ R k (f k)) (toks : List Tok) :
    Rewrites (Rekind R) toks (toks.map fun t => ⟨t.span, f t.kind⟩) := by
  induction toks with
  | nil => exact .refl _
  | cons t ts ih =>
    refine .trans (.cons t ih) ?_
    rcases hf t.kind with h | h
    · rw [List.map_cons, h]; exact .refl _
    · exact .write (blk := [t]) _ (.mk t _ h)

/-- a newline token of two or more becomes a paragraph break -/
def BreakK (k k' : Kind) : Prop := ∃ n, k = .newline n ∧ n ≥ 2 ∧ k' = .paragraphBreak

theorem newlinesToBreaks_rewrites (toks : List Tok) : Rewrites (Rekind BreakK) toks (newlinesToBreaks toks) := by
  refine rekind_rewrites breakKind (fun k => ?_) toks
  cases k with
  | newline n =>
    by_cases h : n ≥ 2
    · exact Or.inr ⟨n, rfl, h, by simp [breakKind, h]⟩
    · exact Or.inl (by simp [breakKind, h])
  | _ => exact Or.inl rfl

/-! ## `condense_dotted_initialisms` -/

/-- a word takes in the token after it and keeps its kind -/
inductive InitW : List Tok → Tok → Prop
  | mk (a b : Tok) : a.kind.isWord = true → InitW [a, b] ⟨⟨a.span.start, b.span.stop⟩, a.kind⟩

theorem InitW.merge2 {blk : List Tok} {t : Tok} (h : InitW blk t) : Merge2 false blk t := by
  obtain ⟨a, b, _⟩ := h
  exact .mk a b _ (fun h => nomatch h)

theorem isInitialismChunk_word {a b : Tok} (h : isInitialismChunk a b = true) : a.kind.isWord = true := by
  simp only [isInitialismChunk, Bool.and_eq_true] at h; exact h.1.1

/-- Inside an initialism the part consumed so far stands for one token from the start of `st` to `e`. -/
theorem initGo_rewrites : ∀ (toks : List Tok),
    Rewrites InitW toks (unflag (initGo .idle toks)) ∧
    ∀ st e held, st.kind.isWord = true → unflag held.reverse = [] →
      Rewrites InitW (⟨⟨st.span.start, e⟩, st.kind⟩ :: toks) (unflag (initGo (.inside st e held) toks))
  | [] => by
    refine ⟨.refl _, fun st e held _ hh => ?_⟩
    simp only [initGo, List.map_nil, List.append_nil, unflag_cons_false, hh]
    exact .refl _
  | [a] => by
    refine ⟨.refl _, fun st e held _ hh => ?_⟩
    simp only [initGo, List.map_cons, List.map_nil, unflag_cons_false, unflag_append, hh, List.nil_append, unflag_nil]
    exact .refl _
  | a :: b :: rest => by
    have ihr := initGo_rewrites rest
    have ihb := initGo_rewrites (b :: rest)
    refine ⟨?_, fun st e held hw hh => ?_⟩
    · simp only [initGo]
      by_cases hc : isInitialismChunk a b = true
      · rw [if_pos hc]
        have hw := isInitialismChunk_word hc
        exact .trans (.write (blk := [a, b]) rest (.mk a b hw)) (ihr.2 a b.span.stop [(b, true)] hw rfl)
      · rw [if_neg hc, unflag_cons_false]
        exact .cons a ihb.1
    · simp only [initGo]
      by_cases hc : isInitialismChunk a b = true
      · rw [if_pos hc]
        refine .trans (.write (blk := [⟨⟨st.span.start, e⟩, st.kind⟩, a]) (b :: rest) (.mk _ a hw)) (.trans
          (.write (blk := [⟨⟨st.span.start, a.span.stop⟩, st.kind⟩, b]) rest (.mk _ b hw)) (ihr.2 st b.span.stop _ hw ?_))
        rw [List.reverse_cons, List.reverse_cons, unflag_append, unflag_append, hh]; rfl
      · rw [if_neg hc, unflag_cons_false, unflag_append, hh, List.nil_append, unflag_cons_false]
        exact .cons _ (.cons a ihb.1)

theorem dottedInitialisms_rewrites (toks : List Tok) : Rewrites InitW toks (dottedInitialisms toks) :=
  show Rewrites InitW toks (dropFlagged _) from dropFlagged_eq _ ▸ (initGo_rewrites toks).1

/-! ## `condense_indices`, `condense_number_suffixes` -/

/-! ### kinds -/

theorem isWord_not_isNumber {k : Kind} (h : k.isWord = true) : k.isNumber = false := by
  cases k <;> simp_all [Kind.isWord, Kind.isNumber]

theorem isWord_not_isWhitespace {k : Kind} (h : k.isWord = true) : k.isWhitespace = false := by
  cases k <;> simp_all [Kind.isWord, Kind.isWhitespace]

theorem isWord_not_isSpace {k : Kind} (h : k.isWord = true) : k.isSpace = false := by
  cases k <;> simp_all [Kind.isWord, Kind.isSpace]

theorem setSuffix_kind (s : Suffix) (k : Kind) : setSuffix s k = k ∨ ∃ r, setSuffix s k = .number r (some s) := by
  cases k <;> simp [setSuffix]

theorem setSuffix_number {k : Kind} (h : k.isNumber = true) (s : Suffix) : ∃ r, setSuffix s k = .number r (some s) := by
  cases k <;> simp_all [Kind.isNumber, setSuffix]

/-! ## `TokenStringExt::span` (`spanOf`): the least interval that holds every endpoint -/

theorem foldl_min_glb (ts : List Tok) (m : Nat) :
    (ts.foldl (fun m x => min (min m x.span.start) x.span.stop) m ≤ m ∧
      ∀ t ∈ ts, ts.foldl (fun m x => min (min m x.span.start) x.span.stop) m ≤ min t.span.start t.span.stop) ∧
    ∀ p, p ≤ m → (∀ t ∈ ts, p ≤ min t.span.start t.span.stop) →
      p ≤ ts.foldl (fun m x => min (min m x.span.start) x.span.stop) m := by
  induction ts generalizing m with
  | nil => exact ⟨⟨Nat.le_refl _, nofun⟩, fun _ h _ => h⟩
  | cons a ts ih =>
    obtain ⟨⟨h1, h2⟩, h3⟩ := ih (min (min m a.span.start) a.span.stop)
    simp only [List.foldl_cons, List.forall_mem_cons]
    exact ⟨⟨by omega, by omega, h2⟩, fun p hm hp => h3 p (by omega) hp.2⟩

theorem foldl_max_lub (ts : List Tok) (m : Nat) :
    (m ≤ ts.foldl (fun m x => max (max m x.span.start) x.span.stop) m ∧
      ∀ t ∈ ts, max t.span.start t.span.stop ≤ ts.foldl (fun m x => max (max m x.span.start) x.span.stop) m) ∧
    ∀ n, m ≤ n → (∀ t ∈ ts, max t.span.start t.span.stop ≤ n) →
      ts.foldl (fun m x => max (max m x.span.start) x.span.stop) m ≤ n := by
  induction ts generalizing m with
  | nil => exact ⟨⟨Nat.le_refl _, nofun⟩, fun _ h _ => h⟩
  | cons a ts ih =>
    obtain ⟨⟨h1, h2⟩, h3⟩ := ih (max (max m a.span.start) a.span.stop)
    simp only [List.foldl_cons, List.forall_mem_cons]
    exact ⟨⟨by omega, by omega, h2⟩, fun n hm hn => h3 n (by omega) hn.2⟩

/-- `TokenStringExt::span` covers every token … -/
theorem spanOf_covers {l : List Tok} {sp : Span} (h : spanOf l = some sp) : ∀ t ∈ l,
    sp.start ≤ t.span.start ∧ sp.start ≤ t.span.stop ∧ t.span.start ≤ sp.stop ∧ t.span.stop ≤ sp.stop := by
  cases l with
  | nil => cases h
  | cons a ts =>
    cases h
    have ⟨⟨h1, h2⟩, _⟩ := foldl_min_glb ts (min a.span.start a.span.stop)
    have ⟨⟨h3, h4⟩, _⟩ := foldl_max_lub ts (max a.span.start a.span.stop)
    refine List.forall_mem_cons.mpr ⟨by dsimp only; omega, fun t ht => ?_⟩
    have := h2 t ht
    have := h4 t ht
    dsimp only; omega

/-- … is never reversed, and lies inside any interval that holds every endpoint -/
theorem spanOf_bounds {l : List Tok} {sp : Span} (h : spanOf l = some sp) (p n : Nat)
    (hb : ∀ t ∈ l, (p ≤ t.span.start ∧ p ≤ t.span.stop) ∧ t.span.start ≤ n ∧ t.span.stop ≤ n) :
    p ≤ sp.start ∧ sp.start ≤ sp.stop ∧ sp.stop ≤ n := by
  cases l with
  | nil => cases h
  | cons a ts =>
    cases h
    have ⟨ha, hts⟩ := List.forall_mem_cons.mp hb
    have ⟨⟨h1, _⟩, h2⟩ := foldl_min_glb ts (min a.span.start a.span.stop)
    have ⟨⟨h3, _⟩, h4⟩ := foldl_max_lub ts (max a.span.start a.span.stop)
    exact ⟨h2 p (by omega) fun t ht => by have := hts t ht; omega, by dsimp only; omega,
      h4 n (by omega) fun t ht => by have := hts t ht; omega⟩

/-- `TokenStringExt::span` of tokens whose endpoints are inside the text is a well-formed span inside the text -/
theorem spanOf_ok (n : Nat) (l : List Tok) (sp : Span) (h : spanOf l = some sp) (hin : EndsInBounds n l) :
    sp.start ≤ sp.stop ∧ sp.stop ≤ n :=
  (spanOf_bounds h 0 n fun t ht => ⟨⟨Nat.zero_le _, Nat.zero_le _⟩, hin t ht⟩).2

theorem spanOf_endsInBounds (n : Nat) (slice : List Tok) (sp : Span) (h : EndsInBounds n slice)
    (hsp : spanOf slice = some sp) : sp.start ≤ n ∧ sp.stop ≤ n :=
  have := spanOf_ok n slice sp hsp h
  ⟨Nat.le_trans this.1 this.2, this.2⟩

theorem spanOf_inBounds (n : Nat) (slice : List Tok) (sp : Span) (h : InBounds n slice)
    (hsp : spanOf slice = some sp) : sp.start ≤ sp.stop ∧ sp.stop ≤ n :=
  spanOf_ok n slice sp hsp fun t ht => ⟨Nat.le_trans (h t ht).1 (h t ht).2, (h t ht).2⟩

theorem spanOf_eq_none {l : List Tok} (h : spanOf l = none) : l = [] := by
  cases l with
  | nil => rfl
  | cons t ts => cases h

/-! ## `sliceE` -/

theorem sliceE_ok {α} {l : List α} {a b : Nat} (h1 : a ≤ b) (h2 : b ≤ l.length) :
    sliceE l a b = .ok ((l.drop a).take (b - a)) := if_neg (by omega)

theorem sliceE_map {α β} (f : α → β) (l : List α) (a b : Nat) :
    sliceE (l.map f) a b = (sliceE l a b).map (List.map f) := by
  unfold sliceE
  simp only [List.length_map]
  split
  · rfl
  · simp [Except.map, List.map_take, List.map_drop]

theorem sliceE_cons {α} (a : α) (l : List α) (x y : Nat) :
    sliceE (a :: l) (x + 1) (y + 1) = sliceE l x y := by
  simp only [sliceE, List.length_cons, List.drop_succ_cons, Nat.add_sub_add_right, gt_iff_lt,
    Nat.add_lt_add_iff_right]

theorem sliceE_zero_cons {α} (a : α) (l : List α) (y : Nat) :
    sliceE (a :: l) 0 (y + 1) = (sliceE l 0 y).map (a :: ·) := by
  simp only [sliceE, List.length_cons, List.drop_zero, Nat.sub_zero, gt_iff_lt, Nat.not_lt_zero, false_or,
    Nat.add_lt_add_iff_right, List.take_succ_cons]
  by_cases h : l.length < y
  · rw [if_pos h, if_pos h]; rfl
  · rw [if_neg h, if_neg h]; rfl

-- `stretch_len = 2` is the only value `condense_number_suffixes` passes; the `_hit` lemmas need it (token `idx + 1`
-- is the one removed)
theorem stretchSpans_cons (a : Tok) (idx : List Nat) (l : List Tok) :
    stretchSpans 2 (idx.map (· + 1)) (a :: l) = (stretchSpans 2 idx l).map (a :: ·) := by
  induction idx generalizing l with
  | nil => simp [stretchSpans, Except.map]
  | cons i r ih =>
    simp only [List.map_cons, stretchSpans]
    have e1 : i + 1 + 2 - 1 = (i + 2 - 1) + 1 := by omega
    rw [if_neg (by omega), if_neg (by omega), e1, List.getElem?_cons_succ, List.getElem?_cons_succ]
    cases h1 : l[i + 2 - 1]? with
    | none => rfl
    | some e =>
      cases h2 : l[i]? with
      | none => rfl
      | some s => simp only [List.set_cons_succ]; exact ih _

theorem keepPieces_cons (k : Nat) (a : Tok) (old : List Tok) (idx : List Nat) :
    keepPieces k (a :: old) (idx.map (· + 1)) = keepPieces k old idx := by
  match idx with
  | [] => simp [keepPieces]
  | [x] => simp [keepPieces]
  | x :: y :: r =>
    have ih := keepPieces_cons k a old (y :: r)
    simp only [List.map_cons] at ih ⊢
    simp only [keepPieces]
    have e : x + 1 + k = (x + k) + 1 := by omega
    rw [List.getElem?_cons_succ, e, sliceE_cons, ih]

theorem condenseIndices_nil (k : Nat) (l : List Tok) : condenseIndices [] k l = .ok l := by
  simp [condenseIndices, stretchSpans, keepPieces, sliceE]

theorem condenseIndices_cons (a : Tok) (idx : List Nat) (l : List Tok) :
    condenseIndices (idx.map (· + 1)) 2 (a :: l) = (condenseIndices idx 2 l).map (a :: ·) := by
  cases idx with
  | nil => simp [condenseIndices_nil, Except.map]
  | cons i r =>
    unfold condenseIndices
    rw [stretchSpans_cons]
    cases hs : stretchSpans 2 (i :: r) l with
    | error e => simp [Except.map]
    | ok old =>
      simp only [Except.map]
      rw [keepPieces_cons, List.getLast?_map]
      simp only [List.map_cons, List.head?_cons, Option.getD_some, List.length_cons]
      rw [sliceE_zero_cons]
      obtain ⟨x, hx⟩ : ∃ x, (i :: r).getLast? = some x := by
        cases h : (i :: r).getLast? with
        | none => simp at h
        | some x => exact ⟨x, rfl⟩
      rw [hx]
      simp only [Option.map_some, Option.getD_some]
      have e : x + 1 + 2 = (x + 2) + 1 := by omega
      rw [e, sliceE_cons]
      cases sliceE old 0 i <;> cases keepPieces 2 old (i :: r) <;> cases sliceE old (x + 2) old.length <;> rfl

theorem map_add_one_add (l : List Nat) (i : Nat) : (l.map (· + 1)).map (· + i) = l.map (· + (i + 1)) := by
  induction l with
  | nil => rfl
  | cons x r ih => simp only [List.map_cons, ih]; congr 1; omega

theorem sliceE_cons2 {α} (a b : α) (l : List α) (x y : Nat) :
    sliceE (a :: b :: l) (x + 2) (y + 2) = sliceE l x y := by
  rw [show x + 2 = (x + 1) + 1 from rfl, show y + 2 = (y + 1) + 1 from rfl, sliceE_cons, sliceE_cons]

theorem stretchSpans_zero (a b : Tok) (idx : List Nat) (l : List Tok) :
    stretchSpans 2 (0 :: idx) (a :: b :: l) =
      stretchSpans 2 idx (⟨⟨a.span.start, b.span.stop⟩, a.kind⟩ :: b :: l) := by
  simp [stretchSpans]

theorem condenseIndices_hit (a b : Tok) (idx : List Nat) (l : List Tok) :
    condenseIndices (0 :: idx.map (· + 2)) 2 (a :: b :: l) =
      (condenseIndices idx 2 l).map (⟨⟨a.span.start, b.span.stop⟩, a.kind⟩ :: ·) := by
  cases idx with
  | nil =>
    rw [condenseIndices_nil]
    unfold condenseIndices
    rw [List.map_nil, stretchSpans_zero]
    have h0 : ∀ X : List Tok, stretchSpans 2 [] X = .ok X := fun X => by simp [stretchSpans]
    rw [h0]
    have h2 : ¬ (l.length + 1 + 1 < 2) := by omega
    simp [keepPieces, sliceE, Except.map, h2]
  | cons c r =>
    unfold condenseIndices
    rw [stretchSpans_zero, ← map_add_one_add _ 1, stretchSpans_cons, stretchSpans_cons]
    cases hs : stretchSpans 2 (c :: r) l with
    | error e => simp [Except.map]
    | ok old =>
      simp only [Except.map, List.head?_cons, Option.getD_some]
      obtain ⟨x, hx⟩ : ∃ x, (c :: r).getLast? = some x := by
        cases h : (c :: r).getLast? with
        | none => simp at h
        | some x => exact ⟨x, rfl⟩
      have hl : (0 :: List.map (· + 1) (List.map (· + 1) (c :: r))).getLast? = some (x + 1 + 1) := by
        simp only [List.map_cons, List.getLast?_cons_cons]
        have := congrArg (Option.map (· + 1)) (congrArg (Option.map (· + 1)) hx)
        rw [← List.getLast?_map, ← List.getLast?_map] at this
        simpa using this
      rw [hl, hx]
      simp only [Option.map_some, Option.getD_some, List.length_cons, List.map_cons, keepPieces,
        List.getElem?_cons_zero]
      have e1 : c + 1 + 1 = c + 2 := rfl
      have e2 : x + 1 + 1 + 2 = (x + 2) + 2 := by omega
      have e3 : old.length + 1 + 1 = old.length + 2 := rfl
      have hk := (keepPieces_cons 2 ⟨⟨a.span.start, b.span.stop⟩, a.kind⟩ (b :: old) ((c :: r).map (· + 1))).trans
        (keepPieces_cons 2 b old (c :: r))
      simp only [List.map_cons] at hk
      rw [hk, e1, e2, e3, sliceE_cons2, sliceE_cons2]
      have h0 : sliceE (⟨⟨a.span.start, b.span.stop⟩, a.kind⟩ :: b :: old) 0 0 = .ok [] := by
        simp [sliceE]
      rw [h0]
      cases sliceE old 0 c <;> cases keepPieces 2 old (c :: r) <;> cases sliceE old (x + 2) old.length <;> rfl

/-! ### the scan of `condense_number_suffixes` -/

/-- shifting the start index of the scan shifts the indices found -/
theorem suffixScan_shift (src : List Char) (toks : List Tok) (i : Nat) :
    suffixScan src i toks = (suffixScan src 0 toks).map (fun r => (r.1, r.2.map (· + i))) := by
  induction toks generalizing i with
  | nil => simp [suffixScan, Except.map]
  | cons a t ih =>
    cases t with
    | nil => simp [suffixScan, Except.map]
    | cons b rest =>
      unfold suffixScan
      cases suffixHit src a b with
      | error e => simp [Except.map]
      | ok hit =>
        simp only
        rw [ih (i + 1), ih (0 + 1)]
        cases suffixScan src 0 (b :: rest) with
        | error e => simp [Except.map]
        | ok r =>
          obtain ⟨ts, idx⟩ := r
          cases hit <;> simp [Except.map] <;> intros <;> omega

theorem suffixScan_word (src : List Char) (b : Tok) (rest : List Tok) (hb : b.kind.isWord = true) :
    suffixScan src 0 (b :: rest) =
      (suffixScan src 0 rest).map (fun r => (b :: r.1, r.2.map (· + 1))) := by
  cases rest with
  | nil => simp [suffixScan, Except.map]
  | cons c rest' =>
    rw [suffixScan]
    have : suffixHit src b c = .ok none := by simp [suffixHit, isWord_not_isNumber hb]
    rw [this, suffixScan_shift]
    cases suffixScan src 0 (c :: rest') with
    | error e => simp [Except.map]
    | ok r => simp [Except.map]

theorem fromChars_ok_of_len2 (cs : List Char) (h : cs.length = 2) : ∃ r, fromChars cs = .ok r := by
  unfold fromChars
  split
  · exact ⟨_, rfl⟩
  · match cs, h with
    | [a, b], _ => exact ⟨_, rfl⟩

theorem suffixHit_ok (src : List Char) (a b : Tok) (h1 : b.span.start ≤ b.span.stop)
    (h2 : b.span.stop ≤ src.length) : ∃ r, suffixHit src a b = .ok r := by
  unfold suffixHit
  by_cases hk : (a.kind.isNumber && b.kind.isWord) = true
  · rw [if_pos hk, if_neg (Nat.not_lt.mpr h1)]
    by_cases hlen : (b.span.len != 2) = true
    · rw [if_pos hlen]; exact ⟨_, rfl⟩
    · rw [if_neg hlen, Span.getContent_of_le _ _ h1 h2]
      have hl : b.span.stop - b.span.start = 2 := by simpa [Span.len] using hlen
      exact fromChars_ok_of_len2 _ (by rw [List.length_take, List.length_drop]; omega)
  · rw [if_neg hk]; exact ⟨_, rfl⟩

theorem getContent_eq_ok {α} {s : Span} {src cs : List α} (h : s.getContent src = .ok cs) :
    s.start ≤ s.stop ∧ cs = (src.drop s.start).take (s.stop - s.start) :=
  ⟨Nat.le_of_not_gt (fun h1 => by unfold Span.getContent at h; rw [if_pos h1] at h; cases h),
    Span.getContent_of_ok h⟩

theorem suffixHit_eq_some {src : List Char} {a b : Tok} {s : Suffix} (h : suffixHit src a b = .ok (some s)) :
    a.kind.isNumber = true ∧ b.kind.isWord = true ∧ b.span.start ≤ b.span.stop ∧ b.span.stop - b.span.start = 2 ∧
      fromChars ((src.drop b.span.start).take (b.span.stop - b.span.start)) = .ok (some s) := by
  unfold suffixHit at h
  by_cases hc : (a.kind.isNumber && b.kind.isWord) = true
  · rw [if_pos hc] at h
    by_cases h1 : b.span.start > b.span.stop
    · rw [if_pos h1] at h; cases h
    · rw [if_neg h1] at h
      by_cases h2 : (b.span.len != 2) = true
      · rw [if_pos h2] at h; cases h
      · rw [if_neg h2] at h
        cases hg : b.span.getContent src with
        | error e => rw [hg] at h; cases h
        | ok cs =>
          rw [hg] at h
          obtain ⟨hle, rfl⟩ := getContent_eq_ok hg
          rw [Bool.and_eq_true] at hc
          rw [bne_iff_ne, Decidable.not_not] at h2
          exact ⟨hc.1, hc.2, hle, h2, h⟩
  · rw [if_neg hc] at h; cases h

/-! ### `condense_number_suffixes` in closed form -/

theorem List.twoStepInduction {α} {P : List α → Prop} (nil : P []) (single : ∀ a, P [a])
    (cons₂ : ∀ a b r, P r → P (b :: r) → P (a :: b :: r)) : ∀ l, P l := by
  intro l
  suffices h : P l ∧ ∀ a, P (a :: l) from h.1
  induction l with
  | nil => exact ⟨nil, single⟩
  | cons b r ih => exact ⟨ih.2 b, fun a => cons₂ a b r ih.1 (ih.2 b)⟩

theorem Except.map_eq_ok {ε α β} {f : α → β} {x : Except ε α} {y : β} (h : x.map f = .ok y) :
    ∃ a, x = .ok a ∧ f a = y := by
  cases x with
  | error e => cases h
  | ok a => exact ⟨a, rfl, Except.ok.inj h⟩

/-- `condense_number_suffixes` without its (redundant) length guard -/
def NS (src : List Char) (l : List Tok) : Except Panic (List Tok) :=
  match suffixScan src 0 l with
  | .error e => .error e
  | .ok (ts, idx) => condenseIndices idx 2 ts

theorem numberSuffixes_eq_NS (src : List Char) (l : List Tok) : numberSuffixes src l = NS src l := by
  unfold numberSuffixes NS
  split
  · match l with
    | [] => simp [suffixScan, condenseIndices_nil]
    | [a] => simp [suffixScan, condenseIndices_nil]
    | _ :: _ :: _ => rename_i h; simp only [List.length_cons] at h; omega
  · rfl

theorem NS_nil (src : List Char) : NS src [] = .ok [] := by simp [NS, suffixScan, condenseIndices_nil]
theorem NS_single (src : List Char) (a : Tok) : NS src [a] = .ok [a] := by
  simp [NS, suffixScan, condenseIndices_nil]

theorem NS_cons_err (src : List Char) (a b : Tok) (rest : List Tok) (e : Panic)
    (h : suffixHit src a b = .error e) : NS src (a :: b :: rest) = .error e := by
  simp [NS, suffixScan, h]

theorem NS_cons_none (src : List Char) (a b : Tok) (rest : List Tok) (h : suffixHit src a b = .ok none) :
    NS src (a :: b :: rest) = (NS src (b :: rest)).map (a :: ·) := by
  unfold NS
  rw [suffixScan, h, suffixScan_shift]
  cases suffixScan src 0 (b :: rest) with
  | error e => rfl
  | ok r =>
    obtain ⟨ts, idx⟩ := r
    simp only [Except.map]
    exact condenseIndices_cons a idx ts

theorem NS_cons_some (src : List Char) (a b : Tok) (rest : List Tok) (s : Suffix)
    (h : suffixHit src a b = .ok (some s)) :
    NS src (a :: b :: rest) =
      (NS src rest).map (⟨⟨a.span.start, b.span.stop⟩, setSuffix s a.kind⟩ :: ·) := by
  have hw := (suffixHit_eq_some h).2.1
  unfold NS
  rw [suffixScan, h, suffixScan_shift, suffixScan_word _ _ _ hw]
  cases suffixScan src 0 rest with
  | error e => rfl
  | ok r =>
    obtain ⟨ts, idx⟩ := r
    simp only [Except.map]
    have := condenseIndices_hit ⟨a.span, setSuffix s a.kind⟩ b idx ts
    rw [map_add_one_add, this]
    rfl

/-- a number takes in the two-letter word after it that spells a suffix -/
inductive SufW (src : List Char) : List Tok → Tok → Prop
  | mk (a b : Tok) (s : Suffix) : suffixHit src a b = .ok (some s) →
      SufW src [a, b] ⟨⟨a.span.start, b.span.stop⟩, setSuffix s a.kind⟩

theorem SufW.merge2 {src : List Char} {blk : List Tok} {t : Tok} (h : SufW src blk t) : Merge2 false blk t := by
  obtain ⟨a, b, _, _⟩ := h
  exact .mk a b _ (fun h => nomatch h)

theorem NS_rewrites (src : List Char) : ∀ (l out : List Tok), NS src l = .ok out → Rewrites (SufW src) l out := by
  intro l
  induction l using List.twoStepInduction with
  | nil => intro out h; rw [NS_nil] at h; cases h; exact .refl _
  | single a => intro out h; rw [NS_single] at h; cases h; exact .refl _
  | cons₂ a b rest ihr ihb =>
    intro out h
    cases hh : suffixHit src a b with
    | error e => rw [NS_cons_err _ _ _ _ e hh] at h; cases h
    | ok hit =>
      cases hit with
      | none =>
        rw [NS_cons_none _ _ _ _ hh] at h
        obtain ⟨out', ho, rfl⟩ := Except.map_eq_ok h
        exact .cons a (ihb out' ho)
      | some s =>
        rw [NS_cons_some _ _ _ _ s hh] at h
        obtain ⟨out', ho, rfl⟩ := Except.map_eq_ok h
        exact .trans (.write (blk := [a, b]) rest (.mk a b s hh)) (.cons _ (ihr out' ho))

theorem NS_ok (src : List Char) : ∀ (l : List Tok), InBounds src.length l → ∃ out, NS src l = .ok out := by
  intro l
  induction l using List.twoStepInduction with
  | nil => exact fun _ => ⟨_, NS_nil src⟩
  | single a => exact fun _ => ⟨_, NS_single src a⟩
  | cons₂ a b rest ihr ihb =>
    intro hin
    have hb := hin b (List.mem_cons_of_mem _ List.mem_cons_self)
    have hinb : InBounds src.length (b :: rest) := fun t ht => hin t (List.mem_cons_of_mem _ ht)
    obtain ⟨hit, hh⟩ := suffixHit_ok src a b hb.1 hb.2
    cases hit with
    | none => obtain ⟨o, ho⟩ := ihb hinb; exact ⟨_, by rw [NS_cons_none _ _ _ _ hh, ho]; rfl⟩
    | some s =>
      obtain ⟨o, ho⟩ := ihr (fun t ht => hinb t (List.mem_cons_of_mem _ ht))
      exact ⟨_, by rw [NS_cons_some _ _ _ _ s hh, ho]; rfl⟩

theorem numberSuffixes_rewrites {src : List Char} {toks out : List Tok} (h : numberSuffixes src toks = .ok out) :
    Rewrites (SufW src) toks out := NS_rewrites src toks out (numberSuffixes_eq_NS src toks ▸ h)

theorem numberSuffixes_ok (src : List Char) (toks : List Tok) (hin : InBounds src.length toks) :
    ∃ out, numberSuffixes src toks = .ok out := numberSuffixes_eq_NS src toks ▸ NS_ok src toks hin

theorem sliceE_mem {α} {l s : List α} {a b : Nat} (h : sliceE l a b = .ok s) : ∀ x ∈ s, x ∈ l := by
  unfold sliceE at h
  split at h
  · cases h
  · cases h
    intro x hx
    exact List.mem_of_mem_drop (List.mem_of_mem_take hx)

end Harper
