import Harper.Lemmas.Rules2
/-!
Rules that index the whole document (`walkE`): the generic append theorem, and CommaFixes, MergeWords,
AdjectiveOfA, InflectedVerbAfterTo.

A window function `f src pre suf` (tokens before the cursor, nearest first; tokens from the cursor on) is
`WinLocal` when it is local in the source text (`left`, `right`, as `XLocalE`) and **blind across a paragraph
break**: it does not see what follows a `ParagraphBreak` (`blindAfter`), nor a `ParagraphBreak` behind the
cursor and what precedes it (`blindBefore`). Then `walkE f` over the tokens of `P ++ D` is `walkE f` over
those of `P` followed by `walkE f` over those of `D`, moved (`walkE_append`) — although the loop runs over
the whole document and its windows do straddle the break.
-/
namespace Harper.Rules2
open Harper Harper.Chunks Harper.Rules Harper.Leaves

abbrev WinFn := List Char → List Tok → List Tok → Except Panic (List RuleLint)

/-- well-formed and inside the text (`Leaves.TokIn`) -/
def InSrc (src : List Char) (t : Tok) : Prop := t.span.start ≤ t.span.stop ∧ t.span.stop ≤ src.length

structure WinLocal (f : WinFn) : Prop where
  left : ∀ (P D : List Char) (pre suf : List Tok), (∀ t ∈ pre, tokOK t = true ∧ t.span.stop ≤ P.length) →
    (∀ t ∈ suf, tokOK t = true ∧ t.span.stop ≤ P.length) → f (P ++ D) pre suf = f P pre suf
  right : ∀ (P D : List Char) (pre suf : List Tok) (j : Nat), (∀ t ∈ pre, tokOK t = true) → (∀ t ∈ suf, tokOK t = true) →
    f (P ++ D) (pre.map (shTok P.length j)) (suf.map (shTok P.length j)) = (f D pre suf).map (shiftRLs P.length)
  blindAfter : ∀ (src : List Char) (pre s : List Tok) (brk : Tok) (rest : List Tok), brk.kind.isParagraphBreak = true →
    (∀ t ∈ s, InSrc src t) → f src pre (s ++ brk :: rest) = f src pre (s ++ [brk])
  blindBefore : ∀ (src : List Char) (r : List Tok) (brk : Tok) (rest suf : List Tok), brk.kind.isParagraphBreak = true →
    f src (r ++ brk :: rest) suf = f src r suf

/-- first this, then that; the first panic wins (`thenE` of `Model/Rules2.lean`) -/
def seqE (a b : Except Panic (List RuleLint)) : Except Panic (List RuleLint) :=
  match a with
  | .error e => .error e
  | .ok x =>
    match b with
    | .error e => .error e
    | .ok y => .ok (x ++ y)

theorem walkE_cons (g : List Tok → List Tok → Except Panic (List RuleLint)) (pre : List Tok) (t : Tok) (ts : List Tok) :
    walkE g pre (t :: ts) = seqE (g pre (t :: ts)) (walkE g (t :: pre) ts) := walkE_step g pre t ts

theorem seqE_assoc (a b c : Except Panic (List RuleLint)) : seqE (seqE a b) c = seqE a (seqE b c) := by
  cases a with
  | error e => rfl
  | ok x =>
    cases b with
    | error e => rfl
    | ok y =>
      cases c with
      | error e => rfl
      | ok z => simp [seqE]

theorem seqE_nil_right (a : Except Panic (List RuleLint)) : seqE a (.ok []) = a := by
  cases a with
  | error e => rfl
  | ok x => simp [seqE]

/-- the positions inside `P`: what follows the break is invisible, then the text after `P` is -/
theorem walkE_leftPart (f : WinFn) (hf : WinLocal f) (P D : List Char) (brk : Tok) (hb : brk.kind.isParagraphBreak = true)
    (Y : List Tok) : ∀ (xs pre : List Tok), (∀ t ∈ pre, tokOK t = true ∧ t.span.stop ≤ P.length) →
      (∀ t ∈ xs ++ [brk], tokOK t = true ∧ t.span.stop ≤ P.length) →
      walkE (f (P ++ D)) pre ((xs ++ [brk]) ++ Y) =
        seqE (walkE (f P) pre (xs ++ [brk])) (walkE (f (P ++ D)) ((xs ++ [brk]).reverse ++ pre) Y) := by
  intro xs
  induction xs with
  | nil =>
    intro pre hpre hx
    simp only [List.nil_append, List.singleton_append, walkE_cons, List.reverse_cons, List.reverse_nil]
    have e1 := hf.blindAfter (P ++ D) pre [] brk Y hb (by simp)
    simp only [List.nil_append] at e1
    rw [e1, hf.left P D pre [brk] hpre (by simpa using hx)]
    simp only [walkE, seqE_nil_right]
  | cons x xs ih =>
    intro pre hpre hx
    have hx' : ∀ t ∈ xs ++ [brk], tokOK t = true ∧ t.span.stop ≤ P.length :=
      fun t ht => hx t (by simp only [List.cons_append, List.mem_cons]; exact .inr ht)
    have hxx : tokOK x = true ∧ x.span.stop ≤ P.length := hx x (by simp)
    simp only [List.cons_append, walkE_cons]
    have e1 := hf.blindAfter (P ++ D) pre (x :: xs) brk Y hb (by
      intro t ht
      have := hx t (by simp only [List.cons_append, List.mem_cons, List.mem_append] at ht ⊢; rcases ht with h | h; exact .inl h; exact .inr (.inl h))
      have h1 := tokOK_nonempty this.1
      exact ⟨by omega, by simp only [List.length_append]; omega⟩)
    simp only [List.cons_append, List.append_assoc, List.nil_append] at e1 ⊢
    rw [e1]
    have e2 := hf.left P D pre (x :: (xs ++ [brk])) hpre (by
      intro t ht
      rcases List.mem_cons.mp ht with rfl | ht
      · exact hxx
      · exact hx' t ht)
    rw [e2]
    have := ih (x :: pre) (by
      intro t ht
      rcases List.mem_cons.mp ht with rfl | ht
      · exact hxx
      · exact hpre t ht) hx'
    simp only [List.append_assoc, List.cons_append, List.nil_append] at this
    rw [this, ← seqE_assoc]
    simp only [List.reverse_cons, List.append_assoc, List.singleton_append, List.reverse_append, List.reverse_nil, List.nil_append]

/-- the positions inside `D`: the break behind the cursor and what precedes it are invisible, then the
window moves with its text -/
theorem walkE_rightPart (f : WinFn) (hf : WinLocal f) (P D : List Char) (brk : Tok) (hb : brk.kind.isParagraphBreak = true)
    (rest : List Tok) (j : Nat) : ∀ (ds dpre : List Tok), (∀ t ∈ dpre, tokOK t = true) → (∀ t ∈ ds, tokOK t = true) →
      walkE (f (P ++ D)) (dpre.map (shTok P.length j) ++ brk :: rest) (ds.map (shTok P.length j)) =
        (walkE (f D) dpre ds).map (shiftRLs P.length) := by
  intro ds
  induction ds with
  | nil => intro _ _ _; rfl
  | cons d ds ih =>
    intro dpre hpre hds
    have e := hf.right P D dpre (d :: ds) j hpre hds
    have ih' := ih (d :: dpre) (by
      intro t ht
      rcases List.mem_cons.mp ht with rfl | ht
      · exact hds _ (by simp)
      · exact hpre t ht) (fun t ht => hds t (List.mem_cons_of_mem _ ht))
    simp only [List.map_cons, List.cons_append] at e ih'
    simp only [List.map_cons, walkE_step]
    rw [hf.blindBefore (P ++ D) _ brk rest _ hb, e, ih', thenE_shift]

/-- **a rule that indexes the whole document, on two paragraphs**: if its window function is `WinLocal`,
the lints (and panics) on `P ++ D` are those on `P`, then those on `D` moved -/
theorem walkE_append (f : WinFn) (hf : WinLocal f) (P D : List Char) (A0 : List Tok) (brk : Tok)
    (hb : brk.kind.isParagraphBreak = true) (td : List Tok)
    (hin : ∀ t ∈ A0 ++ [brk], tokOK t = true ∧ t.span.stop ≤ P.length) (hd : ∀ t ∈ td, tokOK t = true) :
    walkE (f (P ++ D)) [] ((A0 ++ [brk]) ++ shiftDoc P.length (A0 ++ [brk]).length td) =
      joinE P.length (walkE (f P) [] (A0 ++ [brk])) (walkE (f D) [] td) := by
  rw [walkE_leftPart f hf P D brk hb _ A0 [] (by simp) hin]
  have e : (A0 ++ [brk]).reverse ++ [] = ([] : List Tok).map (shTok P.length (A0 ++ [brk]).length) ++ brk :: A0.reverse := by
    simp
  rw [e, shiftDoc_eq_map, walkE_rightPart f hf P D brk hb _ _ td [] (by simp) hd]
  cases walkE (f P) [] (A0 ++ [brk]) with
  | error e => rfl
  | ok a =>
    cases walkE (f D) [] td with
    | error e => rfl
    | ok b => rfl

/-! ## facts about `Ord` -/

theorem _root_.Harper.Rules.Ord.head_le {n : Nat} {a b : Tok} {l : List Tok} (h : Ord n (a :: l)) (hb : b ∈ l) :
    a.span.start ≤ b.span.stop ∧ b.span.stop ≤ n := by
  have h1 := List.rel_of_pairwise_cons h.1 hb
  have ha := h.2 a (List.mem_cons_self ..)
  have hb' := h.2 b (List.mem_cons_of_mem _ hb)
  omega

/-- in a list in text order the token before the cursor ends before the token at the cursor starts -/
theorem ord_pre_suf {n : Nat} {p c : Tok} {pre suf : List Tok} (ho : Ord n ((p :: pre).reverse ++ c :: suf)) :
    p.span.stop ≤ c.span.start := by
  have h := ho.1
  simp only [List.reverse_cons, List.append_assoc, List.singleton_append] at h
  have h2 := (List.pairwise_append.mp h).2.1
  exact List.rel_of_pairwise_cons h2 (by simp)

/-! ## what a `ParagraphBreak` token is not -/

theorem kind_of_break {k : Kind} (h : k.isParagraphBreak = true) : k = .paragraphBreak := by
  cases k <;> first | rfl | cases h

theorem isComma_of_break {k : Kind} (h : k.isParagraphBreak = true) : isComma k = false := by
  rw [kind_of_break h]; rfl

theorem isWord_of_break {k : Kind} (h : k.isParagraphBreak = true) : k.isWord = false := by
  rw [kind_of_break h]; rfl

theorem isWhitespace_of_break {k : Kind} (h : k.isParagraphBreak = true) : k.isWhitespace = false := by
  rw [kind_of_break h]; rfl

theorem hasFlag_of_break (env : Env) (src : List Char) {t : Tok} (h : t.kind.isParagraphBreak = true) (bit : Nat) :
    hasFlag env src t bit = false := by
  simp only [hasFlag, isWord_of_break h, Bool.false_and]

/-! ## CommaFixes -/

theorem kcOf_break {t : Tok} (h : t.kind.isParagraphBreak = true) : kcOf (some t) = .other := by
  simp only [kcOf, kind_of_break h]

theorem kcOf_none : kcOf none = .other := rfl

theorem kcOf_shTok (k j : Nat) (o : Option Tok) : kcOf (o.map (shTok k j)) = kcOf o := by
  cases o with
  | none => rfl
  | some t =>
    simp only [Option.map_some, kcOf, shTok_kind]
    cases t.kind <;> try rfl
    rename_i q; cases q <;> rfl

/-- a neighbour that is neither a word, a blank nor unlintable hides the neighbour behind it -/
theorem commaDecide_k1_other (k0 : KC) (c : CommaCh) (k3 k4 : KC) :
    commaDecide k0 .other c k3 k4 = commaDecide .other .other c k3 k4 := by
  cases c <;> cases k3 <;> rfl

theorem commaDecide_k3_other (k0 k1 : KC) (c : CommaCh) (k4 : KC) :
    commaDecide k0 k1 c .other k4 = commaDecide k0 k1 c .other .other := by
  cases k0 <;> cases k1 <;> cases c <;> rfl

/-- a lint that is not on the comma itself has a blank before the comma -/
theorem commaDecide_k1_sel (k0 k1 : KC) (c : CommaCh) (k3 k4 : KC) (sel : CommaSpan) (sg : Sugg) (arg : Nat)
    (h : commaDecide k0 k1 c k3 k4 = some (sel, sg, arg)) (hs : sel ≠ .comma) : k1 = .space := by
  -- arm by arm: an arm either has `.space` in the second place, or selects the comma, or is `none`
  unfold commaDecide at h
  split at h <;> first | rfl | (cases h <;> exact absurd rfl hs)

/-- besides the comma token the body looks at the token before it and at the decision of the `match kinds` -/
theorem commaAt_congr {src : List Char} {pre pre' : List Tok} {c : Tok} {rest rest' : List Tok} (h0 : pre[0]? = pre'[0]?)
    (hd : ∀ ch, commaDecide (kcOf pre[1]?) (kcOf pre[0]?) ch (kcOf rest[0]?) (kcOf rest[1]?) =
      commaDecide (kcOf pre'[1]?) (kcOf pre'[0]?) ch (kcOf rest'[0]?) (kcOf rest'[1]?)) :
    commaAt src pre (c :: rest) = commaAt src pre' (c :: rest') := by
  simp only [commaAt, hd, ← h0]

/-- CommaFixes' window (two tokens back, two ahead) is local in the text and blind across a paragraph break -/
theorem commaFixes_winLocal : WinLocal commaAt where
  left := by
    intro P D pre suf _ h
    cases suf with
    | nil => rfl
    | cons c rest => simp only [commaAt, Span.getContent_append_left P D c.span (h c (by simp)).2]
  right := by
    intro P D pre suf j _ _
    cases suf with
    | nil => rfl
    | cons c rest =>
      simp only [List.map_cons, commaAt, shTok_kind, isComma_shiftTwin, shTok_span, getContent_shift', List.getElem?_map, kcOf_shTok]
      split
      · rfl
      · cases c.span.getContent D with
        | error e => rfl
        | ok cs =>
          simp only []
          cases cs.head? with
          | none => rfl
          | some ch =>
            simp only []
            cases commaDecide (kcOf pre[1]?) (kcOf pre[0]?) (commaChOf ch) (kcOf rest[0]?) (kcOf rest[1]?) with
            | none => rfl
            | some r =>
              obtain ⟨sel, sg, arg⟩ := r
              cases sel with
              | comma => rfl
              | spaceBefore =>
                simp only []
                cases pre[0]? <;> rfl
              | spaceToComma =>
                simp only []
                cases pre[0]? with
                | none => rfl
                | some s =>
                  simp only [Option.map_some, shTok_span, shiftSpan_start, shiftSpan_stop, spanNew_shift]
                  cases Span.new s.span.start c.span.stop <;> rfl
  blindAfter := by
    intro src pre s brk rest hb _
    match s with
    | [] => simp only [List.nil_append, commaAt, isComma_of_break hb]; rfl
    | [c] =>
      refine commaAt_congr (rest := brk :: rest) (rest' := [brk]) rfl fun ch => ?_
      simp only [List.getElem?_cons_zero, List.getElem?_cons_succ, kcOf_break hb]
      rw [commaDecide_k3_other, commaDecide_k3_other _ _ _ (kcOf _)]
    | [c, x] | c :: x :: y :: s => exact commaAt_congr rfl fun _ => rfl
  blindBefore := by
    intro src r brk rest suf hb
    match suf, r with
    | [], _ => rfl
    | c :: tl, [] =>
      simp only [List.nil_append, commaAt, List.getElem?_cons_zero, List.getElem?_cons_succ, List.getElem?_nil, kcOf_break hb]
      split
      · rfl
      · cases c.span.getContent src with
        | error e => rfl
        | ok cs =>
          simp only []
          cases cs.head? with
          | none => rfl
          | some ch =>
            simp only []
            rw [commaDecide_k1_other (kcOf rest[0]?)]
            simp only [kcOf_none]
            cases hd : commaDecide .other .other (commaChOf ch) (kcOf tl[0]?) (kcOf tl[1]?) with
            | none => rfl
            | some q =>
              obtain ⟨sel, sg, arg⟩ := q
              cases sel with
              | comma => rfl
              | spaceBefore => exact absurd (commaDecide_k1_sel _ _ _ _ _ _ _ _ hd (by decide)) (by decide)
              | spaceToComma => exact absurd (commaDecide_k1_sel _ _ _ _ _ _ _ _ hd (by decide)) (by decide)
    | c :: tl, [x] =>
      refine commaAt_congr (pre := x :: brk :: rest) (pre' := [x]) rfl fun ch => ?_
      simp only [List.getElem?_cons_succ, List.getElem?_cons_zero, List.getElem?_nil, kcOf_break hb, kcOf_none]
    | c :: tl, x :: y :: r => exact commaAt_congr rfl fun _ => rfl

theorem commaAt_out (src : List Char) (pre suf : List Tok) :
    OutOK (Ord src.length (pre.reverse ++ suf)) src.length (commaAt src pre suf) := by
  cases suf with
  | nil => exact .nil
  | cons c rest =>
    have hc := fun (ho : Ord src.length (pre.reverse ++ c :: rest)) => ho.2 c (by simp)
    refine .guard (.content (fun ho => within_le (hc ho)) fun cs hcs => ?_)
    cases hh : cs.head? with
    | none =>
      -- the comma covers a character
      refine .panic nofun fun ho => ?_
      have hin : TokIn src c := within_le (hc ho)
      have hl := textOf_length src c hin
      rw [getContent_textOf src c hin] at hcs
      cases hcs
      rw [List.head?_eq_none_iff.mp hh, List.length_nil] at hl
      have := (hc ho).1
      omega
    | some ch =>
      simp only []
      cases hd : commaDecide (kcOf pre[1]?) (kcOf pre[0]?) (commaChOf ch) (kcOf rest[0]?) (kcOf rest[1]?) with
      | none => exact .nil
      | some q =>
        obtain ⟨sel, sg, arg⟩ := q
        -- a lint that is not on the comma: there is a blank, hence a token, before it
        have hk1 : sel ≠ .comma → kcOf pre[0]? = .space := commaDecide_k1_sel _ _ _ _ _ _ _ _ hd
        cases sel with
        | comma => exact .one fun ho => lintOK_tok (hc ho)
        | spaceBefore =>
          cases pre with
          | nil => exact absurd (hk1 (by decide)) (by decide)
          | cons s pre' => exact .one fun ho => lintOK_tok (ho.2 s (by simp))
        | spaceToComma =>
          cases pre with
          | nil => exact absurd (hk1 (by decide)) (by decide)
          | cons s pre' =>
            have hsc := fun (ho : Ord src.length ((s :: pre').reverse ++ c :: rest)) =>
              Nat.le_trans (Nat.le_of_lt (ho.2 s (by simp)).1) (Nat.le_trans (ord_pre_suf ho) (Nat.le_of_lt (hc ho).1))
            exact .span hsc fun _ => .one fun ho => ⟨hsc ho, (hc ho).2⟩

theorem ruleCommaFixes_out (env : Env) (src : List Char) (toks : List Tok) :
    OutOK (Ord src.length toks) src.length (ruleCommaFixes env src toks) :=
  walkE_out (H := Ord src.length) _ (commaAt_out src) toks []

theorem ruleCommaFixes_nf (env : Env) (src : List Char) (toks : List Tok) : ruleCommaFixes env src toks ≠ .error .outOfFuel :=
  (ruleCommaFixes_out env src toks).nf

/-! ## MergeWords -/

theorem mergeLint_shift (k : Nat) (cond : Bool) (a b : Tok) (j : Nat) (merged : List Char) (code : Nat) :
    mergeLint cond (shTok k j a) (shTok k j b) merged code = (mergeLint cond a b merged code).map (shiftRLs k) := by
  simp only [mergeLint, shTok_span, shiftSpan_start, shiftSpan_stop, spanNew_shift]
  refine ite_shift ?_ rfl
  cases Span.new a.span.start b.span.stop <;> rfl

theorem mergeAt_guard {env : Env} {src : List Char} {pre : List Tok} {a w b : Tok} {rest : List Tok}
    (h : (!a.kind.isWord || !w.kind.isWhitespace || !b.kind.isWord) = true) : mergeAt env src pre (a :: w :: b :: rest) = .ok [] := by
  rw [mergeAt, if_pos h]

/-- MergeWords' window `(a, w, b)` -/
theorem mergeWords_winLocal (env : Env) : WinLocal (mergeAt env) where
  left := by
    intro P D pre suf _ h
    match suf, h with
    | [], _ | [_], _ | [_, _], _ => rfl
    | a :: w :: b :: _, h =>
      rw [mergeAt, mergeAt, Span.getContent_append_left P D a.span (h a (by simp)).2, Span.getContent_append_left P D b.span (h b (by simp)).2]
  right := by
    intro P D pre suf j _ _
    match suf with
    | [] | [_] | [_, _] => rfl
    | a :: w :: b :: _ =>
      -- the two pushes at the end of the body are `thenE`
      simp only [List.map_cons, mergeAt, ← thenE.eq_def, shTok_kind, isWord_shiftTwin, isWhitespace_shiftTwin, shTok_span,
        getContent_shift', mergeLint_shift]
      refine shift_guard ?_
      cases a.span.getContent D
      · rfl
      cases b.span.getContent D
      · rfl
      exact shift_guard (shift_guard (thenE_shift ..))
  blindAfter := by
    intro src pre s brk rest hb _
    match s with
    | [] =>
      match rest with
      | [] | [_] => rfl
      | _ :: _ :: _ => exact mergeAt_guard (by rw [isWord_of_break hb]; rfl)
    | [a] =>
      match rest with
      | [] => rfl
      | _ :: _ => exact mergeAt_guard (by rw [isWhitespace_of_break hb, Bool.not_false, Bool.or_true, Bool.true_or])
    -- the body does not mention what follows its three tokens
    | [a, w] | a :: w :: b :: s => rfl
  blindBefore := fun _ _ _ _ suf _ => by cases suf <;> rfl

/-- `mergeLint` and `checkStem`: one `Span::new` under a condition -/
theorem mergeLint_out {G : Prop} {n : Nat} (cond : Bool) (a b : Tok) (merged : List Char) (code : Nat)
    (h : G → a.span.start ≤ b.span.stop ∧ b.span.stop ≤ n) : OutOK G n (mergeLint cond a b merged code) :=
  .ite (.span (fun g => (h g).1) fun _ => .one h) .nil

theorem mergeAt_out (env : Env) (src : List Char) (pre suf : List Tok) :
    OutOK (Ord src.length (pre.reverse ++ suf)) src.length (mergeAt env src pre suf) := by
  match suf with
  | [] | [_] | [_, _] => exact .nil
  | a :: w :: b :: rest =>
    have hs : Ord src.length (pre.reverse ++ a :: w :: b :: rest) → Ord src.length (a :: w :: b :: rest) :=
      fun ho => ho.sublist (List.sublist_append_right _ _)
    have hab := fun ho => (hs ho).head_le (b := b) (.tail _ (.head _))
    -- the two pushes at the end of the body are `thenE`
    simp only [mergeAt, ← thenE.eq_def]
    exact .guard (.content (fun ho => (hs ho).le (by simp)) fun _ _ => .content (fun ho => (hs ho).le (by simp)) fun _ _ =>
      .guard (.guard (.thenE (mergeLint_out _ a b _ _ hab) (mergeLint_out _ a b _ _ hab))))

theorem ruleMergeWords_out (env : Env) (src : List Char) (toks : List Tok) :
    OutOK (Ord src.length toks) src.length (ruleMergeWords env src toks) :=
  walkE_out (H := Ord src.length) _ (mergeAt_out env src) toks []

theorem ruleMergeWords_nf (env : Env) (src : List Char) (toks : List Tok) : ruleMergeWords env src toks ≠ .error .outOfFuel :=
  (ruleMergeWords_out env src toks).nf


/-! ## AdjectiveOfA -/

theorem adjOfATail_left (P D : List Char) (adj : Tok) (adjc : List Char) (rest : List Tok)
    (h : ∀ t ∈ rest, tokOK t = true ∧ t.span.stop ≤ P.length) :
    adjOfATail (P ++ D) adj adjc rest = adjOfATail P adj adjc rest := by
  match rest, h with
  | [], _ | [_], _ | [_, _], _ | [_, _, _], _ => rfl
  | s1 :: wOf :: s2 :: a :: _, h =>
    simp only [adjOfATail, Span.getContent_append_left P D s1.span (h s1 (by simp)).2, Span.getContent_append_left P D wOf.span (h wOf (by simp)).2,
      Span.getContent_append_left P D s2.span (h s2 (by simp)).2, Span.getContent_append_left P D a.span (h a (by simp)).2]

theorem adjOfATail_right (P D : List Char) (adj : Tok) (adjc : List Char) (rest : List Tok) (j : Nat) :
    adjOfATail (P ++ D) (shTok P.length j adj) adjc (rest.map (shTok P.length j)) =
      (adjOfATail D adj adjc rest).map (shiftRLs P.length) := by
  match rest with
  | [] | [_] | [_, _] | [_, _, _] => rfl
  | s1 :: wOf :: s2 :: a :: _ =>
    simp only [List.map_cons, adjOfATail, shTok_kind, isWord_shiftTwin, isWhitespace_shiftTwin, shTok_span, getContent_shift',
      shiftSpan_start, shiftSpan_stop, spanNew_shift]
    refine shift_guard (shift_guard ?_)
    cases wOf.span.getContent D
    · rfl
    refine shift_guard (shift_guard (shift_guard ?_))
    cases a.span.getContent D
    · rfl
    refine shift_guard ?_
    cases s1.span.getContent D
    · rfl
    cases s2.span.getContent D
    · rfl
    cases Span.new adj.span.start a.span.stop <;> rfl

/-- the window of five tokens does not see past a paragraph break (the words and blanks it asks for are
not breaks; the text of `of` is fetched before the break is reached: it must be in the text) -/
theorem adjOfATail_blindAfter (src : List Char) (adj : Tok) (adjc : List Char) (s : List Tok) (brk : Tok) (rest : List Tok)
    (hb : brk.kind.isParagraphBreak = true) (hs : ∀ t ∈ s, InSrc src t) :
    adjOfATail src adj adjc (s ++ brk :: rest) = adjOfATail src adj adjc (s ++ [brk]) := by
  -- a break in one of the four places the window asks about: every branch is `.ok []`
  match s, hs with
  | [], _ =>
    match rest with
    | [] | [_] | [_, _] => rfl
    | _ :: _ :: _ :: _ => simp only [List.nil_append, adjOfATail, isWhitespace_of_break hb]; rfl
  | [s1], _ =>
    match rest with
    | [] | [_] => rfl
    | _ :: _ :: _ => simp only [List.cons_append, List.nil_append, adjOfATail, isWord_of_break hb, Bool.not_false, ↓reduceIte, ite_self]
  | [s1, wOf], hs =>
    match rest with
    | [] => rfl
    | _ :: _ =>
      simp only [List.cons_append, List.nil_append, adjOfATail, isWhitespace_of_break hb, getContent_textOf src wOf (hs wOf (by simp)),
        Bool.not_false, ↓reduceIte, ite_self]
  | [s1, wOf, s2], _ => simp only [List.cons_append, List.nil_append, adjOfATail]
  | s1 :: wOf :: s2 :: a :: _, _ => simp only [List.cons_append, adjOfATail]

/-- AdjectiveOfA's window `adjective ␣ of ␣ a` -/
theorem adjectiveOfA_winLocal (env : Env) : WinLocal (adjOfAAt env) where
  left := by
    intro P D pre suf _ h
    cases suf with
    | nil => rfl
    | cons adj rest =>
      have ha := (h adj (by simp)).2
      simp only [adjOfAAt, hasFlag_left env P D adj _ ha, Span.getContent_append_left P D adj.span ha,
        adjOfATail_left P D adj _ rest (fun t ht => h t (List.mem_cons_of_mem _ ht))]
  right := by
    intro P D pre suf j _ _
    cases suf with
    | nil => rfl
    | cons adj rest =>
      simp only [List.map_cons, adjOfAAt, hasFlag_shift, shTok_span, getContent_shift']
      refine shift_guard ?_
      cases adj.span.getContent D
      · rfl
      exact shift_guard (shift_guard (shift_guard (adjOfATail_right P D adj _ rest j)))
  blindAfter := by
    intro src pre s brk rest hb hs
    cases s with
    | nil => simp only [List.nil_append, adjOfAAt, hasFlag_of_break env src hb]; rfl
    | cons adj s =>
      simp only [List.cons_append, adjOfAAt, adjOfATail_blindAfter src adj _ s brk rest hb (fun t ht => hs t (List.mem_cons_of_mem _ ht))]
  blindBefore := fun _ _ _ _ suf _ => by cases suf <;> rfl

theorem adjOfATail_out (src : List Char) (adj : Tok) (adjc : List Char) (rest : List Tok) :
    OutOK (Ord src.length (adj :: rest)) src.length (adjOfATail src adj adjc rest) := by
  match rest with
  | [] | [_] | [_, _] | [_, _, _] => exact .nil
  | s1 :: wOf :: s2 :: a :: tl =>
    have hsp := fun (ho : Ord src.length (adj :: s1 :: wOf :: s2 :: a :: tl)) =>
      ho.head_le (b := a) (.tail _ (.tail _ (.tail _ (.head _))))
    exact .guard (.guard (.content (fun ho => Ord.le ho (by simp)) fun _ _ => .guard (.guard (.guard
      (.content (fun ho => Ord.le ho (by simp)) fun _ _ => .guard (.content (fun ho => Ord.le ho (by simp)) fun _ _ =>
        .content (fun ho => Ord.le ho (by simp)) fun _ _ => .span (fun ho => (hsp ho).1) fun _ => .one hsp))))))

theorem adjOfAAt_out (env : Env) (src : List Char) (pre suf : List Tok) :
    OutOK (Ord src.length (pre.reverse ++ suf)) src.length (adjOfAAt env src pre suf) := by
  cases suf with
  | nil => exact .nil
  | cons adj rest =>
    have hs : Ord src.length (pre.reverse ++ adj :: rest) → Ord src.length (adj :: rest) :=
      fun ho => ho.sublist (List.sublist_append_right _ _)
    exact .guard (.content (fun ho => (hs ho).le (by simp)) fun _ _ =>
      .guard (.guard (.guard ((adjOfATail_out src adj _ rest).mono hs))))

theorem ruleAdjectiveOfA_out (env : Env) (src : List Char) (toks : List Tok) :
    OutOK (Ord src.length toks) src.length (ruleAdjectiveOfA env src toks) :=
  walkE_out (H := Ord src.length) _ (adjOfAAt_out env src) toks []

theorem ruleAdjectiveOfA_nf (env : Env) (src : List Char) (toks : List Tok) : ruleAdjectiveOfA env src toks ≠ .error .outOfFuel :=
  (ruleAdjectiveOfA_out env src toks).nf


/-! ## InflectedVerbAfterTo -/

theorem checkStem_shift (env : Env) (ends : Bool) (k j : Nat) (prep word : Tok) (prepTo stem : List Char) :
    checkStem env ends (shTok k j prep) (shTok k j word) prepTo stem = (checkStem env ends prep word prepTo stem).map (shiftRLs k) := by
  simp only [checkStem, shTok_span, shiftSpan_start, shiftSpan_stop, spanNew_shift]
  refine ite_shift ?_ rfl
  cases Span.new prep.span.start word.span.stop <;> rfl

/-- InflectedVerbAfterTo's window `to ␣ verb` -/
theorem inflectedVerbAfterTo_winLocal (env : Env) : WinLocal (inflectedAt env) where
  left := by
    intro P D pre suf _ h
    match suf, h with
    | [], _ | [_], _ | [_, _], _ => rfl
    | prep :: space :: word :: _, h =>
      have hp := (h prep (by simp)).2
      rw [inflectedAt, inflectedAt, hasFlag_left env P D prep 0 hp, Span.getContent_append_left P D prep.span hp,
        Span.getContent_append_left P D word.span (h word (by simp)).2]
  right := by
    intro P D pre suf j _ _
    match suf with
    | [] | [_] | [_, _] => rfl
    | prep :: space :: word :: _ =>
      simp only [List.map_cons, inflectedAt, hasFlag_shift, shTok_kind, isWord_shiftTwin, isWhitespace_shiftTwin, shTok_span,
        getContent_shift', checkStem_shift]
      refine shift_guard (shift_guard ?_)
      cases prep.span.getContent D
      · rfl
      refine shift_guard ?_
      cases word.span.getContent D
      · rfl
      refine shift_guard ?_
      simp only [thenE_shift]
  blindAfter := by
    intro src pre s brk rest hb _
    match s with
    | [] =>
      match rest with
      | [] | [_] => rfl
      | _ :: _ :: _ => simp only [List.nil_append, inflectedAt, hasFlag_of_break env src hb]; rfl
    | [prep] =>
      match rest with
      | [] => rfl
      | _ :: _ =>
        simp only [List.cons_append, List.nil_append, inflectedAt, isWhitespace_of_break hb, Bool.not_false, Bool.true_or, ↓reduceIte,
          ite_self]
    -- the body does not mention what follows its three tokens
    | [prep, space] | prep :: space :: word :: _ => rfl
  blindBefore := fun _ _ _ _ suf _ => by
    match suf with
    | [] | [_] | [_, _] | _ :: _ :: _ :: _ => rfl

theorem checkStem_out {G : Prop} {n : Nat} (env : Env) (ends : Bool) (prep word : Tok) (prepTo stem : List Char)
    (h : G → prep.span.start ≤ word.span.stop ∧ word.span.stop ≤ n) : OutOK G n (checkStem env ends prep word prepTo stem) :=
  .ite (.span (fun g => (h g).1) fun _ => .one h) .nil

theorem inflectedAt_out (env : Env) (src : List Char) (pre suf : List Tok) :
    OutOK (Ord src.length (pre.reverse ++ suf)) src.length (inflectedAt env src pre suf) := by
  match suf with
  | [] | [_] | [_, _] => exact .nil
  | prep :: space :: word :: rest =>
    have hs : Ord src.length (pre.reverse ++ prep :: space :: word :: rest) → Ord src.length (prep :: space :: word :: rest) :=
      fun ho => ho.sublist (List.sublist_append_right _ _)
    have hpw := fun ho => (hs ho).head_le (b := word) (.tail _ (.head _))
    exact .guard (.guard (.content (fun ho => (hs ho).le (by simp)) fun _ _ => .guard
      (.content (fun ho => (hs ho).le (by simp)) fun _ _ => .guard
        (.thenE (.thenE (checkStem_out env _ prep word _ _ hpw) (checkStem_out env _ prep word _ _ hpw))
          (.thenE (checkStem_out env _ prep word _ _ hpw) (checkStem_out env _ prep word _ _ hpw))))))

theorem ruleInflectedVerbAfterTo_out (env : Env) (src : List Char) (toks : List Tok) :
    OutOK (Ord src.length toks) src.length (ruleInflectedVerbAfterTo env src toks) :=
  walkE_out (H := Ord src.length) _ (inflectedAt_out env src) toks []

theorem ruleInflectedVerbAfterTo_nf (env : Env) (src : List Char) (toks : List Tok) :
    ruleInflectedVerbAfterTo env src toks ≠ .error .outOfFuel :=
  (ruleInflectedVerbAfterTo_out env src toks).nf

end Harper.Rules2
