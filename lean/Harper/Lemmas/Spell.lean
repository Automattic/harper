import Harper.Model.Spell
/-!
Vocabulary and helper lemmas for C06 (`Harper/Model/Spell.lean`): unique keys, the laws of `lower` / `normalize`,
`lookup` in both directions, the shape of a suggestion.
-/
namespace Harper.C06
open Harper.Spell

/-- keys are unique: what a map keyed by `WordId` guarantees -/
def UniqueKeys (f : Fns) (dict : List Entry) : Prop :=
  dict.Pairwise (fun a b => key f a.canon ≠ key f b.canon)

/-- the laws of `to_lower` / `normalized` that C06's theorems assume (monitored on every word the harness sees;
`C06.laws_fnsAscii` meets them) -/
structure Laws (f : Fns) : Prop where
  norm_idem : ∀ w, f.normalize (f.normalize w) = f.normalize w
  key_lower : ∀ w, key f (f.lower w) = key f w

theorem lookup_of_mem (f : Fns) (dict : List Entry) (hu : UniqueKeys f dict) (e : Entry)
    (he : e ∈ dict) (w : List Char) (hk : key f w = key f e.canon) : lookup f dict w = some e := by
  induction dict with
  | nil => cases he
  | cons d ds ih =>
    have ⟨h1, h2⟩ := List.pairwise_cons.mp hu
    unfold lookup
    rw [List.find?_cons]
    rcases List.mem_cons.mp he with rfl | he'
    · have : (key f e.canon == key f w) = true := by rw [hk]; exact beq_self_eq_true _
      rw [this]
    · have hne : (key f d.canon == key f w) = false := by
        rw [hk]; exact beq_eq_false_iff_ne.mpr (h1 e he')
      rw [hne]
      exact ih h2 he'

theorem lookup_some {f : Fns} {dict : List Entry} {w : List Char} {e : Entry}
    (h : lookup f dict w = some e) : e ∈ dict ∧ key f e.canon = key f w :=
  ⟨List.mem_of_find?_eq_some h, by simpa using List.find?_some h⟩

theorem mem_suggestions {f : Fns} {dict : List Entry} {fuzzy : List (List Char)} {cap : Bool}
    {up : List Char → List Char} {s : List Char} (hs : s ∈ suggestions f dict fuzzy cap up) :
    ∃ s₀ ∈ fuzzy, (∃ e, lookup f dict s₀ = some e ∧ e.dialectOk = true) ∧
      s = if cap = true then up s₀ else s₀ := by
  have hkept : ∀ s₀ ∈ (fuzzy.filter fun s => match lookup f dict s with
      | some e => e.dialectOk | none => false).take 3,
      s₀ ∈ fuzzy ∧ ∃ e, lookup f dict s₀ = some e ∧ e.dialectOk = true := by
    intro s₀ hs
    have ⟨hm, hp⟩ := List.mem_filter.mp (List.mem_of_mem_take hs)
    refine ⟨hm, ?_⟩
    cases he : lookup f dict s₀ with
    | none => rw [he] at hp; cases hp
    | some e => rw [he] at hp; exact ⟨e, rfl, hp⟩
  cases cap with
  | true =>
    obtain ⟨s₀, hs₀, rfl⟩ := List.mem_map.mp hs
    exact ⟨s₀, (hkept s₀ hs₀).1, (hkept s₀ hs₀).2, rfl⟩
  | false => exact ⟨s, (hkept s hs).1, (hkept s hs).2, rfl⟩

end Harper.C06
