import Harper.Model.Mask
import Harper.Model.Pattern  -- for `DecidableEq (Except Panic α)`: the `decide`d examples downstream compare results
import Harper.Lemmas.Span
/-!
Lemmas about the offset glue (`Harper.Model.Mask`), by section:

* UTF-8 as per-character byte groups (`WFGroup`, `byteOff`, `sliceCount_groups`);
* `SpanChain lo hi l`: spans inside `[lo, hi]`, in order, disjoint — with `MaskOK` and `CharChain` as instances;
* `byte_spans_to_char_spans` on a chain of character ranges (`convLoop_chain`);
* `Mask`: `push_allowed`, `merge_whitespace_sep` keep the invariant;
* `Mask::parse`: its exact output `maskOut` (`maskLoop_eq`, `maskLoop_of_ok`), `Faithful`, `InnerOK`;
* comment leaders (`leaderSpan`, `withoutInitiators_eq`), the JSDoc inline-tag scanner;
* `Unit::parse`: the layout of lines in the text (`lineStart`, `line_located`) and its exact output `unitOut`;
* Literate Haskell (`lhsSelected`); JavaDoc block tags (`jdScan`); `CommentMasker` (`commentFilter_eq`);
* span-only faithfulness (`Remarked`, `SpanFaithful`): JSDoc (`JsDocLines`), JavaDoc (`javadocParse_spec`).
-/
namespace Harper

/-! ## UTF-8 as a list of per-character byte groups -/

/-- a well-formed encoded character: a non-continuation byte followed by continuation bytes -/
def WFGroup (g : List Nat) : Prop :=
  ∃ h t, g = h :: t ∧ isCont h = false ∧ ∀ b ∈ t, isCont b = true

/-- byte offset of character `k` -/
def byteOff (gs : List (List Nat)) (k : Nat) : Nat := ((gs.take k).flatten).length

theorem charCount_append (a b : List Nat) : charCount (a ++ b) = charCount a + charCount b := by
  simp [charCount, List.countP_append]

theorem charCount_group {g : List Nat} (h : WFGroup g) : charCount g = 1 := by
  obtain ⟨x, t, rfl, hx, ht⟩ := h
  have : List.countP (fun b => !isCont b) t = 0 := by
    rw [List.countP_eq_zero]
    intro b hb
    simp [ht b hb]
  simp [charCount, hx, this]

theorem charCount_flatten {gs : List (List Nat)} (h : ∀ g ∈ gs, WFGroup g) :
    charCount gs.flatten = gs.length := by
  induction gs with
  | nil => simp [charCount]
  | cons g gs ih =>
    have h1 := charCount_group (h g (by simp))
    have h2 := ih (fun g' hg' => h g' (by simp [hg']))
    simp [List.flatten_cons, charCount_append, h1, h2]
    omega

theorem byteOff_zero (gs : List (List Nat)) : byteOff gs 0 = 0 := by simp [byteOff]

theorem byteOff_add (gs : List (List Nat)) (a d : Nat) :
    byteOff gs (a + d) = byteOff gs a + (((gs.drop a).take d).flatten).length := by
  simp [byteOff, List.take_add, List.flatten_append]

theorem byteOff_mono (gs : List (List Nat)) {a b : Nat} (h : a ≤ b) : byteOff gs a ≤ byteOff gs b := by
  obtain ⟨d, rfl⟩ := Nat.exists_eq_add_of_le h
  rw [byteOff_add]; omega

theorem byteOff_length (gs : List (List Nat)) : byteOff gs gs.length = gs.flatten.length := by
  simp [byteOff]

theorem byteOff_le (gs : List (List Nat)) {k : Nat} (h : k ≤ gs.length) :
    byteOff gs k ≤ gs.flatten.length := by
  rw [← byteOff_length]; exact byteOff_mono gs h

theorem flatten_slice (gs : List (List Nat)) (a d : Nat) :
    ((gs.flatten).drop (byteOff gs a)).take (byteOff gs (a + d) - byteOff gs a) =
      ((gs.drop a).take d).flatten := by
  have h1 : gs.flatten = (gs.take a).flatten ++ (gs.drop a).flatten := by
    rw [← List.flatten_append, List.take_append_drop]
  have h2 : (gs.drop a).flatten =
      ((gs.drop a).take d).flatten ++ ((gs.drop a).drop d).flatten := by
    rw [← List.flatten_append, List.take_append_drop]
  rw [byteOff_add]
  have : byteOff gs a = ((gs.take a).flatten).length := rfl
  rw [this, h1, List.drop_left, h2]
  simp

theorem isBoundary_byteOff {gs : List (List Nat)} (h : ∀ g ∈ gs, WFGroup g) {k : Nat}
    (hk : k ≤ gs.length) : isBoundary gs.flatten (byteOff gs k) = true := by
  by_cases hlt : k < gs.length
  · -- the byte at the offset is the leading byte of group k
    have hsplit : gs = gs.take k ++ gs[k] :: gs.drop (k + 1) := by
      simp
    obtain ⟨x, t, hg, hx, _⟩ := h gs[k] (List.getElem_mem hlt)
    have hfl : gs.flatten = (gs.take k).flatten ++ (x :: (t ++ (gs.drop (k + 1)).flatten)) := by
      conv => lhs; rw [hsplit]
      simp [List.flatten_append, hg]
    have hget : gs.flatten[byteOff gs k]? = some x := by
      rw [hfl, List.getElem?_append_right (by simp [byteOff])]
      simp [byteOff]
    simp [isBoundary, hget, hx]
  · have : k = gs.length := by omega
    subst this
    simp [isBoundary, byteOff_length]

theorem sliceCount_groups {gs : List (List Nat)} (h : ∀ g ∈ gs, WFGroup g) {a b : Nat}
    (hab : a ≤ b) (hb : b ≤ gs.length) :
    sliceCount gs.flatten (byteOff gs a) (byteOff gs b) = .ok (b - a) := by
  obtain ⟨d, rfl⟩ := Nat.exists_eq_add_of_le hab
  have h1 := byteOff_mono gs hab
  have h2 := byteOff_le gs hb
  have h3 := isBoundary_byteOff h (k := a) (by omega)
  have h4 := isBoundary_byteOff h hb
  unfold sliceCount
  rw [if_pos ⟨h1, h2, h3, h4⟩, flatten_slice]
  have hw : ∀ g ∈ (gs.drop a).take d, WFGroup g := fun g hg =>
    h g (List.mem_of_mem_drop (List.mem_of_mem_take hg))
  rw [charCount_flatten hw]
  simp
  omega

/-! ## Spans in order: `SpanChain` -/

/-- spans well-formed, inside `[lo, hi]`, in order and pairwise disjoint -/
def SpanChain (lo hi : Nat) (l : List Span) : Prop :=
  (∀ s ∈ l, lo ≤ s.start ∧ s.start ≤ s.stop ∧ s.stop ≤ hi) ∧ l.Pairwise (fun a b => a.stop ≤ b.start)

theorem SpanChain.nil {lo hi : Nat} : SpanChain lo hi [] := ⟨nofun, .nil⟩

theorem spanChain_cons {lo hi : Nat} {a : Span} {l : List Span} :
    SpanChain lo hi (a :: l) ↔ lo ≤ a.start ∧ a.start ≤ a.stop ∧ a.stop ≤ hi ∧ SpanChain a.stop hi l := by
  constructor
  · rintro ⟨h1, h2⟩
    obtain ⟨h3, h4⟩ := List.pairwise_cons.mp h2
    obtain ⟨ha1, ha2, ha3⟩ := h1 a (List.mem_cons_self ..)
    exact ⟨ha1, ha2, ha3, fun s hs => ⟨h3 s hs, (h1 s (List.mem_cons_of_mem _ hs)).2⟩, h4⟩
  · rintro ⟨ha1, ha2, ha3, h1, h2⟩
    refine ⟨fun s hs => ?_, List.pairwise_cons.mpr ⟨fun s hs => (h1 s hs).1, h2⟩⟩
    rcases List.mem_cons.mp hs with rfl | hs
    · exact ⟨ha1, ha2, ha3⟩
    · exact ⟨Nat.le_trans ha1 (Nat.le_trans ha2 (h1 s hs).1), (h1 s hs).2⟩

theorem SpanChain.mono {lo hi lo' hi' : Nat} {l : List Span} (h : SpanChain lo hi l) (h1 : lo' ≤ lo)
    (h2 : hi ≤ hi') : SpanChain lo' hi' l :=
  ⟨fun s hs => ⟨Nat.le_trans h1 (h.1 s hs).1, (h.1 s hs).2.1, Nat.le_trans (h.1 s hs).2.2 h2⟩, h.2⟩

theorem SpanChain.append {lo mid hi : Nat} {a b : List Span} (ha : SpanChain lo mid a)
    (hb : SpanChain mid hi b) (h1 : lo ≤ mid) (h2 : mid ≤ hi) : SpanChain lo hi (a ++ b) := by
  refine ⟨fun s hs => ?_, List.pairwise_append.mpr ⟨ha.2, hb.2, fun x hx y hy =>
    Nat.le_trans (ha.1 x hx).2.2 (hb.1 y hy).1⟩⟩
  rcases List.mem_append.mp hs with hs | hs
  · exact (ha.mono (Nat.le_refl _) h2).1 s hs
  · exact (hb.mono h1 (Nat.le_refl _)).1 s hs

theorem spanChain_concat {lo hi : Nat} {l : List Span} {x : Span} :
    SpanChain lo hi (l ++ [x]) ↔ SpanChain lo x.start l ∧ lo ≤ x.start ∧ x.start ≤ x.stop ∧ x.stop ≤ hi := by
  constructor
  · rintro ⟨h1, h2⟩
    obtain ⟨h3, _, h4⟩ := List.pairwise_append.mp h2
    obtain ⟨hx1, hx2, hx3⟩ := h1 x (List.mem_append_right _ (List.mem_singleton_self x))
    exact ⟨⟨fun s hs => ⟨(h1 s (List.mem_append_left _ hs)).1, (h1 s (List.mem_append_left _ hs)).2.1,
      h4 s hs x (List.mem_singleton_self x)⟩, h3⟩, hx1, hx2, hx3⟩
  · rintro ⟨h, h1, h2, h3⟩
    exact h.append (spanChain_cons.mpr ⟨Nat.le_refl _, h2, h3, SpanChain.nil⟩) h1 (Nat.le_trans h2 h3)

theorem SpanChain.pushBy {lo hi : Nat} {l : List Span} (h : SpanChain lo hi l) (n : Nat) :
    SpanChain (lo + n) (hi + n) (l.map (·.pushBy n)) := by
  refine ⟨fun s hs => ?_, List.pairwise_map.mpr (h.2.imp fun hab => Nat.add_le_add_right hab n)⟩
  obtain ⟨s0, hs0, rfl⟩ := List.mem_map.mp hs
  obtain ⟨h1, h2, h3⟩ := h.1 s0 hs0
  exact ⟨Nat.add_le_add_right h1 n, Nat.add_le_add_right h2 n, Nat.add_le_add_right h3 n⟩

theorem SpanChain.sublist {lo hi : Nat} {l l' : List Span} (h : SpanChain lo hi l) (hs : l'.Sublist l) :
    SpanChain lo hi l' :=
  ⟨fun s hs' => h.1 s (hs.subset hs'), h.2.sublist hs⟩

theorem spanChain_map_span {lo hi : Nat} {toks : List Tok} :
    SpanChain lo hi (toks.map (·.span)) ↔
      (∀ t ∈ toks, lo ≤ t.span.start ∧ t.span.start ≤ t.span.stop ∧ t.span.stop ≤ hi) ∧
      toks.Pairwise (fun a b => a.span.stop ≤ b.span.start) := by
  simp only [SpanChain, List.forall_mem_map, List.pairwise_map]

theorem map_span_shift (toks : List Tok) (n : Nat) :
    (toks.map (·.shift n)).map (·.span) = (toks.map (·.span)).map (·.pushBy n) := by
  simp only [List.map_map]; rfl

/-! ## `byte_spans_to_char_spans` on a chain of character ranges -/

/-- character ranges `(a, b)` in increasing order, pairwise disjoint, inside `n` characters -/
def CharChain (n : Nat) : Nat → List (Nat × Nat) → Prop
  | _, [] => True
  | lo, (a, b) :: rest => lo ≤ a ∧ a ≤ b ∧ b ≤ n ∧ CharChain n b rest

def toByteSpan (gs : List (List Nat)) (p : Nat × Nat) : Span := ⟨byteOff gs p.1, byteOff gs p.2⟩
def toCharSpan (p : Nat × Nat) : Span := ⟨p.1, p.2⟩

theorem convLoop_chain {gs : List (List Nat)} (h : ∀ g ∈ gs, WFGroup g) :
    ∀ (cs : List (Nat × Nat)) (lo : Nat), CharChain gs.length lo cs →
      convLoop gs.flatten (byteOff gs lo) lo (cs.map (toByteSpan gs)) = .ok (cs.map toCharSpan) := by
  intro cs
  induction cs with
  | nil => intro lo _; rfl
  | cons p rest ih =>
    intro lo hc
    obtain ⟨a, b⟩ := p
    obtain ⟨h1, h2, h3, h4⟩ := hc
    have e1 := sliceCount_groups h h1 (by omega : a ≤ gs.length)
    have e2 := sliceCount_groups h h2 h3
    have e3 := ih b h4
    have ha : lo + (a - lo) = a := by omega
    have hb : a + (b - a) = b := by omega
    simp only [List.map_cons, convLoop, toByteSpan, e1, e2, toCharSpan]
    simp only [bind, Except.bind, pure, Except.pure, ha, hb]
    rw [e3]

theorem sortByStart_of_sorted : ∀ (l : List Span), l.Pairwise (fun a b => a.start ≤ b.start) →
    sortByStart l = l
  | [], _ => rfl
  | a :: rest, h => by
    obtain ⟨h1, h2⟩ := List.pairwise_cons.mp h
    rw [sortByStart, sortByStart_of_sorted rest h2]
    cases rest with
    | nil => rfl
    | cons b r => exact if_pos (h1 b (List.mem_cons_self ..))

theorem retainAux_of_disjoint : ∀ (prev : Span) (l : List Span),
    (prev :: l).Pairwise (fun a b => a.stop ≤ b.start) → retainAux prev l = l
  | _, [], _ => rfl
  | prev, c :: cs, h => by
    obtain ⟨h1, h2⟩ := List.pairwise_cons.mp h
    have : c.overlapsWith prev = false := by
      have := h1 c (List.mem_cons_self ..)
      simp [Span.overlapsWith]; omega
    rw [retainAux, this, retainAux_of_disjoint c cs h2]; rfl

theorem retainStep_of_disjoint : ∀ (l : List Span), l.Pairwise (fun a b => a.stop ≤ b.start) →
    retainStep l = l
  | [], _ => rfl
  | c :: cs, h => by rw [retainStep, retainAux_of_disjoint c cs h]

theorem charChain_iff (n : Nat) : ∀ (cs : List (Nat × Nat)) (lo : Nat),
    CharChain n lo cs ↔ SpanChain lo n (cs.map toCharSpan)
  | [], _ => ⟨fun _ => SpanChain.nil, fun _ => trivial⟩
  | (a, b) :: rest, lo => by
    rw [CharChain, List.map_cons, spanChain_cons, charChain_iff n rest b]; exact Iff.rfl

theorem chain_byteSpans (gs : List (List Nat)) {cs : List (Nat × Nat)} {lo : Nat}
    (h : CharChain gs.length lo cs) :
    (cs.map (toByteSpan gs)).Pairwise (fun a b => a.start ≤ b.start) ∧
      (cs.map (toByteSpan gs)).Pairwise (fun a b => a.stop ≤ b.start) := by
  obtain ⟨hb, hp⟩ := (charChain_iff gs.length cs lo).mp h
  have hp' := List.pairwise_map.mp hp
  exact ⟨List.pairwise_map.mpr (hp'.imp_of_mem fun {p q} hp _ hpq =>
      byteOff_mono gs (Nat.le_trans (hb _ (List.mem_map_of_mem hp)).2.1 hpq)),
    List.pairwise_map.mpr (hp'.imp fun hpq => byteOff_mono gs hpq)⟩

/-! ## `Mask`: the invariant and the operations that maintain it -/

/-- the mask invariant: spans well-formed, inside `n` characters, sorted and pairwise disjoint -/
def MaskOK (n : Nat) (m : List Span) : Prop :=
  (∀ s ∈ m, s.start ≤ s.stop ∧ s.stop ≤ n) ∧ m.Pairwise (fun a b => a.stop ≤ b.start)

theorem MaskOK.nil (n : Nat) : MaskOK n [] := ⟨by simp, List.Pairwise.nil⟩

theorem maskOK_iff {n : Nat} {m : List Span} : MaskOK n m ↔ SpanChain 0 n m :=
  ⟨fun h => ⟨fun s hs => ⟨Nat.zero_le _, h.1 s hs⟩, h.2⟩, fun h => ⟨fun s hs => (h.1 s hs).2, h.2⟩⟩

/-- `Span.getContent_of_le` with its right-hand side read as the model's `slice` -/
theorem getContent_eq {α} (s : Span) (l : List α) (h1 : s.start ≤ s.stop) (h2 : s.stop ≤ l.length) :
    s.getContent l = .ok (slice l s) :=
  Span.getContent_of_le s l h1 h2

theorem slice_length {α} (s : Span) (l : List α) (h2 : s.stop ≤ l.length) :
    (slice l s).length = s.stop - s.start := by
  simp [slice]; omega

/-- a slice of a slice is a slice: a position inside `slice l a` is that position of `l` moved by `a.start` -/
theorem slice_slice {α} (l : List α) (a b : Span) (h : b.stop ≤ a.stop - a.start) :
    slice (slice l a) b = slice l (b.pushBy a.start) := by
  simp only [slice, Span.pushBy, List.drop_take, List.take_take, List.drop_drop, Nat.add_sub_add_right]
  rw [Nat.min_eq_left (by omega), Nat.add_comm]

theorem pushAllowed_ok {n : Nat} {m : List Span} {a : Span} (hm : MaskOK n m)
    (ha : a.start ≤ a.stop) (hn : a.stop ≤ n) (hl : ∀ l, m.getLast? = some l → l.stop ≤ a.start) :
    ∃ m', pushAllowed m a = .ok m' ∧ MaskOK n m' ∧ m'.getLast?.map (·.stop) = some a.stop := by
  unfold pushAllowed
  cases hg : m.getLast? with
  | none =>
    exact ⟨[a], rfl, maskOK_iff.mpr (spanChain_cons.mpr ⟨Nat.zero_le _, ha, hn, SpanChain.nil⟩), rfl⟩
  | some last =>
    obtain ⟨ys, rfl⟩ := List.getLast?_eq_some_iff.mp hg
    have hle := hl last hg
    obtain ⟨hys, h0, h1, _⟩ := spanChain_concat.mp (maskOK_iff.mp hm)
    simp only []
    rw [if_neg (Nat.not_lt.mpr hle)]
    by_cases he : a.start = last.stop
    · rw [if_pos he, List.dropLast_concat]
      exact ⟨_, rfl, maskOK_iff.mpr (spanChain_concat.mpr ⟨hys, h0, Nat.le_trans h1 (he ▸ ha), hn⟩),
        by rw [List.getLast?_concat]; rfl⟩
    · rw [if_neg he]
      exact ⟨_, rfl, maskOK_iff.mpr (spanChain_concat.mpr
        ⟨spanChain_concat.mpr ⟨hys, h0, h1, hle⟩, Nat.zero_le _, ha, hn⟩),
        by rw [List.getLast?_concat]; rfl⟩
theorem pushAllowed_gap (m : List Span) (a : Span)
    (h : ∀ l, m.getLast? = some l → l.stop < a.start) : pushAllowed m a = .ok (m ++ [a]) := by
  unfold pushAllowed
  cases hg : m.getLast? with
  | none =>
    have : m = [] := List.getLast?_eq_none_iff.mp hg
    subst this; rfl
  | some last =>
    have := h last hg
    simp only []
    rw [if_neg (by omega), if_neg (by omega)]

theorem wsPass_ok (isWs : Char → Bool) (src : List Char) : ∀ (m : List Span) (lo : Nat),
    SpanChain lo src.length m →
    ∃ m', wsPass isWs src m = .ok m' ∧ SpanChain lo src.length m' ∧ m'.length ≤ m.length
  | [], _, h => ⟨[], rfl, h, Nat.le_refl _⟩
  | [a], _, h => ⟨[a], rfl, h, Nat.le_refl _⟩
  | a :: b :: rest, lo, h => by
    obtain ⟨ha1, ha2, ha3, hb⟩ := spanChain_cons.mp h
    obtain ⟨hb1, hb2, hb3, hr⟩ := spanChain_cons.mp hb
    have hcont := getContent_eq (⟨a.stop, b.start⟩ : Span) src hb1 (Nat.le_trans hb2 hb3)
    simp only [wsPass, Span.new_of_le hb1, bind, Except.bind, hcont]
    by_cases hws : (slice src ⟨a.stop, b.start⟩).all isWs = true
    · obtain ⟨r, hr', hok, hlen⟩ := wsPass_ok isWs src rest b.stop hr
      have hab : a.start ≤ b.stop := Nat.le_trans ha2 (Nat.le_trans hb1 hb2)
      simp only [if_pos hws, Span.new_of_le hab, hr', pure, Except.pure]
      exact ⟨_, rfl, spanChain_cons.mpr ⟨ha1, hab, hb3, hok⟩,
        Nat.succ_le_succ (Nat.le_succ_of_le hlen)⟩
    · obtain ⟨r, hr', hok, hlen⟩ := wsPass_ok isWs src (b :: rest) a.stop hb
      simp only [if_neg hws, hr', pure, Except.pure]
      exact ⟨_, rfl, spanChain_cons.mpr ⟨ha1, ha2, ha3, hok⟩, Nat.succ_le_succ hlen⟩

theorem mergeWhitespaceSep_ok (isWs : Char → Bool) (src : List Char) :
    ∀ (fuel : Nat) (m : List Span), m.length < fuel → MaskOK src.length m →
      ∃ m', mergeWhitespaceSep isWs src fuel m = .ok m' ∧ MaskOK src.length m'
  | 0, _, h, _ => absurd h (Nat.not_lt_zero _)
  | fuel + 1, m, hf, hm => by
    obtain ⟨after, ha, hok, hlen⟩ := wsPass_ok isWs src m 0 (maskOK_iff.mp hm)
    simp only [mergeWhitespaceSep, ha, bind, Except.bind]
    by_cases hne : after.length ≠ m.length
    · rw [if_pos hne]
      exact mergeWhitespaceSep_ok isWs src fuel after (by omega) (maskOK_iff.mpr hok)
    · rw [if_neg hne]
      exact ⟨after, rfl, maskOK_iff.mpr hok⟩

/-! ## `parsers::Mask::parse` -/

/-- tokens the glue itself inserts between chunks -/
def IsGlue (t : Tok) : Prop := t.kind = .paragraphBreak ∨ t.kind = .newline 1

/-- `Faithful inner src toks`: every token is either a structural break inserted by the glue, or
the image `t.shift off` of a token `t` the inner parser produced on a chunk that *is* the text of
the file at offset `off` — so the text of the file under the token is the text the inner parser saw
under it (`C04.faithful_text`). -/
def Faithful (inner : List Char → List Tok) (src : List Char) (toks : List Tok) : Prop :=
  ∀ tok ∈ toks, IsGlue tok ∨
    ∃ off chunk t, chunk = (src.drop off).take chunk.length ∧ off + chunk.length ≤ src.length ∧
      t ∈ inner chunk ∧ tok = t.shift off

theorem Faithful.nil {inner src} : Faithful inner src [] := by
  intro t ht; cases ht

theorem Faithful.append {inner src a b} (ha : Faithful inner src a) (hb : Faithful inner src b) :
    Faithful inner src (a ++ b) := by
  intro t ht
  rcases List.mem_append.mp ht with h | h
  · exact ha t h
  · exact hb t h

/-- the inner parser keeps its tokens inside the chunk it is given, in order -/
def InnerOK (inner : List Char → List Tok) : Prop :=
  ∀ c, (∀ t ∈ inner c, t.span.start ≤ t.span.stop ∧ t.span.stop ≤ c.length) ∧
    (inner c).Pairwise (fun a b => a.span.stop ≤ b.span.start)

theorem InnerOK.chain {inner : List Char → List Tok} (h : InnerOK inner) (c : List Char) :
    SpanChain 0 c.length ((inner c).map (·.span)) :=
  spanChain_map_span.mpr ⟨fun t ht => ⟨Nat.zero_le _, (h c).1 t ht⟩, (h c).2⟩

/-! What every wrapper does with a chunk `s` of the text: `(inner (slice src s)).map (·.shift s.start)`.
Such tokens are faithful, and under `InnerOK` they form a chain inside `s`. -/

theorem Faithful.chunk {inner : List Char → List Tok} {src : List Char} {s : Span} (h1 : s.start ≤ s.stop)
    (h2 : s.stop ≤ src.length) : Faithful inner src ((inner (slice src s)).map (·.shift s.start)) := by
  intro tok ht
  obtain ⟨t, hti, rfl⟩ := List.mem_map.mp ht
  have hlen := slice_length s src h2
  exact Or.inr ⟨s.start, slice src s, t, by rw [hlen]; rfl, by omega, hti, rfl⟩

theorem InnerOK.chain_at {inner : List Char → List Tok} (hin : InnerOK inner) {l : List Char} {s : Span}
    (h1 : s.start ≤ s.stop) (h2 : s.stop ≤ l.length) :
    SpanChain s.start s.stop (((inner (slice l s)).map (·.shift s.start)).map (·.span)) := by
  have := (hin.chain (slice l s)).pushBy s.start
  rwa [slice_length s l h2, Nat.zero_add, Nat.sub_add_cancel h1, ← map_span_shift] at this

/-- the `ParagraphBreak` between the previous allowed span and `s`: over the gap, if it holds a line break -/
def gapToks (src : List Char) (last : Option Span) (s : Span) : List Tok :=
  match last with
  | none => []
  | some l =>
    if (slice src ⟨l.stop, s.start⟩).contains '\n' then [⟨⟨l.stop, s.start⟩, .paragraphBreak⟩] else []

theorem gapBreak_of_ok {src : List Char} {last : Option Span} {s : Span} {brk : List Tok}
    (h : gapBreak src last s = .ok brk) :
    brk = gapToks src last s ∧ ∀ l, last = some l → l.stop ≤ s.start := by
  cases last with
  | none => cases h; exact ⟨rfl, nofun⟩
  | some l =>
    simp only [gapBreak, bind_ok_iff] at h
    obtain ⟨iv, hiv, c, hc, h⟩ := h
    obtain ⟨hle, rfl⟩ := Span.new_of_ok hiv
    cases Span.getContent_of_ok hc
    cases h
    exact ⟨rfl, fun _ hl => by cases hl; exact hle⟩

theorem gapBreak_eq {src : List Char} {last : Option Span} {s : Span}
    (hl : ∀ l, last = some l → l.stop ≤ s.start) (hs : s.start ≤ src.length) :
    gapBreak src last s = .ok (gapToks src last s) := by
  cases last with
  | none => rfl
  | some l =>
    have h := hl l rfl
    simp only [gapBreak, Span.new_of_le h, bind, Except.bind, getContent_eq ⟨l.stop, s.start⟩ src h hs]
    rfl

/-- what the break before `s` can be: nothing, or one `ParagraphBreak` over a gap that is not empty
(it contains a line feed) -/
theorem gapToks_cases (src : List Char) (last : Option Span) (s : Span) : gapToks src last s = [] ∨
    ∃ l, last = some l ∧ l.stop < s.start ∧ gapToks src last s = [⟨⟨l.stop, s.start⟩, .paragraphBreak⟩] := by
  cases last with
  | none => exact Or.inl rfl
  | some l =>
    by_cases hc : (slice src ⟨l.stop, s.start⟩).contains '\n' = true
    · refine Or.inr ⟨l, rfl, ?_, if_pos hc⟩
      have : s.start - l.stop ≠ 0 := by intro h0; simp [slice, h0] at hc
      omega
    · exact Or.inl (if_neg hc)

/-- the breaks of `Mask::parse`, one list (empty or a single `ParagraphBreak`) per allowed span -/
def maskGaps (src : List Char) : Option Span → List Span → List (List Tok)
  | _, [] => []
  | last, s :: rest => gapToks src last s :: maskGaps src (some s) rest

theorem maskGaps_length (src : List Char) : ∀ (mask : List Span) (last : Option Span),
    (maskGaps src last mask).length = mask.length
  | [], _ => rfl
  | _ :: rest, _ => congrArg (· + 1) (maskGaps_length src rest _)

theorem maskGaps_mem (src : List Char) : ∀ (mask : List Span) (last : Option Span),
    ∀ b ∈ maskGaps src last mask, b.length ≤ 1 ∧
      ∀ t ∈ b, t.kind = .paragraphBreak ∧ t.span.start < t.span.stop
  | [], _, _, h => nomatch h
  | s :: rest, last, b, h => by
    rcases List.mem_cons.mp h with rfl | h
    · rcases gapToks_cases src last s with h | ⟨_, _, hlt, h⟩ <;> rw [h]
      · exact ⟨Nat.zero_le 1, fun _ ht => nomatch ht⟩
      · exact ⟨Nat.le_refl 1, fun t ht => List.mem_singleton.mp ht ▸ ⟨rfl, hlt⟩⟩
    · exact maskGaps_mem src rest _ b h

/-- what `Mask::parse` returns: span by span, the break and the inner parser's tokens on the span's text,
shifted to the span -/
def maskOut (src : List Char) (inner : List Char → List Tok) (last : Option Span) (mask : List Span) :
    List Tok :=
  ((maskGaps src last mask).zip mask).flatMap
    fun p => p.1 ++ (inner (slice src p.2)).map (·.shift p.2.start)

theorem maskOut_cons (src : List Char) (inner : List Char → List Tok) (last : Option Span) (s : Span)
    (rest : List Span) :
    maskOut src inner last (s :: rest) =
      gapToks src last s ++ (inner (slice src s)).map (·.shift s.start) ++ maskOut src inner (some s) rest := by
  simp only [maskOut, maskGaps, List.zip_cons_cons, List.flatMap_cons, List.append_assoc]

/-- the tokens of `maskOut`: those of the breaks, and the inner parser's on every allowed span -/
theorem mem_maskOut {src : List Char} {inner : List Char → List Tok} {tok : Tok} :
    ∀ {mask : List Span} {last : Option Span}, tok ∈ maskOut src inner last mask ↔
      (∃ b ∈ maskGaps src last mask, tok ∈ b) ∨ ∃ s ∈ mask, ∃ t ∈ inner (slice src s), tok = t.shift s.start
  | [], _ => by simp [maskOut, maskGaps]
  | s :: rest, last => by
    rw [maskOut_cons, List.mem_append, List.mem_append, mem_maskOut, maskGaps, or_or_or_comm]
    simp only [List.mem_cons, exists_eq_or_imp, List.mem_map, @eq_comm _ tok]

theorem maskLoop_of_ok (src : List Char) (inner : List Char → List Tok) :
    ∀ (mask : List Span) (last : Option Span) (toks : List Tok),
      maskLoop src inner last mask = .ok toks → toks = maskOut src inner last mask
  | [], _, _, h => by cases h; rfl
  | s :: rest, last, toks, h => by
    simp only [maskLoop, bind_ok_iff] at h
    obtain ⟨c, hc, brk, hb, r, hr, h⟩ := h
    cases h
    rw [maskOut_cons, show c = slice src s from Span.getContent_of_ok hc, (gapBreak_of_ok hb).1, maskLoop_of_ok src inner rest _ r hr]

theorem maskLoop_eq (src : List Char) (inner : List Char → List Tok) :
    ∀ (mask : List Span) (last : Option Span) (lo : Nat), SpanChain lo src.length mask →
      (∀ l, last = some l → l.stop = lo) →
      maskLoop src inner last mask = .ok (maskOut src inner last mask)
  | [], _, _, _, _ => rfl
  | s :: rest, last, lo, h, hl => by
    obtain ⟨h1, h2, h3, hr⟩ := spanChain_cons.mp h
    simp only [maskLoop, getContent_eq s src h2 h3,
      gapBreak_eq (fun l h => (hl l h).symm ▸ h1) (Nat.le_trans h2 h3),
      maskLoop_eq src inner rest (some s) s.stop hr (fun _ h => by cases h; rfl), maskOut_cons,
      bind, Except.bind, pure, Except.pure]

theorem maskOut_chain (src : List Char) {inner : List Char → List Tok} (hin : InnerOK inner) :
    ∀ (mask : List Span) (last : Option Span) (lo : Nat), SpanChain lo src.length mask →
      (∀ l, last = some l → l.stop = lo) →
      SpanChain lo src.length ((maskOut src inner last mask).map (·.span))
  | [], _, _, _, _ => SpanChain.nil
  | s :: rest, last, lo, h, hl => by
    obtain ⟨h1, h2, h3, hr⟩ := spanChain_cons.mp h
    have hgap : SpanChain lo s.start ((gapToks src last s).map (·.span)) := by
      rcases gapToks_cases src last s with h | ⟨l, hl', hlt, h⟩ <;> rw [h]
      · exact SpanChain.nil
      · exact spanChain_cons.mpr
          ⟨Nat.le_of_eq (hl l hl').symm, Nat.le_of_lt hlt, Nat.le_refl _, SpanChain.nil⟩
    rw [maskOut_cons, List.map_append, List.map_append]
    exact ((hgap.append (hin.chain_at h2 h3) h1 h2).append
      (maskOut_chain src hin rest (some s) s.stop hr (fun _ h => by cases h; rfl))
      (Nat.le_trans h1 h2) h3)

theorem maskOut_pos (src : List Char) (inner : List Char → List Tok)
    (hpos : ∀ c, ∀ t ∈ inner c, t.span.start < t.span.stop) (mask : List Span) (last : Option Span) :
    ∀ t ∈ maskOut src inner last mask, t.span.start < t.span.stop := by
  intro t ht
  rcases mem_maskOut.mp ht with ⟨b, hb, htb⟩ | ⟨s, _, u, hu, rfl⟩
  · exact ((maskGaps_mem src mask last b hb).2 t htb).2
  · exact Nat.add_lt_add_right (hpos _ u hu) _

/-- `parsers::Mask::parse`: if the inner parser's tokens all cover a character (a tiling lexer's do),
so do all tokens of the masked parse — a `ParagraphBreak` is only put over a gap that contains a
line feed. No hypothesis on the mask. -/
theorem maskLoop_pos (src : List Char) (inner : List Char → List Tok)
    (hpos : ∀ c, ∀ t ∈ inner c, t.span.start < t.span.stop) (mask : List Span) (last : Option Span)
    (toks : List Tok) (h : maskLoop src inner last mask = .ok toks) :
    ∀ t ∈ toks, t.span.start < t.span.stop :=
  maskLoop_of_ok src inner mask last toks h ▸ maskOut_pos src inner hpos mask last

/-! ## comment leaders -/

/-- the value of `without_initiators` on a line (it never fails: `withoutInitiators_eq`) -/
def leaderSpan (isWs : Char → Bool) (line : List Char) : Span :=
  match withoutInitiators isWs line with
  | .ok a => a
  | .error _ => ⟨0, 0⟩

theorem withoutInitiators_eq (isWs : Char → Bool) (line : List Char) :
    withoutInitiators isWs line = .ok (leaderSpan isWs line) ∧
      (leaderSpan isWs line).start ≤ (leaderSpan isWs line).stop ∧
      (leaderSpan isWs line).stop ≤ line.length := by
  have h : ∃ s, withoutInitiators isWs line = .ok s ∧ s.start ≤ s.stop ∧ s.stop ≤ line.length := by
    unfold withoutInitiators
    generalize hkeep : (fun c => !isCommentChar c && !isWs c) = keep
    by_cases hany : line.reverse.any keep = true
    · simp only [hany, if_true]
      have hlt : line.reverse.findIdx keep < line.reverse.length :=
        List.findIdx_lt_length.mpr (List.any_eq_true.mp hany)
      have hk : keep (line.reverse[line.reverse.findIdx keep]) = true := List.findIdx_getElem
      rw [List.getElem_reverse] at hk
      have hlen : line.reverse.length = line.length := List.length_reverse
      have hle : line.findIdx keep ≤ line.length - 1 - line.reverse.findIdx keep := by
        apply Nat.le_of_not_lt
        intro hc
        have := List.not_of_lt_findIdx hc
        rw [this] at hk
        cases hk
      have : ¬ (line.findIdx keep > line.length - line.reverse.findIdx keep) := by omega
      simp only [Span.new, this, if_false]
      exact ⟨_, rfl, by simp; omega, by simp⟩
    · simp only [hany, Bool.false_eq_true, if_false]
      have hall : ∀ x ∈ line, keep x = false := by
        intro x hx
        cases hkx : keep x with
        | false => rfl
        | true =>
          exact absurd (List.any_eq_true.mpr ⟨x, List.mem_reverse.mpr hx, hkx⟩) hany
      have hs : line.findIdx keep = line.length := List.findIdx_eq_length.mpr hall
      simp only [Span.new, hs, Nat.sub_zero, gt_iff_lt, Nat.lt_irrefl, if_false]
      exact ⟨_, rfl, by simp, by simp⟩
  obtain ⟨a, ha, h1, h2⟩ := h
  simp [leaderSpan, ha, h1, h2]

/-! ## JSDoc inline tags -/

theorem inlineTagLoop_ok (ks : List Kind) (fuel cursor : Nat) (h1 : cursor ≤ ks.length)
    (h : ks.length < fuel + cursor) :
    ∃ r, inlineTagLoop ks fuel cursor = .ok r ∧ ∀ p, r = some p → cursor < p ∧ p ≤ ks.length := by
  fun_induction inlineTagLoop ks fuel cursor with
  | case1 => omega
  | case2 fuel cursor hget =>
    have := (List.getElem?_eq_some_iff.mp hget).1
    exact ⟨_, rfl, fun p hp => by cases hp; omega⟩
  | case3 fuel cursor k _ hget ih =>
    have := (List.getElem?_eq_some_iff.mp hget).1
    obtain ⟨r, hr, hp⟩ := ih (by omega) (by omega)
    exact ⟨r, hr, fun p hp' => by have := hp p hp'; omega⟩
  | case4 => exact ⟨none, rfl, nofun⟩

theorem parseInlineTag_ok (ks : List Kind) (fuel : Nat) (hf : ks.length < fuel) :
    ∃ r, parseInlineTag fuel ks = .ok r ∧ ∀ p, r = some p → 3 < p ∧ p ≤ ks.length := by
  unfold parseInlineTag
  split
  · next rest =>
    exact inlineTagLoop_ok _ fuel 3 (by simp) (by omega)
  · exact ⟨none, rfl, by simp⟩

theorem markUnlintable_length (toks : List Tok) (a b : Nat) :
    (markUnlintable toks a b).length = toks.length := by
  simp [markUnlintable]

theorem nextOpenCurly_bounds {toks : List Tok} {cursor c : Nat}
    (h : nextOpenCurly toks cursor = some c) : cursor ≤ c ∧ c < toks.length := by
  unfold nextOpenCurly at h
  cases hf : (toks.drop cursor).findIdx? (fun t => t.kind == .punct .OpenCurly) with
  | none => simp [hf] at h
  | some i =>
    have := (List.findIdx?_eq_some_iff_findIdx_eq.mp hf).1
    simp [hf] at h
    simp at this
    omega

/-! ## `Unit::parse`: lines, offsets, code fences, the exact output -/

/-- inverse of `splitNl` -/
def joinNl : List (List Char) → List Char
  | [] => []
  | [l] => l
  | l :: ls => l ++ '\n' :: joinNl ls

theorem splitNl_ne_nil (s : List Char) : splitNl s ≠ [] := by
  induction s with
  | nil => simp [splitNl]
  | cons c cs ih =>
    unfold splitNl
    split
    · simp
    · split <;> simp

theorem joinNl_splitNl (s : List Char) : joinNl (splitNl s) = s := by
  induction s with
  | nil => rfl
  | cons c cs ih =>
    unfold splitNl
    by_cases hc : c = '\n'
    · rw [if_pos hc]
      cases hs : splitNl cs with
      | nil => exact absurd hs (splitNl_ne_nil cs)
      | cons l ls => rw [hs] at ih; simp [joinNl, ih, hc]
    · rw [if_neg hc]
      cases hs : splitNl cs with
      | nil => exact absurd hs (splitNl_ne_nil cs)
      | cons l ls =>
        rw [hs] at ih
        cases ls with
        | nil => simp [joinNl] at ih ⊢; exact ih
        | cons l2 ls2 => simp [joinNl] at ih ⊢; exact ih

theorem joinNl_cons_length (l : List Char) (ls : List (List Char)) :
    l.length ≤ (joinNl (l :: ls)).length ∧
      (ls ≠ [] → (joinNl (l :: ls)).length = l.length + 1 + (joinNl ls).length) := by
  cases ls with
  | nil => exact ⟨Nat.le_refl _, fun h => absurd rfl h⟩
  | cons l2 ls =>
    have : (joinNl (l :: l2 :: ls)).length = l.length + 1 + (joinNl (l2 :: ls)).length := by
      rw [joinNl, List.length_append, List.length_cons, Nat.add_assoc, Nat.add_comm 1]
      exact fun h => nomatch h
    exact ⟨by omega, fun _ => this⟩

/-- offset of line `i` inside the text: `Σ_{j<i} (len_j + 1)` -/
def lineStart (lines : List (List Char)) (i : Nat) : Nat :=
  ((lines.take i).map (fun l => l.length + 1)).sum

theorem lineStart_zero (lines : List (List Char)) : lineStart lines 0 = 0 := by simp [lineStart]

theorem lineStart_succ (l : List Char) (ls : List (List Char)) (i : Nat) :
    lineStart (l :: ls) (i + 1) = l.length + 1 + lineStart ls i := by
  simp [lineStart]

theorem shift_shift (t : Tok) (a b : Nat) : (t.shift a).shift b = t.shift (b + a) := by
  simp [Tok.shift, Span.pushBy]; omega

theorem chunk_located (pre line tail : List Char) (a : Span) (h1 : a.start ≤ a.stop)
    (h2 : a.stop ≤ line.length) :
    slice line a = ((pre ++ line ++ tail).drop (pre.length + a.start)).take (slice line a).length := by
  rw [slice_length a line h2]
  simp only [slice, List.append_assoc]
  rw [← List.drop_drop, List.drop_left, List.drop_append_of_le_length (by omega),
    List.take_append_of_le_length (by simp; omega)]

theorem line_located : ∀ (lines : List (List Char)) (j : Nat) (line : List Char), lines[j]? = some line →
    ∃ pre tail, joinNl lines = pre ++ line ++ tail ∧ pre.length = lineStart lines j ∧
      (tail = [] ∨ j + 1 < lines.length)
  | [l], 0, line, h => by
    cases h; exact ⟨[], [], (List.append_nil _).symm, (lineStart_zero _).symm, Or.inl rfl⟩
  | l :: l2 :: ls, 0, line, h => by
    cases h
    exact ⟨[], '\n' :: joinNl (l2 :: ls), rfl, (lineStart_zero _).symm, Or.inr (Nat.le_add_left 2 _)⟩
  | l :: l2 :: ls, j + 1, line, h => by
    obtain ⟨pre, tail, h1, h2, h3⟩ := line_located (l2 :: ls) j line h
    refine ⟨l ++ '\n' :: pre, tail, ?_, ?_, h3.imp_right Nat.succ_lt_succ⟩
    · rw [joinNl, h1]
      · simp only [List.append_assoc, List.cons_append]
      · exact fun h => nomatch h
    · rw [lineStart_succ, List.length_append, List.length_cons, h2]; omega

/-- the line break `Unit::parse` and `JsDoc::parse` push after every line but the last -/
def nlTok (p : Nat) : Tok := ⟨⟨p, p + 1⟩, .newline 1⟩

theorem lineBreakTok_shift (total trav : Nat) (line : List Char) :
    (lineBreakTok total trav line).map (·.shift trav) =
      if trav + line.length < total then [nlTok (trav + line.length)] else [] := by
  unfold lineBreakTok
  split
  · simp only [List.map_cons, List.map_nil, nlTok, Tok.shift, Span.pushBy, Nat.add_comm trav,
      Nat.add_right_comm]
  · rfl

theorem lineIsCodeFence_val (isWs : Char → Bool) (line : List Char) :
    lineIsCodeFence isWs line = .ok ((slice line (leaderSpan isWs line)).take 3 == ['`', '`', '`']) := by
  obtain ⟨ha, h1, h2⟩ := withoutInitiators_eq isWs line
  simp only [lineIsCodeFence, ha, bind, Except.bind, getContent_eq _ line h1 h2, pure, Except.pure]

/-- the value of `lineIsCodeFence` on a line (it never fails: `lineIsCodeFence_eq`) — the `isF` of `unitLoop` -/
def isFenceLine (isWs : Char → Bool) (line : List Char) : Bool :=
  match lineIsCodeFence isWs line with
  | .ok b => b
  | .error _ => false

theorem isFenceLine_eq (isWs : Char → Bool) (line : List Char) :
    isFenceLine isWs line = ((slice line (leaderSpan isWs line)).take 3 == ['`', '`', '`']) := by
  rw [isFenceLine, lineIsCodeFence_val]

theorem lineIsCodeFence_eq (isWs : Char → Bool) (line : List Char) :
    lineIsCodeFence isWs line = .ok (isFenceLine isWs line) := by
  rw [isFenceLine_eq, lineIsCodeFence_val]

/-- what `unit.rs:parse_line` returns for a line -/
def parsedLine (isWs : Char → Bool) (inner : List Char → List Tok) (line : List Char) : List Tok :=
  if (leaderSpan isWs line).isEmpty then []
  else (inner (slice line (leaderSpan isWs line))).map (·.shift (leaderSpan isWs line).start)

theorem parseLine_eq (isWs : Char → Bool) (inner : List Char → List Tok) (line : List Char) :
    parseLine isWs inner line = .ok (parsedLine isWs inner line) := by
  obtain ⟨ha, h1, h2⟩ := withoutInitiators_eq isWs line
  simp only [parseLine, parsedLine, ha, bind, Except.bind]
  by_cases he : (leaderSpan isWs line).isEmpty = true
  · rw [if_pos he, if_pos he]; rfl
  · rw [if_neg he, if_neg he, getContent_eq _ line h1 h2]; rfl

/-- everything `Unit::parse` appends for one line that is NOT skipped, the line starting at offset
`off`: the inner parser's tokens on the stripped line, then the line-break token, all pushed by `off` -/
def unitLineToks (isWs : Char → Bool) (total : Nat) (inner : List Char → List Tok) (off : Nat)
    (line : List Char) : List Tok :=
  (parsedLine isWs inner line ++ lineBreakTok total off line).map (·.shift off)

/-- `in_code_fence` AFTER the toggle, for every line in turn (`fence` = the flag before the first line) -/
def fenceStates (isWs : Char → Bool) : Bool → List (List Char) → List Bool
  | _, [] => []
  | fence, line :: rest =>
    (if isFenceLine isWs line then !fence else fence) ::
      fenceStates isWs (if isFenceLine isWs line then !fence else fence) rest

/-- concatenation of `unitLineToks` over the lines whose state is `false`; nothing for the others -/
def unitOut (isWs : Char → Bool) (total : Nat) (inner : List Char → List Tok) :
    Nat → List (List Char) → List Bool → List Tok
  | off, line :: rest, st :: sts =>
    (if st then [] else unitLineToks isWs total inner off line) ++
      unitOut isWs total inner (off + line.length + 1) rest sts
  | _, _, _ => []

theorem fenceStates_length (isWs : Char → Bool) : ∀ (fence : Bool) (lines : List (List Char)),
    (fenceStates isWs fence lines).length = lines.length
  | _, [] => rfl
  | fence, l :: ls => by simp [fenceStates, fenceStates_length isWs _ ls]

/-- **exact output of the `Unit::parse` loop** -/
theorem unitLoop_eq (isWs : Char → Bool) (total : Nat) (inner : List Char → List Tok) :
    ∀ (lines : List (List Char)) (trav : Nat) (fence : Bool),
      unitLoop isWs total inner trav fence lines =
        .ok (unitOut isWs total inner trav lines (fenceStates isWs fence lines)) := by
  intro lines
  induction lines with
  | nil => intro _ _; rfl
  | cons line rest ih =>
    intro trav fence
    simp only [unitLoop, lineIsCodeFence_eq, bind, Except.bind, fenceStates, unitOut, ih, parseLine_eq,
      pure, Except.pure]
    by_cases h : (if isFenceLine isWs line = true then !fence else fence) = true
    · rw [if_pos h, if_pos h]; rfl
    · rw [if_neg h, if_neg h]; rfl

theorem parity_succ (n : Nat) : ((n + 1) % 2 == 1) = !(n % 2 == 1) := by
  rcases Nat.mod_two_eq_zero_or_one n with h | h <;> simp [Nat.add_mod, h]

/-- the state after line `j`: the initial flag, flipped once per fence line among lines `0..=j` -/
theorem fenceStates_getElem? (isWs : Char → Bool) : ∀ (lines : List (List Char)) (fence : Bool) (j : Nat),
    j < lines.length →
    (fenceStates isWs fence lines)[j]? =
      some (fence != (((lines.take (j + 1)).countP (isFenceLine isWs)) % 2 == 1))
  | [], _, _, h => absurd h (Nat.not_lt_zero _)
  | l :: ls, fence, 0, _ => by
    cases hf : isFenceLine isWs l <;> cases fence <;> simp [fenceStates, hf]
  | l :: ls, fence, j + 1, h => by
    rw [fenceStates, List.getElem?_cons_succ,
      fenceStates_getElem? isWs ls _ j (Nat.lt_of_succ_lt_succ h), List.take_succ_cons, List.countP_cons]
    cases isFenceLine isWs l
    · rfl
    · rw [if_pos rfl, if_pos rfl, parity_succ]
      cases fence <;> cases (List.countP (isFenceLine isWs) (List.take (j + 1) ls) % 2 == 1) <;> rfl
theorem exists_zero_or_succ {P : Nat → Prop} : (∃ j, P j) ↔ P 0 ∨ ∃ j, P (j + 1) :=
  ⟨fun ⟨j, h⟩ => by cases j with | zero => exact Or.inl h | succ j => exact Or.inr ⟨j, h⟩,
   fun h => h.elim (fun h => ⟨0, h⟩) fun ⟨j, h⟩ => ⟨j + 1, h⟩⟩

theorem mem_unitOut (isWs : Char → Bool) (total : Nat) (inner : List Char → List Tok) (tok : Tok) :
    ∀ (lines : List (List Char)) (sts : List Bool) (base : Nat),
      tok ∈ unitOut isWs total inner base lines sts ↔
        ∃ j line, lines[j]? = some line ∧ sts[j]? = some false ∧
          tok ∈ unitLineToks isWs total inner (base + lineStart lines j) line
  | [], _, _ => by simp [unitOut]
  | _ :: _, [], _ => by simp [unitOut]
  | l :: ls, st :: sts, base => by
    rw [unitOut, List.mem_append, mem_unitOut isWs total inner tok ls sts]
    refine Iff.trans (or_congr ?_ (exists_congr fun j => ?_)) exists_zero_or_succ.symm
    · cases st <;> simp [lineStart_zero]
    · rw [lineStart_succ, ← Nat.add_assoc, ← Nat.add_assoc]; exact Iff.rfl

theorem mem_unitLineToks (isWs : Char → Bool) (total : Nat) (inner : List Char → List Tok) (off : Nat)
    (line : List Char) (tok : Tok) :
    tok ∈ unitLineToks isWs total inner off line ↔
      (off + line.length < total ∧ tok = nlTok (off + line.length)) ∨
      ((leaderSpan isWs line).isEmpty = false ∧ ∃ t ∈ inner (slice line (leaderSpan isWs line)),
        tok = t.shift (off + (leaderSpan isWs line).start)) := by
  rw [unitLineToks, List.map_append, lineBreakTok_shift, List.mem_append, Or.comm, parsedLine]
  refine or_congr ?_ ?_
  · split <;> simp [nlTok, *]
  · cases (leaderSpan isWs line).isEmpty <;> simp [shift_shift, eq_comm]

/-- where a token of `Unit::parse` sits: on the line break after line `j`, or it is the image of an
inner token of line `j` at `Σ_{j'<j}(len_j'+1) + leader_j + column` -/
def UnitTokAt (isWs : Char → Bool) (inner : List Char → List Tok) (lines : List (List Char))
    (base : Nat) (tok : Tok) : Prop :=
  (∃ j line, lines[j]? = some line ∧ j + 1 < lines.length ∧
      tok = ⟨⟨base + lineStart lines j + line.length, base + lineStart lines j + line.length + 1⟩, .newline 1⟩) ∨
  (∃ j line a t, lines[j]? = some line ∧ withoutInitiators isWs line = .ok a ∧
      t ∈ inner (slice line a) ∧ tok = t.shift (base + lineStart lines j + a.start))

/-- the tokens of one line, the line starting at `off`: a chain from `off` to the end of the line, or
one further when the line break is there -/
theorem unitLineToks_chain {inner : List Char → List Tok} (hin : InnerOK inner) (isWs : Char → Bool)
    (total off : Nat) (line : List Char) {hi : Nat} (h1 : off + line.length ≤ hi)
    (h2 : off + line.length < total → off + line.length + 1 ≤ hi) :
    SpanChain off hi ((unitLineToks isWs total inner off line).map (·.span)) := by
  obtain ⟨_, ha1, ha2⟩ := withoutInitiators_eq isWs line
  have hp : SpanChain off (off + line.length)
      (((parsedLine isWs inner line).map (·.shift off)).map (·.span)) := by
    rw [map_span_shift, parsedLine]
    split
    · exact SpanChain.nil
    · exact ((hin.chain_at ha1 ha2).pushBy off).mono (by omega) (by omega)
  rw [unitLineToks, List.map_append, lineBreakTok_shift, List.map_append]
  refine hp.append ?_ (Nat.le_add_right _ _) h1
  split
  · exact spanChain_cons.mpr ⟨Nat.le_refl _, Nat.le_succ _, h2 ‹_›, SpanChain.nil⟩
  · exact SpanChain.nil

/-- the tokens of `Unit::parse` are in order and inside the text, whatever lines are skipped -/
theorem unitOut_chain {inner : List Char → List Tok} (hin : InnerOK inner) (isWs : Char → Bool) (total : Nat) :
    ∀ (lines : List (List Char)) (sts : List Bool) (off : Nat),
      (lines ≠ [] → off + (joinNl lines).length ≤ total) →
      SpanChain off total ((unitOut isWs total inner off lines sts).map (·.span))
  | [], _, _, _ => SpanChain.nil
  | _ :: _, [], _, _ => SpanChain.nil
  | line :: rest, st :: sts, off, h => by
    obtain ⟨h1, h2⟩ := joinNl_cons_length line rest
    have hhi := h (List.cons_ne_nil _ _)
    have hline : ∀ {hi}, off + line.length ≤ hi → (off + line.length < total → off + line.length + 1 ≤ hi) →
        SpanChain off hi ((if st then [] else unitLineToks isWs total inner off line).map (·.span)) := by
      intro hi h3 h4
      cases st
      · exact unitLineToks_chain hin isWs total off line h3 h4
      · exact SpanChain.nil
    rw [unitOut, List.map_append]
    cases rest with
    | nil =>
      rw [show unitOut isWs total inner (off + line.length + 1) [] sts = [] from rfl, List.map_nil, List.append_nil]
      exact hline (by omega) (by omega)
    | cons l2 ls =>
      rw [h2 (List.cons_ne_nil _ _)] at hhi
      exact (hline (Nat.le_succ _) (fun _ => Nat.le_refl _)).append
        (unitOut_chain hin isWs total (l2 :: ls) sts _ (fun _ => by omega)) (by omega) (by omega)

/-- every token of `Unit::parse`, whatever lines are skipped, is located (`UnitTokAt`), and the chunk it
comes from is the text of the file at that offset -/
theorem unitOut_faithful (isWs : Char → Bool) (src : List Char) (inner : List Char → List Tok)
    (sts : List Bool) : ∀ tok ∈ unitOut isWs src.length inner 0 (splitNl src) sts,
      (IsGlue tok ∨ ∃ off chunk t, chunk = (src.drop off).take chunk.length ∧
        off + chunk.length ≤ src.length ∧ t ∈ inner chunk ∧ tok = t.shift off) ∧
      UnitTokAt isWs inner (splitNl src) 0 tok := by
  intro tok ht
  obtain ⟨j, line, hj, _, hm⟩ := (mem_unitOut isWs src.length inner tok _ _ 0).mp ht
  obtain ⟨pre, tail, hsrc, hpre, htail⟩ := line_located (splitNl src) j line hj
  rw [joinNl_splitNl] at hsrc
  obtain ⟨ha, h1, h2⟩ := withoutInitiators_eq isWs line
  rw [Nat.zero_add, ← hpre] at hm
  rcases (mem_unitLineToks isWs src.length inner _ line tok).mp hm with ⟨hlt, rfl⟩ | ⟨_, t, hti, rfl⟩
  · refine ⟨Or.inl (Or.inr rfl), Or.inl ⟨j, line, hj, htail.resolve_left fun h0 => ?_, by rw [Nat.zero_add, hpre]; rfl⟩⟩
    rw [hsrc, h0, List.append_nil, List.length_append] at hlt
    exact Nat.lt_irrefl _ hlt
  · refine ⟨Or.inr ⟨_, slice line (leaderSpan isWs line), t, ?_, ?_, hti, rfl⟩,
      Or.inr ⟨j, line, _, t, hj, ha, hti, by rw [Nat.zero_add, hpre]⟩⟩
    · rw [hsrc]; exact chunk_located pre line tail _ h1 h2
    · rw [slice_length _ line h2, hsrc, List.length_append, List.length_append]; omega

/-- the lines (with their line breaks) occupy disjoint, increasing stretches of the text -/
theorem lineStart_lt : ∀ (lines : List (List Char)) (j k : Nat) (l : List Char),
    lines[j]? = some l → j < k → lineStart lines j + l.length + 1 ≤ lineStart lines k
  | [], _, _, _, h, _ => nomatch h
  | x :: xs, 0, k + 1, l, h, _ => by
    cases h
    rw [lineStart_zero, lineStart_succ]; omega
  | x :: xs, j + 1, k + 1, l, h, hjk => by
    have := lineStart_lt xs j k l h (Nat.lt_of_succ_lt_succ hjk)
    rw [lineStart_succ, lineStart_succ]; omega

theorem fenceStates_no_fence (isWs : Char → Bool) : ∀ (lines : List (List Char)) (fence : Bool),
    (∀ l ∈ lines, isFenceLine isWs l = false) →
    fenceStates isWs fence lines = List.replicate lines.length fence
  | [], _, _ => rfl
  | l :: ls, fence, h => by
    have hl : isFenceLine isWs l = false := h l (by simp)
    simp [fenceStates, hl, List.replicate_succ,
      fenceStates_no_fence isWs ls fence (fun x hx => h x (List.mem_cons_of_mem _ hx))]

theorem leaderSpan_fence_nonempty (isWs : Char → Bool) (line : List Char)
    (hf : isFenceLine isWs line = true) : (leaderSpan isWs line).isEmpty = false := by
  obtain ⟨_, _, h2⟩ := withoutInitiators_eq isWs line
  rw [isFenceLine_eq] at hf
  cases he : (leaderSpan isWs line).isEmpty
  · rfl
  · have hl := slice_length _ line h2
    have : slice line (leaderSpan isWs line) = [] :=
      List.eq_nil_of_length_eq_zero (by simp [Span.isEmpty, Span.len] at he; omega)
    rw [this] at hf; cases hf

/-- a fence line is never blank after stripping: the inner parser is really called on it, on a
chunk that begins with the three backticks -/
theorem parsedLine_fence (isWs : Char → Bool) (inner : List Char → List Tok) (line : List Char)
    (hf : isFenceLine isWs line = true) :
    (slice line (leaderSpan isWs line)).take 3 = ['`', '`', '`'] ∧
    parsedLine isWs inner line =
      (inner (slice line (leaderSpan isWs line))).map (·.shift (leaderSpan isWs line).start) := by
  refine ⟨eq_of_beq (isFenceLine_eq isWs line ▸ hf), ?_⟩
  rw [parsedLine, leaderSpan_fence_nonempty isWs line hf]; rfl

/-! ## Literate Haskell -/

/-- the shape of one step: only the three tests and the bird-track offset matter below -/
theorem lhsStep_shape (isWs : Char → Bool) (text code : Bool) (st : LhsSt) (line : List Char) :
    ∃ (c1 c2 sel ic e : Bool), lhsStep isWs text code st line =
      if c1 then (⟨st.loc + line.length + 1, ic, e⟩, none)
      else if c2 then (⟨st.loc + line.length + 1, ic, true⟩, none)
      else (⟨st.loc + line.length + 1, ic, e⟩,
        if sel then some (if line.head? == some '>' then min (st.loc + 2) (st.loc + line.length) else st.loc,
          st.loc + line.length) else none) :=
  ⟨_, _, _, _, _, rfl⟩

theorem lhsStep_props (isWs : Char → Bool) (text code : Bool) (st : LhsSt) (line : List Char) :
    (lhsStep isWs text code st line).1.loc = st.loc + line.length + 1 ∧
    ∀ a b, (lhsStep isWs text code st line).2 = some (a, b) →
      b = st.loc + line.length ∧
      (a = st.loc ∨ (line.head? = some '>' ∧ a = min (st.loc + 2) b)) := by
  obtain ⟨c1, c2, sel, ic, e, h⟩ := lhsStep_shape isWs text code st line
  rw [h]
  cases c1
  · cases c2
    · refine ⟨rfl, fun a b hab => ?_⟩
      cases sel
      · cases hab
      · cases hab
        refine ⟨rfl, ?_⟩
        by_cases hb : (line.head? == some '>') = true
        · rw [if_pos hb]; exact Or.inr ⟨eq_of_beq hb, rfl⟩
        · rw [if_neg hb]; exact Or.inl rfl
    · exact ⟨rfl, nofun⟩
  · exact ⟨rfl, nofun⟩

theorem lhsStep_span {isWs : Char → Bool} {text code : Bool} {st : LhsSt} {line : List Char} {a b : Nat}
    (h : (lhsStep isWs text code st line).2 = some (a, b)) :
    st.loc ≤ a ∧ a ≤ b ∧ b = st.loc + line.length := by
  obtain ⟨rfl, ha⟩ := (lhsStep_props isWs text code st line).2 a b h
  rcases ha with rfl | ⟨_, rfl⟩ <;> omega

/-- the lines the state machine selects, with their spans (no panics, no offsets to get wrong) -/
def lhsSelected (isWs : Char → Bool) (text code : Bool) : LhsSt → List (List Char) → List (Nat × Nat)
  | _, [] => []
  | st, line :: rest =>
    match lhsStep isWs text code st line with
    | (st', none) => lhsSelected isWs text code st' rest
    | (st', some p) => p :: lhsSelected isWs text code st' rest

theorem lhsLoop_eq (isWs : Char → Bool) (text code : Bool) :
    ∀ (lines : List (List Char)) (st : LhsSt) (m : List Span),
      (∀ l, m.getLast? = some l → l.stop < st.loc) →
      lhsLoop isWs text code st m lines =
        .ok (m ++ (lhsSelected isWs text code st lines).map (fun p => ⟨p.1, p.2⟩))
  | [], _, m, _ => by rw [lhsLoop, lhsSelected, List.map_nil, List.append_nil]
  | line :: rest, st, m, hm => by
    have hloc := (lhsStep_props isWs text code st line).1
    have hsel := @lhsStep_span isWs text code st line
    unfold lhsLoop lhsSelected
    cases hstep : lhsStep isWs text code st line with
    | mk st' r =>
      rw [hstep] at hloc hsel
      have hst' : st.loc ≤ st'.loc := by rw [show st'.loc = _ from hloc]; omega
      cases r with
      | none => exact lhsLoop_eq isWs text code rest st' m (fun l hl => Nat.lt_of_lt_of_le (hm l hl) hst')
      | some q =>
        obtain ⟨a, b⟩ := q
        obtain ⟨hla, hab, rfl⟩ := hsel rfl
        have hpush : pushAllowed m ⟨a, st.loc + line.length⟩ = .ok (m ++ [⟨a, st.loc + line.length⟩]) :=
          pushAllowed_gap m _ (fun l hl => Nat.lt_of_lt_of_le (hm l hl) hla)
        simp only [Span.new_of_le hab, hpush, bind, Except.bind]
        rw [lhsLoop_eq isWs text code rest st' _ (fun l hl => by
          rw [List.getLast?_concat] at hl; cases hl
          rw [show st'.loc = _ from hloc]; exact Nat.lt_succ_self _), List.map_cons, List.append_assoc]
        rfl

theorem lhsSelected_chain (isWs : Char → Bool) (text code : Bool) (hi : Nat) :
    ∀ (lines : List (List Char)) (st : LhsSt), (lines ≠ [] → st.loc + (joinNl lines).length ≤ hi) →
      SpanChain st.loc hi ((lhsSelected isWs text code st lines).map (fun p => ⟨p.1, p.2⟩))
  | [], _, _ => SpanChain.nil
  | line :: rest, st, h => by
    have hloc := (lhsStep_props isWs text code st line).1
    have hsel := @lhsStep_span isWs text code st line
    obtain ⟨h1, h2⟩ := joinNl_cons_length line rest
    have hhi := h (List.cons_ne_nil _ _)
    have ih := lhsSelected_chain isWs text code hi rest (lhsStep isWs text code st line).1
      (fun hne => by rw [hloc]; rw [h2 hne] at hhi; omega)
    rw [hloc] at ih
    unfold lhsSelected
    cases hstep : lhsStep isWs text code st line with
    | mk st' r =>
      rw [hstep] at ih hsel
      cases r with
      | none => exact ih.mono (by omega) (Nat.le_refl _)
      | some q =>
        obtain ⟨a, b⟩ := q
        obtain ⟨hla, hab, rfl⟩ := hsel rfl
        exact spanChain_cons.mpr ⟨hla, hab, Nat.le_trans (Nat.add_le_add_left h1 _) hhi,
          ih.mono (Nat.le_succ _) (Nat.le_refl _)⟩


/-! ## JavaDoc block tags -/

theorem unl_unl (t : Tok) : unl (unl t) = unl t := rfl

theorem tagWindow_not_unl (a b c d : Tok) : tagWindow (unl a) b c d = false := by
  simp [tagWindow, unl, isAtKind]

/-- a `@tag argument` window starts at index `j` of `l` -/
def WindowAt (l : List Tok) (j : Nat) : Prop :=
  ∃ a b c d tl, l.drop j = a :: b :: c :: d :: tl ∧ tagWindow a b c d = true

theorem tagWindow_parts {a b c d : Tok} (h : tagWindow a b c d = true) :
    isAtKind a.kind = true ∧ b.kind.isWord = true ∧ c.kind.isSpace = true ∧ d.kind.isWord = true := by
  simpa [tagWindow, Bool.and_eq_true, and_assoc] using h

theorem isAtKind_eq {k : Kind} (h : isAtKind k = true) : k = .punct .At := by
  unfold isAtKind at h
  split at h
  · rfl
  · cases h

theorem not_at_of {p : Kind → Bool} (hp : p (.punct .At) = false) {k : Kind} (h : p k = true) :
    isAtKind k = false := by
  cases hk : isAtKind k
  · rfl
  · rw [isAtKind_eq hk, hp] at h; cases h

def startsTag : List Tok → Bool
  | a :: b :: c :: d :: _ => tagWindow a b c d
  | _ => false

theorem windowAt_zero {l : List Tok} : WindowAt l 0 ↔ startsTag l = true := by
  constructor
  · rintro ⟨a, b, c, d, tl, h, hw⟩
    rw [List.drop_zero] at h
    subst h; exact hw
  · intro h
    unfold startsTag at h
    split at h
    · exact ⟨_, _, _, _, _, rfl, h⟩
    · cases h

/-- windows do not overlap: the three tokens after the `@` of a window are not `@` -/
theorem WindowAt.apart {l : List Tok} {j : Nat} (h0 : WindowAt l 0) (hj : WindowAt l (j + 1)) : 3 ≤ j := by
  obtain ⟨a, b, c, d, tl, h, hw⟩ := h0
  rw [List.drop_zero] at h
  subst h
  obtain ⟨_, hb, hc, hd⟩ := tagWindow_parts hw
  obtain ⟨a', b', c', d', tl', hdrop, hw'⟩ := hj
  have hat := (tagWindow_parts hw').1
  match j, hdrop with
  | 0, hdrop => cases hdrop; rw [not_at_of rfl hb] at hat; cases hat
  | 1, hdrop => cases hdrop; rw [not_at_of rfl hc] at hat; cases hat
  | 2, hdrop => cases hdrop; rw [not_at_of rfl hd] at hat; cases hat
  | j + 3, _ => exact Nat.le_add_left 3 j

/-- the block-tag loop as one pass over the ORIGINAL list. `m` counts the coming tokens that a window
found earlier has made Unlintable: the loop sees them as Unlintable, so none of them starts a window -/
def jdScan : Nat → List Tok → List Tok
  | _, [] => []
  | m + 1, a :: tl => unl a :: jdScan m tl
  | 0, a :: tl => if startsTag (a :: tl) then unl a :: jdScan 3 tl else a :: jdScan 0 tl

theorem jdScan_zero_cons (a : Tok) (tl : List Tok) :
    jdScan 0 (a :: tl) = if startsTag (a :: tl) then unl a :: jdScan 3 tl else a :: jdScan 0 tl := rfl

theorem jdScan_length : ∀ (m : Nat) (l : List Tok), (jdScan m l).length = l.length
  | _, [] => rfl
  | m + 1, a :: tl => congrArg (· + 1) (jdScan_length m tl)
  | 0, a :: tl => by
    rw [jdScan_zero_cons]
    split
    · exact congrArg (· + 1) (jdScan_length 3 tl)
    · exact congrArg (· + 1) (jdScan_length 0 tl)

theorem jdScan_get : ∀ (m : Nat) (l : List Tok) (k : Nat),
    (jdScan m l)[k]? = l[k]? ∨ (jdScan m l)[k]? = (l[k]?).map unl
  | _, [], _ => Or.inl rfl
  | m + 1, a :: tl, 0 => Or.inr rfl
  | m + 1, a :: tl, k + 1 => jdScan_get m tl k
  | 0, a :: tl, k => by
    rw [jdScan_zero_cons]
    split
    · cases k with
      | zero => exact Or.inr rfl
      | succ k => exact jdScan_get 3 tl k
    · cases k with
      | zero => exact Or.inl rfl
      | succ k => exact jdScan_get 0 tl k

theorem jdScan_pending : ∀ (m : Nat) (l : List Tok) (k : Nat), k < m →
    (jdScan m l)[k]? = (l[k]?).map unl
  | _, [], _, _ => rfl
  | _ + 1, _ :: _, 0, _ => rfl
  | m + 1, _ :: tl, k + 1, h => jdScan_pending m tl k (Nat.lt_of_succ_lt_succ h)

/-- every window of the ORIGINAL list — the last one included — ends up Unlintable -/
theorem jdScan_window : ∀ (m : Nat) (l : List Tok) (j : Nat), m ≤ j → WindowAt l j →
    ∀ (k : Nat), k < 4 → (jdScan m l)[j + k]? = (l[j + k]?).map unl
  | _, [], _, _, _, _, _ => rfl
  | m + 1, a :: tl, j + 1, hm, hj, k, hk => by
    rw [Nat.add_right_comm]
    exact jdScan_window m tl j (Nat.le_of_succ_le_succ hm) hj k hk
  | 0, a :: tl, j, _, hj, k, hk => by
    rw [jdScan_zero_cons]
    by_cases hw : startsTag (a :: tl) = true
    · rw [if_pos hw]
      match j, hj with
      | 0, _ =>
        cases k with
        | zero => rfl
        | succ k => rw [Nat.zero_add]; exact jdScan_pending 3 tl k (Nat.lt_of_succ_lt_succ hk)
      | j + 1, hj =>
        rw [Nat.add_right_comm]
        exact jdScan_window 3 tl j ((windowAt_zero.mpr hw).apart hj) hj k hk
    · rw [if_neg hw]
      match j, hj with
      | 0, hj => exact absurd (windowAt_zero.mp hj) hw
      | j + 1, hj =>
        rw [Nat.add_right_comm]
        exact jdScan_window 0 tl j (Nat.zero_le j) hj k hk

/-- … and nothing else changes: a token that differs from the original is pending or lies in such a window -/
theorem jdScan_unchanged : ∀ (m : Nat) (l : List Tok) (k : Nat), (jdScan m l)[k]? ≠ l[k]? →
    k < m ∨ ∃ j, j ≤ k ∧ k < j + 4 ∧ WindowAt l j
  | _, [], _, h => absurd rfl h
  | m + 1, a :: tl, 0, _ => Or.inl (Nat.succ_pos m)
  | m + 1, a :: tl, k + 1, h =>
    (jdScan_unchanged m tl k h).imp Nat.succ_lt_succ
      fun ⟨j, h1, h2, h3⟩ => ⟨j + 1, Nat.succ_le_succ h1, Nat.succ_lt_succ h2, h3⟩
  | 0, a :: tl, k, h => by
    rw [jdScan_zero_cons] at h
    by_cases hw : startsTag (a :: tl) = true
    · rw [if_pos hw] at h
      cases k with
      | zero => exact Or.inr ⟨0, Nat.le_refl 0, Nat.zero_lt_succ 3, windowAt_zero.mpr hw⟩
      | succ k =>
        rcases jdScan_unchanged 3 tl k h with h3 | ⟨j, h1, h2, h3⟩
        · exact Or.inr ⟨0, Nat.zero_le _, Nat.succ_lt_succ h3, windowAt_zero.mpr hw⟩
        · exact Or.inr ⟨j + 1, Nat.succ_le_succ h1, Nat.succ_lt_succ h2, h3⟩
    · rw [if_neg hw] at h
      cases k with
      | zero => exact absurd rfl h
      | succ k =>
        rcases jdScan_unchanged 0 tl k h with h3 | ⟨j, h1, h2, h3⟩
        · exact absurd h3 (Nat.not_lt_zero k)
        · exact Or.inr ⟨j + 1, Nat.succ_le_succ h1, Nat.succ_lt_succ h2, h3⟩

theorem startsTag_length {l : List Tok} (h : startsTag l = true) : 4 ≤ l.length := by
  obtain ⟨a, b, c, d, tl, hd, _⟩ := windowAt_zero.mpr h
  rw [List.drop_zero] at hd
  rw [hd]
  exact Nat.le_add_left 4 tl.length

theorem startsTag_unl (a : Tok) (l : List Tok) : startsTag (unl a :: l) = false := by
  cases h : startsTag (unl a :: l)
  · rfl
  · obtain ⟨_, _, _, _, _, hd, hw⟩ := windowAt_zero.mpr h
    cases hd
    rw [tagWindow_not_unl] at hw; cases hw

/-- what the loop sees when `m` tokens are pending -/
def unlFirst (m : Nat) (l : List Tok) : List Tok := (l.take m).map unl ++ l.drop m

/-- pending tokens may as well be given Unlintable: they start no window and stay as they are -/
theorem jdScan_unlFirst : ∀ (m : Nat) (l : List Tok), jdScan 0 (unlFirst m l) = jdScan m l
  | 0, _ => rfl
  | m + 1, [] => rfl
  | m + 1, a :: tl => by
    have : unlFirst (m + 1) (a :: tl) = unl a :: unlFirst m tl := rfl
    rw [this, jdScan_zero_cons, startsTag_unl, jdScan_unlFirst m tl]; rfl

theorem jdScan_short : ∀ (l : List Tok), l.length < 4 → jdScan 0 l = l
  | [], _ => rfl
  | a :: tl, h => by
    rw [jdScan_zero_cons, if_neg (fun hw => Nat.not_le_of_lt h (startsTag_length hw)),
      jdScan_short tl (Nat.lt_of_succ_lt h)]

theorem getElem?_append_add {α} (pre l : List α) (i : Nat) : (pre ++ l)[pre.length + i]? = l[i]? := by
  rw [List.getElem?_append_right (Nat.le_add_right _ _), Nat.add_sub_cancel_left]

theorem jdLoop_succ {n j : Nat} {cur : List Tok} {a b c d : Tok} (h0 : cur[j]? = some a)
    (h1 : cur[j + 1]? = some b) (h2 : cur[j + 2]? = some c) (h3 : cur[j + 3]? = some d) :
    jdLoop (n + 1) j cur = jdLoop n (j + 1)
      (if tagWindow a b c d then cur.take j ++ [unl a, unl b, unl c, unl d] ++ cur.drop (j + 4)
       else cur) := by
  simp only [jdLoop, h0, h1, h2, h3]

/-- the index loop of the model is that scan; in particular it never indexes out of bounds -/
theorem jdLoop_eq : ∀ (n : Nat) (pre rest : List Tok), rest.length - 3 = n →
    jdLoop n pre.length (pre ++ rest) = .ok (pre ++ jdScan 0 rest)
  | 0, pre, rest, h => by rw [jdScan_short rest (by omega)]; rfl
  | n + 1, pre, a :: b :: c :: d :: tl, h => by
    have hn : (b :: c :: d :: tl).length - 3 = n := Nat.succ.inj h
    have hs : startsTag (a :: b :: c :: d :: tl) = tagWindow a b c d := rfl
    rw [jdLoop_succ (getElem?_append_add pre _ 0) (getElem?_append_add pre _ 1)
      (getElem?_append_add pre _ 2) (getElem?_append_add pre _ 3), jdScan_zero_cons, hs]
    by_cases hw : tagWindow a b c d = true
    · have := jdLoop_eq n (pre ++ [unl a]) (unl b :: unl c :: unl d :: tl) hn
      have e : jdScan 3 (b :: c :: d :: tl) = jdScan 0 (unl b :: unl c :: unl d :: tl) :=
        (jdScan_unlFirst 3 _).symm
      rw [if_pos hw, if_pos hw, e, List.take_left, ← List.drop_drop, List.drop_left]
      simpa using this
    · have := jdLoop_eq n (pre ++ [a]) (b :: c :: d :: tl) hn
      rw [if_neg hw, if_neg hw]
      simpa using this

theorem javadocMark_eq (toks : List Tok) : javadocMark toks = .ok (jdScan 0 toks) :=
  jdLoop_eq (toks.length - 3) [] toks rfl

/-! ## `CommentMasker`: the ignore-marker filter and `Mask::from_iter` -/

/-- `str::contains`: the pattern occurs as a contiguous run -/
theorem containsSub_iff (pat : List Char) :
    ∀ (l : List Char), containsSub pat l = true ↔ ∃ pre post, l = pre ++ pat ++ post
  | [] => by
    simp only [containsSub, List.isEmpty_iff]
    constructor
    · rintro rfl; exact ⟨[], [], rfl⟩
    · rintro ⟨pre, post, h⟩
      have := congrArg List.length h
      simp at this
      exact List.eq_nil_of_length_eq_zero (by omega)
  | c :: cs => by
    simp only [containsSub, Bool.or_eq_true, List.isPrefixOf_iff_prefix, containsSub_iff pat cs]
    constructor
    · rintro (⟨t, ht⟩ | ⟨pre, post, h⟩)
      · exact ⟨[], t, by simpa using ht.symm⟩
      · exact ⟨c :: pre, post, by simp [h]⟩
    · rintro ⟨pre, post, h⟩
      cases pre with
      | nil => exact Or.inl ⟨post, by simpa using h.symm⟩
      | cons p pre =>
        simp only [List.cons_append, List.cons.injEq] at h
        exact Or.inr ⟨pre, post, h.2⟩

/-- the default ignore condition, read as a statement about the text of the allowed span -/
theorem ignoreCondition_iff (text : List Char) :
    ignoreCondition text = true ↔
      (∃ mk ∈ ignoreMarkers, ∃ pre post, text = pre ++ mk ++ post) ∨ ∃ rest, text = '#' :: '!' :: rest := by
  simp only [ignoreCondition, Bool.or_eq_true, List.any_eq_true, containsSub_iff,
    List.isPrefixOf_iff_prefix]
  constructor
  · rintro (h | ⟨t, ht⟩)
    · exact Or.inl h
    · exact Or.inr ⟨t, by simpa using ht.symm⟩
  · rintro (h | ⟨t, ht⟩)
    · exact Or.inl h
    · exact Or.inr ⟨t, by simp [ht]⟩

/-- on well-formed, in-bounds spans the filter chain never panics and is `List.filter` -/
theorem ignoreFilter_eq (ign : List Char → Bool) (src : List Char) :
    ∀ (m : List Span), (∀ s ∈ m, s.start ≤ s.stop ∧ s.stop ≤ src.length) →
      ignoreFilter ign src m = .ok (m.filter fun s => !ign (slice src s))
  | [], _ => rfl
  | s :: rest, h => by
    have hs := h s (by simp)
    have ih := ignoreFilter_eq ign src rest (fun x hx => h x (by simp [hx]))
    simp only [ignoreFilter, getContent_eq s src hs.1 hs.2, ih, bind, Except.bind, pure, Except.pure,
      List.filter_cons]
    cases ign (slice src s) <;> simp

theorem adjacentDisjoint_of_pairwise : ∀ {m : List Span},
    m.Pairwise (fun a b => a.stop ≤ b.start) → adjacentDisjoint m = true
  | [], _ => rfl
  | [_], _ => rfl
  | a :: b :: rest, h => by
    have hab : a.stop ≤ b.start := (List.pairwise_cons.mp h).1 b (by simp)
    simp [adjacentDisjoint, hab, adjacentDisjoint_of_pairwise (List.pairwise_cons.mp h).2]

/-- `Mask::from_iter` on a list that satisfies the mask invariant: the sort is the identity and the
assertion holds -/
theorem maskFromIter_ok {n : Nat} {m : List Span} (h : MaskOK n m) : maskFromIter m = .ok m := by
  have hs : m.Pairwise (fun a b => a.start ≤ b.start) :=
    h.2.imp_of_mem fun ha _ hab => Nat.le_trans (h.1 _ ha).1 hab
  simp [maskFromIter, sortByStart_of_sorted m hs, adjacentDisjoint_of_pairwise h.2]
/-- the mask invariant survives any filter (`CommentMasker::create_mask` filters the allowed spans) -/
theorem MaskOK.filter {n : Nat} {m : List Span} (h : MaskOK n m) (p : Span → Bool) :
    MaskOK n (m.filter p) :=
  ⟨fun s hs => h.1 s (List.mem_filter.mp hs).1, h.2.sublist List.filter_sublist⟩

/-- what `CommentMasker::create_mask` does with a mask that satisfies the invariant: exactly the
spans whose text does not satisfy the ignore condition, in order; no panic -/
theorem commentFilter_eq (ign : List Char → Bool) (src : List Char) (m : List Span)
    (h : MaskOK src.length m) :
    commentFilter ign src m = .ok (m.filter fun s => !ign (slice src s)) := by
  simp only [commentFilter, ignoreFilter_eq ign src m h.1, bind, Except.bind]
  exact maskFromIter_ok (h.filter _)

/-! ## span-only faithfulness: kinds may be re-marked `Unlintable`, spans never move -/

/-- `b` is `a`, possibly with its kind replaced by `Unlintable` -/
def Remark (a b : Tok) : Prop := b.span = a.span ∧ (b.kind = a.kind ∨ b.kind = .unlintable)

theorem Remark.refl (a : Tok) : Remark a a := ⟨rfl, Or.inl rfl⟩

theorem Remark.trans {a b c : Tok} (h1 : Remark a b) (h2 : Remark b c) : Remark a c := by
  refine ⟨h2.1.trans h1.1, ?_⟩
  rcases h2.2 with h | h
  · rcases h1.2 with h' | h'
    · exact Or.inl (h.trans h')
    · exact Or.inr (h.trans h')
  · exact Or.inr h

theorem Remark.unl (a : Tok) : Remark a (unl a) := ⟨rfl, Or.inr rfl⟩

theorem Remark.shift {a b : Tok} (h : Remark a b) (n : Nat) : Remark (a.shift n) (b.shift n) := by
  obtain ⟨h1, h2⟩ := h
  exact ⟨by simp [Tok.shift, h1], by simpa [Tok.shift] using h2⟩

/-- `r` is `t` with some kinds replaced by `Unlintable`: same number of tokens, the same spans in
the same order -/
def Remarked (t r : List Tok) : Prop :=
  r.length = t.length ∧ ∀ (k : Nat) (x y : Tok), t[k]? = some x → r[k]? = some y → Remark x y

theorem Remarked.refl (t : List Tok) : Remarked t t :=
  ⟨rfl, fun _ x y hx hy => by rw [hx] at hy; cases hy; exact Remark.refl x⟩

theorem Remarked.trans {a b c : List Tok} (h1 : Remarked a b) (h2 : Remarked b c) : Remarked a c := by
  refine ⟨h2.1.trans h1.1, ?_⟩
  intro k x z hx hz
  have hk : k < a.length := (List.getElem?_eq_some_iff.mp hx).1
  have hb : b[k]? = some (b[k]'(by rw [h1.1]; exact hk)) := List.getElem?_eq_getElem _
  exact (h1.2 k x _ hx hb).trans (h2.2 k _ z hb hz)

theorem Remarked.nil_iff {r : List Tok} : Remarked [] r ↔ r = [] := by
  constructor
  · intro h; exact List.eq_nil_of_length_eq_zero (by simpa using h.1)
  · rintro rfl; exact Remarked.refl _

theorem Remarked.map_shift {t r : List Tok} (h : Remarked t r) (n : Nat) :
    Remarked (t.map (·.shift n)) (r.map (·.shift n)) := by
  refine ⟨by simp [h.1], ?_⟩
  intro k x y hx hy
  simp only [List.getElem?_map, Option.map_eq_some_iff] at hx hy
  obtain ⟨x0, hx0, rfl⟩ := hx
  obtain ⟨y0, hy0, rfl⟩ := hy
  exact (h.2 k x0 y0 hx0 hy0).shift n

theorem Remarked.spans {t r : List Tok} (h : Remarked t r) : r.map (·.span) = t.map (·.span) := by
  apply List.ext_getElem?
  intro k
  simp only [List.getElem?_map]
  by_cases hk : k < t.length
  · have hr : k < r.length := by rw [h.1]; exact hk
    rw [List.getElem?_eq_getElem hk, List.getElem?_eq_getElem hr]
    have := h.2 k _ _ (List.getElem?_eq_getElem hk) (List.getElem?_eq_getElem hr)
    simp [this.1]
  · have h1 := h.1
    rw [List.getElem?_eq_none (by omega), List.getElem?_eq_none (by omega)]

theorem Remarked.mem {t r : List Tok} (h : Remarked t r) {y : Tok} (hy : y ∈ r) :
    ∃ x ∈ t, Remark x y := by
  obtain ⟨k, hk, rfl⟩ := List.mem_iff_getElem.mp hy
  have hk' : k < t.length := by rw [← h.1]; exact hk
  exact ⟨t[k], List.getElem_mem hk',
    h.2 k _ _ (List.getElem?_eq_getElem hk') (List.getElem?_eq_getElem hk)⟩

theorem Remarked.pairwise {t r : List Tok} (h : Remarked t r) {R : Span → Span → Prop}
    (ht : t.Pairwise (fun a b => R a.span b.span)) : r.Pairwise (fun a b => R a.span b.span) := by
  have h1 : (t.map (·.span)).Pairwise R := List.pairwise_map.mpr ht
  rw [← h.spans] at h1
  exact List.pairwise_map.mp h1

theorem markUnlintable_remarked (toks : List Tok) (a b : Nat) :
    Remarked toks (markUnlintable toks a b) := by
  refine ⟨markUnlintable_length toks a b, ?_⟩
  intro k x y hx hy
  simp only [markUnlintable, List.getElem?_mapIdx, hx, Option.map_some, Option.some.injEq] at hy
  subst hy
  split
  · exact ⟨rfl, Or.inr rfl⟩
  · exact Remark.refl x

theorem markInlineTags_ok (fuel : Nat) (toks : List Tok) (cursor : Nat) (h1 : cursor ≤ toks.length)
    (h : toks.length < fuel + cursor) :
    ∃ r, markInlineTags fuel toks cursor = .ok r ∧ Remarked toks r := by
  fun_induction markInlineTags fuel toks cursor with
  | case1 => omega
  | case2 => exact ⟨_, rfl, Remarked.refl _⟩
  | case3 => exact ⟨_, rfl, Remarked.refl _⟩
  | case4 fuel toks cursor hc c hn ih2 ih1 =>
    obtain ⟨hcge, hclt⟩ := nextOpenCurly_bounds hn
    obtain ⟨r, hr, hp⟩ := parseInlineTag_ok ((toks.drop c).map (·.kind)) (toks.length + 1)
      (by rw [List.length_map, List.length_drop]; omega)
    simp only [hr, bind, Except.bind]
    cases r with
    | none => exact ih1 (by omega) (by omega)
    | some p =>
      have := hp p rfl
      rw [List.length_map, List.length_drop] at this
      obtain ⟨r', hr', hl'⟩ := ih2 p (by rw [markUnlintable_length]; omega)
        (by rw [markUnlintable_length]; omega)
      exact ⟨r', hr', (markUnlintable_remarked toks c (c + p)).trans hl'⟩

/-- the value of `mark_inline_tags` (it never fails or runs out of fuel: `inlineMark_eq`) -/
def inlineMark (t : List Tok) : List Tok :=
  match markInlineTags (t.length + 1) t 0 with
  | .ok r => r
  | .error _ => t

theorem inlineMark_eq (t : List Tok) :
    markInlineTags (t.length + 1) t 0 = .ok (inlineMark t) ∧ Remarked t (inlineMark t) := by
  obtain ⟨r, hr, h⟩ := markInlineTags_ok (t.length + 1) t 0 (Nat.zero_le _) (by omega)
  rw [inlineMark, hr]
  exact ⟨rfl, h⟩

theorem jdScan_remarked (m : Nat) (l : List Tok) : Remarked l (jdScan m l) := by
  refine ⟨jdScan_length m l, ?_⟩
  intro k x y hx hy
  rcases jdScan_get m l k with h | h
  · rw [h, hx] at hy; cases hy; exact Remark.refl x
  · rw [h, hx] at hy; cases hy; exact Remark.unl x

/-- `Faithful` on spans only: the token's SPAN is the shifted span of a token the inner parser produced
on a chunk that is the text of the file at that offset; its kind is the inner token's or `Unlintable` -/
def SpanFaithful (inner : List Char → List Tok) (src : List Char) (toks : List Tok) : Prop :=
  ∀ tok ∈ toks, IsGlue tok ∨
    ∃ off chunk t, chunk = (src.drop off).take chunk.length ∧ off + chunk.length ≤ src.length ∧
      t ∈ inner chunk ∧ Remark (t.shift off) tok

theorem SpanFaithful.nil {inner src} : SpanFaithful inner src [] := by
  intro t ht; cases ht

theorem SpanFaithful.append {inner src a b} (ha : SpanFaithful inner src a)
    (hb : SpanFaithful inner src b) : SpanFaithful inner src (a ++ b) := by
  intro t ht
  rcases List.mem_append.mp ht with h | h
  · exact ha t h
  · exact hb t h

/-- marking passes `f` put after the inner parser: what is `Faithful` for `f ∘ inner` is `SpanFaithful` for `inner` -/
theorem Faithful.remarked {f : List Tok → List Tok} (hf : ∀ l, Remarked l (f l))
    {inner : List Char → List Tok} {src : List Char} {toks : List Tok}
    (h : Faithful (fun c => f (inner c)) src toks) : SpanFaithful inner src toks := by
  intro tok ht
  rcases h tok ht with hg | ⟨off, chunk, t, h1, h2, h3, rfl⟩
  · exact Or.inl hg
  · obtain ⟨x, hx, hxt⟩ := (hf _).mem h3
    exact Or.inr ⟨off, chunk, x, h1, h2, hx, hxt.shift off⟩

theorem InnerOK.remarked {f : List Tok → List Tok} (hf : ∀ l, Remarked l (f l))
    {inner : List Char → List Tok} (hin : InnerOK inner) : InnerOK (fun c => f (inner c)) := by
  intro c
  refine ⟨fun t ht => ?_, (hf _).pairwise (R := fun a b => a.stop ≤ b.start) (hin c).2⟩
  obtain ⟨x, hx, hxt⟩ := (hf (inner c)).mem ht
  rw [hxt.1]; exact (hin c).1 x hx

/-! ### JSDoc: `Unit::parse` without code fences, over the inner parser followed by the marking passes -/

/-- the marking passes of `jsdoc.rs:parse_line` on the inner parser's tokens: inline tags, then the block
tag to the end of the line -/
def jsMark (t0 : List Tok) : List Tok :=
  match blockTagStart (inlineMark t0) with
  | some k => markUnlintable (inlineMark t0) k (inlineMark t0).length
  | none => inlineMark t0

theorem jsMark_remarked (t0 : List Tok) : Remarked t0 (jsMark t0) := by
  rw [jsMark]
  split
  · exact (inlineMark_eq t0).2.trans (markUnlintable_remarked _ _ _)
  · exact (inlineMark_eq t0).2

/-- `jsdoc.rs:parse_line` is `unit.rs:parse_line` with the marking passes added to the inner parser -/
theorem jsdocLine_eq (isWs : Char → Bool) (inner : List Char → List Tok) (line : List Char) :
    jsdocLine isWs inner line = .ok (parsedLine isWs (fun c => jsMark (inner c)) line) := by
  obtain ⟨ha, h1, h2⟩ := withoutInitiators_eq isWs line
  simp only [jsdocLine, parsedLine, ha, bind, Except.bind]
  by_cases he : (leaderSpan isWs line).isEmpty = true
  · rw [if_pos he, if_pos he]; rfl
  · rw [if_neg he, if_neg he, getContent_eq _ line h1 h2]
    simp only [(inlineMark_eq _).1]; rfl

/-- … and `JsDoc::parse` is `Unit::parse` with no line skipped -/
theorem jsdocLoop_eq (isWs : Char → Bool) (total : Nat) (inner : List Char → List Tok) :
    ∀ (lines : List (List Char)) (trav : Nat), jsdocLoop isWs total inner trav lines =
      .ok (unitOut isWs total (fun c => jsMark (inner c)) trav lines (List.replicate lines.length false))
  | [], _ => rfl
  | line :: rest, trav => by
    simp only [jsdocLoop, jsdocLine_eq, jsdocLoop_eq isWs total inner rest, bind, Except.bind, pure,
      Except.pure, List.length_cons, List.replicate_succ, unitOut, unitLineToks]
    rfl

/-- **What `JsDoc::parse` returns, line by line** (`base` = offset of the first line in the file):
for every line, in order, the inner parser's tokens on the stripped line — same spans, same order,
kinds kept or replaced by `Unlintable` — shifted by `base + leader`, then (unless it is the last
line) the line break at `base + len`; the next line starts at `base + len + 1`. -/
def JsDocLines (isWs : Char → Bool) (inner : List Char → List Tok) :
    List (List Char) → Nat → List Tok → Prop
  | [], _, toks => toks = []
  | line :: rest, base, toks =>
    ∃ a m r, withoutInitiators isWs line = .ok a ∧
      Remarked (if a.isEmpty then [] else inner (slice line a)) m ∧
      JsDocLines isWs inner rest (base + line.length + 1) r ∧
      toks = m.map (·.shift (base + a.start)) ++
        (if rest.isEmpty then [] else [nlTok (base + line.length)]) ++ r

theorem unitOut_jsDocLines (isWs : Char → Bool) (inner : List Char → List Tok) (total : Nat) :
    ∀ (lines : List (List Char)) (base : Nat), (lines ≠ [] → total = base + (joinNl lines).length) →
      JsDocLines isWs inner lines base
        (unitOut isWs total (fun c => jsMark (inner c)) base lines (List.replicate lines.length false))
  | [], _, _ => rfl
  | line :: rest, base, h => by
    have hT := h (List.cons_ne_nil _ _)
    have h2 := (joinNl_cons_length line rest).2
    refine ⟨leaderSpan isWs line,
      if (leaderSpan isWs line).isEmpty then [] else jsMark (inner (slice line (leaderSpan isWs line))), _,
      (withoutInitiators_eq isWs line).1, ?_,
      unitOut_jsDocLines isWs inner total rest _ (fun hne => by rw [hT, h2 hne]; omega), ?_⟩
    · split
      · exact Remarked.refl _
      · exact jsMark_remarked _
    · rw [List.length_cons, List.replicate_succ, unitOut, if_neg Bool.false_ne_true, unitLineToks,
        List.map_append, lineBreakTok_shift, parsedLine]
      congr 2
      · cases (leaderSpan isWs line).isEmpty
        · simp [shift_shift]
        · rfl
      · cases rest with
        | nil => rw [if_neg (by rw [hT]; exact Nat.lt_irrefl _)]; rfl
        | cons l2 ls => rw [if_pos (by rw [hT, h2 (List.cons_ne_nil _ _)]; omega)]; rfl

/-! ### JavaDoc -/

/-- leader removal only drops tokens -/
theorem jdStrip_sublist : ∀ (b : Bool) (l : List Tok), (jdStrip b l).Sublist l
  | _, [] => List.Sublist.slnil
  | b, t :: ts => by
    unfold jdStrip
    split
    · exact (jdStrip_sublist true ts).cons t
    · exact (jdStrip_sublist _ ts).cons_cons t

/-- … and only `*` and space tokens (those that follow a line break) -/
theorem jdStrip_keeps : ∀ (b : Bool) (l : List Tok) (t : Tok), t ∈ l →
    isStarKind t.kind = false → t.kind.isSpace = false → t ∈ jdStrip b l
  | _, [], _, h, _, _ => by cases h
  | b, x :: xs, t, h, h1, h2 => by
    unfold jdStrip
    rcases List.mem_cons.mp h with rfl | h
    · simp [h1, h2]
    · split
      · exact jdStrip_keeps true xs t h h1 h2
      · exact List.mem_cons_of_mem _ (jdStrip_keeps _ xs t h h1 h2)

/-- `JavaDoc::parse`: the HTML parser's tokens on the comment without its delimiters, leaders dropped,
shifted by the length of the opening delimiter, re-marked -/
theorem javadocParse_spec (isWs : Char → Bool) (src : List Char) (inner : List Char → List Tok) :
    ∃ a r, withoutInitiators isWs src = .ok a ∧ a.start ≤ a.stop ∧ a.stop ≤ src.length ∧
      javadocParse isWs src inner = .ok r ∧
      Remarked ((jdStrip false (inner (slice src a))).map (·.shift a.start)) r := by
  obtain ⟨ha, h1, h2⟩ := withoutInitiators_eq isWs src
  generalize leaderSpan isWs src = a at ha h1 h2
  obtain ⟨ht2, hr2⟩ := inlineMark_eq ((jdStrip false (inner (slice src a))).map (·.shift a.start))
  exact ⟨a, _, ha, h1, h2,
    by simp only [javadocParse, ha, bind, Except.bind, getContent_eq a src h1 h2, ht2, javadocMark_eq],
    hr2.trans (jdScan_remarked 0 _)⟩

end Harper
