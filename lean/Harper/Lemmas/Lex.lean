import Harper.Model.Lex
/-! `countWhile` (the prefix it counts, what stops it). One inversion per lexer: a result is in bounds — it consumes at
least one and at most the remaining characters — and has the shape of its kind (`Lexed`: `FoundOK` and `LexSpec` are its
two halves); a token of `lex_token` comes from one of the lexers (`firstFound_eq`, `lexToken_from_lexer`), so it is
`Lexed` or an entry of the url / e-mail / hostname table (`runLexer_cases`, `ExtOK`). -/
namespace Harper

def FoundOK (f : Found) (len : Nat) : Prop := ∀ k n, f = some (k, n) → 1 ≤ n ∧ n ≤ len

theorem countWhile_le {α} (p : α → Bool) (l : List α) : countWhile p l ≤ l.length := by
  induction l with
  | nil => simp [countWhile]
  | cons x xs ih => simp only [countWhile]; split <;> simp <;> omega

theorem countWhile_take_all {α} (q : α → Bool) (l : List α) : ∀ x ∈ l.take (countWhile q l), q x = true := by
  fun_induction countWhile q l with
  | case1 => intro x hx; cases hx
  | case2 a l ha ih =>
    intro x hx
    rcases List.mem_cons.mp hx with rfl | hx
    · exact ha
    · exact ih x hx
  | case3 => intro x hx; cases hx

theorem countWhile_take_length {α} (q : α → Bool) (l : List α) : (l.take (countWhile q l)).length = countWhile q l := by
  rw [List.length_take, Nat.min_eq_left (countWhile_le q l)]

theorem countWhile_tail_zero {α} (q : α → Bool) (a D : List α) (hD : countWhile q D = 0) :
    countWhile q (a ++ D) = countWhile q a := by
  induction a with
  | nil => exact hD
  | cons c a ih => simp only [List.cons_append, countWhile, ih]

theorem cw_stop {α} (q : α → Bool) (s : α) (hs : q s = false) (a D : List α) :
    countWhile q (a ++ s :: D) = countWhile q a :=
  countWhile_tail_zero q a (s :: D) (by rw [countWhile, hs]; rfl)

theorem countWhile_replicate {α} (p : α → Bool) (c : α) (h : p c = true) (k : Nat) :
    countWhile p (List.replicate k c) = k := by
  induction k with
  | zero => rfl
  | succ k ih => rw [List.replicate_succ, countWhile, if_pos h, ih]

theorem countWhile_map {α β} (f : α → β) (q : β → Bool) (l : List α) :
    countWhile q (l.map f) = countWhile (fun x => q (f x)) l := by
  induction l with
  | nil => rfl
  | cons a l ih => simp only [List.map_cons, countWhile, ih]

theorem countWhile_append_le {α} (p : α → Bool) (u v : List α) :
    countWhile p (u ++ v) ≤ u.length + countWhile p v := by
  induction u with
  | nil => simp
  | cons a u ih => simp only [List.cons_append, countWhile, List.length_cons]; split <;> omega

theorem countWhile_drop {α} (p : α → Bool) (l : List α) (k : Nat) (h : k < countWhile p l) :
    ∃ x rest, l.drop k = x :: rest ∧ p x = true := by
  induction l generalizing k with
  | nil => simp [countWhile] at h
  | cons a l ih =>
    simp only [countWhile] at h
    split at h
    · cases k with
      | zero => exact ⟨a, l, rfl, by assumption⟩
      | succ k => simpa using ih k (by omega)
    · omega

theorem countWhile_take {α} (p : α → Bool) : ∀ (l : List α) (j : Nat), countWhile p l ≤ j → countWhile p (l.take j) = countWhile p l
  | [], _, _ => by simp [countWhile]
  | a :: l, 0, h => by
    simp only [countWhile] at h ⊢
    split at h
    · omega
    · rename_i hp
      simp [countWhile, hp]
  | a :: l, j + 1, h => by
    simp only [List.take_succ_cons, countWhile] at h ⊢
    split
    · rename_i hp
      rw [if_pos hp] at h
      rw [countWhile_take p l j (by omega)]
    · rfl

/-! # What the scanners inside the lexers consume -/

theorem regexishLoop_bound (cls : Cls) (fuel i : Nat) (rest : List Char) (n : Nat)
    (h : regexishLoop cls fuel i rest = some n) : i + 2 ≤ n ∧ n ≤ i + rest.length := by
  fun_induction regexishLoop cls fuel i rest with
  | case1 | case2 | case3 | case4 | case5 => cases h
  | case6 fuel i c hc c1 hc1 tail => cases h; simp only [List.length_cons]; omega
  | case7 fuel i c hc c1 hc1 x hx ih => have := ih h; simp only [List.length_cons]; omega
  | case8 fuel i c hc tail => cases h; simp only [List.length_cons]; omega
  | case9 fuel i c hc x hx1 hx2 ih => have := ih h; simp only [List.length_cons]; omega

theorem hexScan_le (cls : Cls) (cs : List Char) (k : Nat) (h : hexScan cls cs = some k) :
    k ≤ cs.length := by
  fun_induction hexScan cls cs generalizing k with
  | case1 => cases h; exact Nat.le_refl 0
  | case2 c tail hc ih =>
    cases hs : hexScan cls tail with
    | none => rw [hs] at h; cases h
    | some j => rw [hs] at h; cases h; exact Nat.succ_le_succ (ih j hs)
  | case3 => cases h
  | case4 => cases h; exact Nat.zero_le _

theorem hexScan_hex (cls : Cls) (cs : List Char) (k : Nat) (h : hexScan cls cs = some k) :
    ∀ c ∈ cs.take k, isAsciiHex c = true := by
  fun_induction hexScan cls cs generalizing k with
  | case1 => cases h; intro c hc; cases hc
  | case2 c cs hc ih =>
    cases hs : hexScan cls cs with
    | none => rw [hs] at h; cases h
    | some j =>
      rw [hs] at h
      cases h
      intro x hx
      rcases List.mem_cons.mp hx with rfl | hx
      · exact hc
      · exact ih j hs x hx
  | case3 => cases h
  | case4 => cases h; intro c hc; cases hc

theorem pluralTail_some {i : Nat} {r1 : List Char} {kd : Kind} {n : Nat} (h : pluralTail i r1 = some (kd, n)) :
    kd = .word ∧ n = i + 1 ∧ ∃ r2, r1 = 's' :: r2 := by
  unfold pluralTail at h
  split at h
  · split at h
    · cases h; exact ⟨rfl, rfl, _, rfl⟩
    · split at h
      · cases h; exact ⟨rfl, rfl, _, rfl⟩
      · cases h
  · cases h

theorem numberLoop_bound (src : List Char) (L n : Nat) (h : numberLoop src L = some n) :
    1 ≤ n ∧ n ≤ L := by
  fun_induction numberLoop src L with
  | case1 => cases h
  | case2 L _ _ ih => have := ih h; omega
  | case3 L => cases h; omega
  | case4 L _ _ _ ih => have := ih h; omega

/-- a candidate the loop of `lex_number` skips -/
def Skipped (cand : List Char) : Prop := cand.getLast? = some '.' ∨ parsesF64 cand = false

theorem numberLoop_accepts (src : List Char) (L n : Nat) (h : numberLoop src L = some n) :
    0 < n ∧ ¬ Skipped (src.take n) := by
  fun_induction numberLoop src L with
  | case1 => cases h
  | case2 L _ _ ih => exact ih h
  | case3 L _ hdot hp =>
    cases h
    exact ⟨Nat.succ_pos _, fun hs => hs.elim (fun hs => hdot (by rw [hs]; rfl)) (fun hs => by rw [hs] at hp; cases hp)⟩
  | case4 L _ _ _ ih => exact ih h

theorem lastDigitIdx_go_spec (cs : List Char) (i : Nat) (best : Option Nat) :
    ((∀ c ∈ cs, isAsciiDigit c = false) ∧ lastDigitIdx.go i best cs = best) ∨
    ∃ k, lastDigitIdx.go i best cs = some (i + k) ∧ k < cs.length ∧ ∀ c ∈ cs.drop (k + 1), isAsciiDigit c = false := by
  induction cs generalizing i best with
  | nil => exact Or.inl ⟨fun _ h => (nomatch h), rfl⟩
  | cons c cs ih =>
    rw [lastDigitIdx.go]
    rcases ih (i + 1) (if isAsciiDigit c then some i else best) with ⟨hnd, e⟩ | ⟨k, e, hk, hnd⟩
    · cases hc : isAsciiDigit c with
      | true => rw [hc] at e; exact Or.inr ⟨0, e, Nat.succ_pos _, hnd⟩
      | false =>
        rw [hc] at e
        refine Or.inl ⟨fun x hx => ?_, e⟩
        rcases List.mem_cons.mp hx with rfl | hx
        · exact hc
        · exact hnd x hx
    · exact Or.inr ⟨k + 1, by rw [e, Nat.add_assoc, Nat.add_comm 1], Nat.succ_lt_succ hk, hnd⟩

/-! # What a lexer result says about the text -/

def NoNl (l : List Char) : Prop := ∀ c ∈ l, c ≠ '\n'
def AllNl (l : List Char) : Prop := ∀ c ∈ l, c = '\n'

/-- the characters of a `Space(m)` token: all blanks with `m` = their number, or all tabs with `m` = twice their number -/
def BlankRun (cs : List Char) (m : Nat) : Prop :=
  ((∀ c ∈ cs, c = ' ') ∧ m = cs.length) ∨ ((∀ c ∈ cs, c = '\t') ∧ m = 2 * cs.length)

/-- What a result `(kd, n)` of one of the model's own lexers says about the text `src` it was found on, kind by kind.
The url / e-mail / hostname kinds come from the table `Ext`: nothing is said of them here. -/
def LexSpec (cls : Cls) (src : List Char) (n : Nat) : Kind → Prop
  | .word => ∀ c ∈ src.take n, cls.lingual c = true ∨ isAsciiAlnum c = true ∨ c = '\''
  | .punct p => n = 1 ∧ ∃ c r, src = c :: r ∧ punctOfChar c = some p
  | .quote tw => tw = none ∧ n = 1 ∧ ∃ c r, src = c :: r ∧ Tables.quoteChars.contains c.toNat = true
  | .number r s => s = none ∧
      ((r = 10 ∧ 0 < n ∧ ¬ Skipped (src.take n) ∧ ∃ c rest, src = c :: rest ∧ cls.numeric c = true) ∨
       (r = 16 ∧ ∃ k, n = k + 2 ∧ 1 ≤ k ∧ src.take 2 = ['0', 'x'] ∧
          (∀ c ∈ (src.drop 2).take k, isAsciiHex c = true) ∧ hexValue ((src.drop 2).take k) < 2 ^ 64))
  | .space m => BlankRun (src.take n) m
  | .newline m => m = n ∧ 0 < n ∧ AllNl (src.take n)
  | .decade => n = 5
  | .unlintable => n = 1
  | .paragraphBreak => False
  | .regexish | .email | .url | .hostname => True

/-- a lexer result: in bounds, and of the shape of its kind -/
def Lexed (cls : Cls) (src : List Char) (kd : Kind) (n : Nat) : Prop :=
  (1 ≤ n ∧ n ≤ src.length) ∧ LexSpec cls src n kd

section
variable {cls : Cls} {src : List Char} {kd : Kind} {n : Nat}

/-- the lexers that count a run of one character class (`lex_newlines`, `lex_tabs`, `lex_spaces`) -/
theorem count_some {p : Char → Bool} {mk : Nat → Kind}
    (h : (if countWhile p src > 0 then some (mk (countWhile p src), countWhile p src) else none) = some (kd, n)) :
    kd = mk n ∧ (1 ≤ n ∧ n ≤ src.length) ∧ (src.take n).length = n ∧ ∀ c ∈ src.take n, p c = true := by
  split at h
  · rename_i hpos
    cases h
    exact ⟨rfl, ⟨hpos, countWhile_le p src⟩, countWhile_take_length p src, countWhile_take_all p src⟩
  · cases h

theorem lexTabs_lexed (h : lexTabs src = some (kd, n)) : Lexed cls src kd n := by
  obtain ⟨rfl, hb, hl, hall⟩ := count_some (mk := fun n => .space (n * 2)) h
  exact ⟨hb, Or.inr ⟨fun c hc => by simpa using hall c hc, by rw [hl, Nat.mul_comm]⟩⟩

theorem lexSpaces_lexed (h : lexSpaces src = some (kd, n)) : Lexed cls src kd n := by
  obtain ⟨rfl, hb, hl, hall⟩ := count_some (mk := .space) h
  exact ⟨hb, Or.inl ⟨fun c hc => by simpa using hall c hc, hl.symm⟩⟩

theorem lexNewlines_lexed (h : lexNewlines src = some (kd, n)) : Lexed cls src kd n := by
  obtain ⟨rfl, hb, _, hall⟩ := count_some (mk := .newline) h
  exact ⟨hb, rfl, hb.1, fun c hc => by simpa using hall c hc⟩

theorem lexWord_lexed (h : lexWord cls src = some (kd, n)) : Lexed cls src kd n := by
  simp only [lexWord] at h
  split at h
  · cases h
  · rename_i h0
    cases h
    refine ⟨⟨Nat.pos_of_ne_zero h0, countWhile_le _ src⟩, fun c hc => ?_⟩
    have := countWhile_take_all _ _ c hc
    simp only [Bool.or_eq_true] at this
    exact this.imp id fun h1 => Or.inl (by simp [isAsciiAlnum, h1])

theorem lexPunctuation_lexed (h : lexPunctuation src = some (kd, n)) : Lexed cls src kd n := by
  unfold lexPunctuation at h
  split at h
  · cases h
  · rename_i c r
    have hb : 1 ≤ 1 ∧ 1 ≤ (c :: r).length := ⟨Nat.le_refl 1, Nat.succ_le_succ (Nat.zero_le _)⟩
    split at h
    · rename_i hq; cases h; exact ⟨hb, rfl, rfl, c, r, rfl, hq⟩
    · split at h
      · rename_i p hp; cases h; exact ⟨hb, rfl, c, r, rfl, hp⟩
      · cases h

theorem lexRegexish_lexed (h : lexRegexish cls src = some (kd, n)) : Lexed cls src kd n := by
  revert h
  fun_cases lexRegexish cls src with
  | case1 rest m hn =>
    intro h
    cases h
    have := regexishLoop_bound cls _ _ _ _ hn
    exact ⟨⟨by omega, by rw [List.length_cons]; omega⟩, trivial⟩
  | case2 | case3 => intro h; cases h

theorem lexLongDecade_lexed (h : lexLongDecade cls src = some (kd, n)) : Lexed cls src kd n := by
  revert h
  fun_cases lexLongDecade cls src with
  | case2 => intro h; cases h; exact ⟨⟨by omega, by simp only [List.length_cons]; omega⟩, rfl⟩
  | case3 => intro h; cases h; exact ⟨⟨by omega, Nat.le_refl 5⟩, rfl⟩
  | case1 | case4 | case5 => intro h; cases h

/-- `c s` or `c ' s` -/
theorem lexPluralDigit_lexed (h : lexPluralDigit src = some (kd, n)) : Lexed cls src kd n := by
  unfold lexPluralDigit at h
  split at h
  · cases h
  · rename_i c r0
    split at h
    · cases h
    · rename_i hca
      have hca : isAsciiAlnum c = true := by simpa using hca
      split at h
      · obtain ⟨rfl, rfl, r2, rfl⟩ := pluralTail_some h
        refine ⟨⟨by omega, by simp only [List.length_cons]; omega⟩, fun x hx => ?_⟩
        simp only [List.take_succ_cons, List.take_zero, List.mem_cons, List.not_mem_nil, or_false] at hx
        rcases hx with rfl | rfl | rfl
        · exact Or.inr (Or.inl hca)
        · exact Or.inr (Or.inr rfl)
        · exact Or.inr (Or.inl (by decide))
      · obtain ⟨rfl, rfl, r2, rfl⟩ := pluralTail_some h
        refine ⟨⟨by omega, by simp only [List.length_cons]; omega⟩, fun x hx => ?_⟩
        simp only [List.take_succ_cons, List.take_zero, List.mem_cons, List.not_mem_nil, or_false] at hx
        rcases hx with rfl | rfl
        · exact Or.inr (Or.inl hca)
        · exact Or.inr (Or.inl (by decide))

theorem lexHexNumber_lexed (h : lexHexNumber cls src = some (kd, n)) : Lexed cls src kd n := by
  unfold lexHexNumber at h
  split at h
  · rename_i z x c rest
    split at h
    · rename_i hc
      split at h
      · cases h
      · rename_i k hk
        split at h
        · rename_i hv
          cases h
          simp only [Bool.and_eq_true, beq_iff_eq] at hc
          obtain ⟨⟨rfl, rfl⟩, hc3⟩ := hc
          have hle := hexScan_le cls _ _ hk
          have h1 : 1 ≤ k := by
            simp only [hexScan, hc3, if_true] at hk
            cases hh : hexScan cls rest with
            | none => simp [hh] at hk
            | some j => simp [hh] at hk; omega
          exact ⟨⟨by omega, by simp only [List.length_cons] at hle ⊢; omega⟩,
            rfl, Or.inr ⟨rfl, k, rfl, h1, rfl, hexScan_hex cls _ k hk, hv⟩⟩
        · cases h
    · cases h
  · cases h

theorem lexNumber_lexed (h : lexNumber cls src = some (kd, n)) : Lexed cls src kd n := by
  unfold lexNumber at h
  split at h
  · cases h
  · rename_i c rest
    split at h
    · cases h
    · rename_i hnum
      split at h
      · cases h
      · rename_i e he
        split at h
        · rename_i m hm
          cases h
          obtain ⟨hpos, hacc⟩ := numberLoop_accepts _ _ _ hm
          have hlt : e < (c :: rest).length := by
            rcases lastDigitIdx_go_spec (c :: rest) 0 none with ⟨_, h⟩ | ⟨j, h, hj, _⟩
            · rw [lastDigitIdx, h] at he; cases he
            · rw [lastDigitIdx, h, Nat.zero_add] at he; cases he; exact hj
          have := (numberLoop_bound _ _ _ hm).2
          exact ⟨⟨hpos, by omega⟩, rfl, Or.inl ⟨rfl, hpos, hacc, c, rest, rfl, by simpa using hnum⟩⟩
        · cases h

end

/-! # `lex_token` -/

/-- the three external lexers stay inside the text -/
def ExtOK (ext : Ext) (len : Nat) : Prop :=
  ∀ pos k n, ext pos = some (k, n) → 1 ≤ n ∧ pos + n ≤ len

theorem runLexer_ext {cls : Cls} {ext : Ext} {pos : Nat} {src : List Char} {l : LexerName}
    (hl : l = .lex_url ∨ l = .lex_email_address ∨ l = .lex_hostname_token) {k : Kind} {n : Nat}
    (h : runLexer cls ext pos src l = some (k, n)) :
    ext pos = some (k, n) ∧ (k = .url ∨ k = .email ∨ k = .hostname) := by
  rcases hl with rfl | rfl | rfl <;> simp only [runLexer] at h <;> split at h <;> cases h
  · exact ⟨‹_›, .inl rfl⟩
  · exact ⟨‹_›, .inr (.inl rfl)⟩
  · exact ⟨‹_›, .inr (.inr rfl)⟩

/-- a token is found by one of the model's own lexers, or it is the table's -/
theorem runLexer_cases {cls : Cls} {ext : Ext} {pos : Nat} {src : List Char} {kd : Kind} {n : Nat} (l : LexerName)
    (hne : src ≠ []) (h : runLexer cls ext pos src l = some (kd, n)) :
    Lexed cls src kd n ∨ (ext pos = some (kd, n) ∧ (kd = .url ∨ kd = .email ∨ kd = .hostname)) := by
  cases l with
  | lex_regexish => exact .inl (lexRegexish_lexed h)
  | lex_punctuation => exact .inl (lexPunctuation_lexed h)
  | lex_tabs => exact .inl (lexTabs_lexed h)
  | lex_spaces => exact .inl (lexSpaces_lexed h)
  | lex_newlines => exact .inl (lexNewlines_lexed h)
  | lex_plural_digit => exact .inl (lexPluralDigit_lexed h)
  | lex_hex_number => exact .inl (lexHexNumber_lexed h)
  | lex_long_decade => exact .inl (lexLongDecade_lexed h)
  | lex_number => exact .inl (lexNumber_lexed h)
  | lex_word => exact .inl (lexWord_lexed h)
  | lex_catch => cases h; exact .inl ⟨⟨Nat.le_refl 1, List.length_pos_iff.mpr hne⟩, rfl⟩
  | lex_url => exact .inr (runLexer_ext (.inl rfl) h)
  | lex_email_address => exact .inr (runLexer_ext (.inr (.inl rfl)) h)
  | lex_hostname_token => exact .inr (runLexer_ext (.inr (.inr rfl)) h)

theorem runLexer_ok (cls : Cls) (ext : Ext) (pos : Nat) (src : List Char) (len : Nat)
    (hext : ExtOK ext len) (hlen : pos + src.length = len) (hne : src ≠ []) (l : LexerName) :
    FoundOK (runLexer cls ext pos src l) src.length := fun k n h => by
  rcases runLexer_cases l hne h with hl | ⟨he, _⟩
  · exact hl.1
  · have := hext pos k n he
    omega

theorem runLexer_spec {cls : Cls} {ext : Ext} {pos : Nat} {src : List Char} {kd : Kind} {n : Nat} (l : LexerName)
    (hne : src ≠ []) (h : runLexer cls ext pos src l = some (kd, n)) : LexSpec cls src n kd := by
  rcases runLexer_cases l hne h with hl | ⟨_, rfl | rfl | rfl⟩
  · exact hl.2
  all_goals trivial

theorem firstFound_eq (cls : Cls) (ext : Ext) (pos : Nat) (src : List Char) (ls : List LexerName) :
    firstFound cls ext pos src ls = ls.findSome? (runLexer cls ext pos src) := by
  induction ls with
  | nil => rfl
  | cons l ls ih => rw [firstFound, List.findSome?_cons, ih]; cases runLexer cls ext pos src l <;> rfl

theorem lexToken_from_lexer {cls : Cls} {ext : Ext} {pos : Nat} {src : List Char} {kd : Kind} {n : Nat}
    (h : lexToken cls ext pos src = some (kd, n)) :
    ∃ l, runLexer cls ext pos src l = some (kd, n) := by
  rw [lexToken, firstFound_eq] at h
  obtain ⟨l, _, hl⟩ := List.exists_of_findSome?_eq_some h
  exact ⟨l, hl⟩

theorem lexToken_spec {cls : Cls} {ext : Ext} {pos : Nat} {src : List Char} {kd : Kind} {n : Nat} (hne : src ≠ [])
    (h : lexToken cls ext pos src = some (kd, n)) : LexSpec cls src n kd := by
  obtain ⟨l, hl⟩ := lexToken_from_lexer h
  exact runLexer_spec l hne hl

end Harper
