import Harper.Model.Ignore
import Harper.Lemmas.Keyed
/-! Helper lemmas for C14 (`Harper/Props/C14.lean`), and (at the end) the witness token lists of C14's
examples and counter-examples. What holds of insertion-ordered lists in general (the ignore set here, the word list and
the configuration of `Harper/Lemmas/Wasm.lean`) is in `Harper/Lemmas/Keyed.lean`. -/
namespace Harper

namespace Ignore

/-! ### the ignore set -/

theorem insertCtx_of_mem {s : IgnoreSet} {c : Context} (h : c ∈ s) : insertCtx s c = s := by
  rw [insertCtx, if_pos (List.contains_iff_mem.mpr h)]

theorem insertCtx_of_not_mem {s : IgnoreSet} {c : Context} (h : c ∉ s) :
    insertCtx s c = s ++ [c] := by
  rw [insertCtx, if_neg (fun hc => h (List.contains_iff_mem.mp hc))]

theorem mem_insertCtx {s : IgnoreSet} {c c' : Context} :
    c' ∈ insertCtx s c ↔ c' ∈ s ∨ c' = c := by
  by_cases h : c ∈ s
  · rw [insertCtx_of_mem h]
    exact ⟨Or.inl, fun h' => h'.elim id (fun e => e ▸ h)⟩
  · rw [insertCtx_of_not_mem h, List.mem_append, List.mem_singleton]

theorem mem_foldl_insertCtx (l : List Context) (s : IgnoreSet) (c : Context) :
    c ∈ l.foldl insertCtx s ↔ c ∈ s ∨ c ∈ l := by
  induction l generalizing s with
  | nil => simp
  | cons x xs ih => rw [List.foldl_cons, ih, mem_insertCtx, List.mem_cons, or_assoc]

theorem mem_importL {l : List Context} {c : Context} : c ∈ importL l ↔ c ∈ l := by
  rw [importL, mem_foldl_insertCtx, or_iff_right List.not_mem_nil]

theorem mem_append_importL (s : IgnoreSet) (p : List Context) (c : Context) :
    c ∈ Ignore.append s (importL p) ↔ c ∈ s ∨ c ∈ p := by
  rw [Ignore.append, mem_foldl_insertCtx, mem_importL]

theorem nodup_insertCtx {s : IgnoreSet} (h : s.Nodup) (c : Context) : (insertCtx s c).Nodup := by
  by_cases hc : c ∈ s
  · rwa [insertCtx_of_mem hc]
  · rw [insertCtx_of_not_mem hc]; exact nodup_concat h hc

theorem nodup_foldl_insertCtx (l : List Context) {s : IgnoreSet} (h : s.Nodup) :
    (l.foldl insertCtx s).Nodup := by
  induction l generalizing s with
  | nil => exact h
  | cons x xs ih => exact ih (nodup_insertCtx h x)

/-- inserting the elements of a duplicate-free list one by one rebuilds the list -/
theorem foldl_insertCtx_eq_append (l : List Context) (s : IgnoreSet) (h : (s ++ l).Nodup) :
    l.foldl insertCtx s = s ++ l :=
  foldl_insert_fresh id insertCtx
    (fun m w hw => insertCtx_of_not_mem (by rwa [List.map_id] at hw)) l s (by rwa [List.map_id])

/-! ### `is_ignored`, `remove_ignored`: membership of the lint's context -/

theorem isIgnored_iff_mem {s : IgnoreSet} {l : LintM} {toks : List Tok} :
    isIgnored s l toks = true ↔ contextOf l toks ∈ s :=
  List.contains_iff_mem

theorem isIgnored_eq_false_iff {s : IgnoreSet} {l : LintM} {toks : List Tok} :
    isIgnored s l toks = false ↔ contextOf l toks ∉ s := by
  rw [← isIgnored_iff_mem, Bool.not_eq_true]

theorem isIgnored_congr {s s' : IgnoreSet} (h : ∀ c, c ∈ s ↔ c ∈ s') (l : LintM) (toks : List Tok) :
    isIgnored s l toks = isIgnored s' l toks := by
  rw [Bool.eq_iff_iff, isIgnored_iff_mem, isIgnored_iff_mem, h]

/-- the early return on an empty set changes nothing -/
theorem removeIgnored_eq_filter_mem (s : IgnoreSet) (lints : List LintM) (toks : List Tok) :
    removeIgnored s lints toks = lints.filter (fun l => decide (contextOf l toks ∉ s)) := by
  unfold removeIgnored
  by_cases h : s.isEmpty = true
  · rw [if_pos h, List.isEmpty_iff.mp h]
    exact (List.filter_eq_self.mpr (fun _ _ => decide_eq_true List.not_mem_nil)).symm
  · rw [if_neg h]
    refine List.filter_congr (fun l _ => ?_)
    rw [Bool.eq_iff_iff, Bool.not_eq_true', isIgnored_eq_false_iff, decide_eq_true_eq]

theorem removeIgnored_congr {s s' : IgnoreSet} (h : ∀ c, c ∈ s ↔ c ∈ s') (lints : List LintM)
    (toks : List Tok) : removeIgnored s lints toks = removeIgnored s' lints toks := by
  rw [removeIgnored_eq_filter_mem, removeIgnored_eq_filter_mem]
  exact List.filter_congr (fun l _ => decide_eq_decide.mpr (not_congr (h _)))

/-- one more ignored context = one more filter on the result -/
theorem removeIgnored_insertCtx (s : IgnoreSet) (c : Context) (lints : List LintM) (toks : List Tok) :
    removeIgnored (insertCtx s c) lints toks
      = (removeIgnored s lints toks).filter (fun l => decide (contextOf l toks ≠ c)) := by
  rw [removeIgnored_eq_filter_mem, removeIgnored_eq_filter_mem, List.filter_filter]
  refine List.filter_congr (fun x _ => ?_)
  rw [Bool.eq_iff_iff, Bool.and_eq_true, decide_eq_true_eq, decide_eq_true_eq, decide_eq_true_eq,
    mem_insertCtx, not_or, and_comm]

/-- the master equation of `ignore_lint` followed by `is_ignored` (any two documents) -/
theorem isIgnored_ignoreLint (s : IgnoreSet) (l₁ l₂ : LintM) (toks₁ toks₂ : List Tok) :
    isIgnored (ignoreLint s l₁ toks₁) l₂ toks₂
      = (isIgnored s l₂ toks₂ || decide (contextOf l₂ toks₂ = contextOf l₁ toks₁)) := by
  rw [Bool.eq_iff_iff, Bool.or_eq_true, decide_eq_true_eq, isIgnored_iff_mem, isIgnored_iff_mem,
    ignoreLint, mem_insertCtx]

/-! ### the windows of a context when tokens move or are added -/

theorem overlaps_shift (t : Tok) (d a b : Nat) :
    (t.shift d).overlaps (a + d) (b + d) = t.overlaps a b := by
  simp only [Tok.overlaps, Tok.shift, Nat.add_lt_add_iff_right]

theorem fat_shift (t : Tok) (d : Nat) : (t.shift d).fat = t.fat := rfl

theorem fatsIn_shift (toks : List Tok) (d a b : Nat) :
    fatsIn (toks.map (Tok.shift d)) (a + d) (b + d) = fatsIn toks a b := by
  unfold fatsIn
  rw [List.filter_map, List.map_map]
  exact congrArg _ (List.filter_congr (fun t _ => overlaps_shift t d a b))

theorem fatsIn_append (xs ys : List Tok) (a b : Nat) :
    fatsIn (xs ++ ys) a b = fatsIn xs a b ++ fatsIn ys a b := by
  simp only [fatsIn, List.filter_append, List.map_append]

theorem fatsIn_none (xs : List Tok) (a b : Nat) (h : ∀ t ∈ xs, t.overlaps a b = false) :
    fatsIn xs a b = [] := by
  rw [fatsIn, List.filter_eq_nil_iff.mpr (fun t ht => by rw [h t ht]; exact Bool.false_ne_true)]
  rfl

theorem fatsIn_before (xs : List Tok) {d : Nat} (h : ∀ t ∈ xs, t.stop ≤ d) {a : Nat} (ha : d ≤ a)
    (b : Nat) : fatsIn xs a b = [] :=
  fatsIn_none xs _ _ fun t ht => by
    have := h t ht
    rw [Tok.overlaps, Bool.and_eq_false_iff, decide_eq_false_iff_not, decide_eq_false_iff_not]
    right; omega

theorem fatsIn_after (xs : List Tok) {n : Nat} (h : ∀ t ∈ xs, n ≤ t.start) (a : Nat) {b : Nat}
    (hb : b ≤ n) : fatsIn xs a b = [] :=
  fatsIn_none xs _ _ fun t ht => by
    have := h t ht
    rw [Tok.overlaps, Bool.and_eq_false_iff, decide_eq_false_iff_not, decide_eq_false_iff_not]
    left; omega

/-! ### several `ignore_lint` calls in a row (same document) -/

theorem mem_foldl_ignoreLint (ls : List LintM) (toks : List Tok) (s : IgnoreSet) (c : Context) :
    c ∈ ls.foldl (fun s l => ignoreLint s l toks) s ↔ c ∈ s ∨ ∃ l ∈ ls, c = contextOf l toks := by
  induction ls generalizing s with
  | nil => simp
  | cons x xs ih =>
    rw [List.foldl_cons, ih, ignoreLint, mem_insertCtx, or_assoc]
    simp only [List.mem_cons, exists_eq_or_imp]

/-- the lints the ids of `ids` stand for, in the order listed (unknown ids dropped) -/
def idLints (lints : List LintM) (ids : List Nat) : List LintM :=
  ids.filterMap (fun i => lints.find? (·.id == i))

theorem ignoreIds_eq_foldl (lints : List LintM) (toks : List Tok) (ids : List Nat) (s : IgnoreSet) :
    ignoreIds s lints toks ids = (idLints lints ids).foldl (fun s l => ignoreLint s l toks) s := by
  induction ids generalizing s with
  | nil => rfl
  | cons i is ih =>
    unfold ignoreIds idLints
    rw [List.filterMap_cons]
    cases h : lints.find? (·.id == i) with
    | none => exact ih s
    | some l => exact ih _

theorem mem_idLints {lints : List LintM} {ids : List Nat} {l : LintM} :
    l ∈ idLints lints ids ↔ ∃ i ∈ ids, lints.find? (·.id == i) = some l :=
  List.mem_filterMap

/-- a lint picked by id is one of the lints and carries that id -/
theorem idLints_sub {lints : List LintM} {ids : List Nat} {l : LintM} (h : l ∈ idLints lints ids) :
    l ∈ lints ∧ l.id ∈ ids := by
  obtain ⟨i, hi, hf⟩ := mem_idLints.mp h
  have h2 := List.find?_some hf
  have : l.id = i := beq_iff_eq.mp h2
  exact ⟨List.mem_of_find?_eq_some hf, this ▸ hi⟩

theorem mem_ignoreIds (lints : List LintM) (toks : List Tok) (ids : List Nat) (s : IgnoreSet)
    (c : Context) :
    c ∈ ignoreIds s lints toks ids ↔ c ∈ s ∨ ∃ l ∈ idLints lints ids, c = contextOf l toks := by
  rw [ignoreIds_eq_foldl, mem_foldl_ignoreLint]

/-! ### Witness of `c14-quote-twin-loc`: the real tokens of `Well, "Ths" is bad.` before and after
`Hello there. ` is prepended (kinds as encoded by the harness; `[1,0,1,n]` = quote with
`twin_loc = Some n`), and the spelling lint on `Ths`. -/

def msgW : List Nat := [68,105,100,32,121,111,117,32,109,101,97,110,32,116,111,32,115,112,101,108,108,
  32,8220,84,104,115,8221,32,116,104,105,115,32,119,97,121,63]
def suggW : List (List Nat) := [[0,84,39,115],[0,84,104,39,115],[0,84,86,115]]

def toksW : List Tok := [
  ⟨[0,1],[87,101,108,108],0,4⟩, ⟨[1,2],[44],4,5⟩, ⟨[4,1],[32],5,6⟩, ⟨[1,0,1,5],[34],6,7⟩,
  ⟨[0,0],[84,104,115],7,10⟩, ⟨[1,0,1,3],[34],10,11⟩, ⟨[4,1],[32],11,12⟩, ⟨[0,3],[105,115],12,14⟩,
  ⟨[4,1],[32],14,15⟩, ⟨[0,1],[98,97,100],15,18⟩, ⟨[1,4],[46],18,19⟩]
def lintW : LintM := ⟨0, 7, 10, 0, suggW, msgW, 63⟩

def toksW' : List Tok := [
  ⟨[0,5],[72,101,108,108,111],0,5⟩, ⟨[4,1],[32],5,6⟩, ⟨[0,6],[116,104,101,114,101],6,11⟩,
  ⟨[1,4],[46],11,12⟩, ⟨[4,1],[32],12,13⟩,
  ⟨[0,1],[87,101,108,108],13,17⟩, ⟨[1,2],[44],17,18⟩, ⟨[4,1],[32],18,19⟩, ⟨[1,0,1,10],[34],19,20⟩,
  ⟨[0,0],[84,104,115],20,23⟩, ⟨[1,0,1,8],[34],23,24⟩, ⟨[4,1],[32],24,25⟩, ⟨[0,3],[105,115],25,27⟩,
  ⟨[4,1],[32],27,28⟩, ⟨[0,1],[98,97,100],28,31⟩, ⟨[1,4],[46],31,32⟩]
def lintW' : LintM := ⟨0, 20, 23, 0, suggW, msgW, 63⟩

/-! ### Witness of `c14-after-window-from-start`: the real tokens of `more than 4$.` before and
after ` Thanks.` is appended, and the "spell out numbers" lint on `4` (one character long). -/

def msgA : List Nat := [84,114,121,32,116,111,32,115,112,101,108,108,32,111,117,116,32,110,117,109,98,
  101,114,115,32,108,101,115,115,32,116,104,97,110,32,116,101,110,46]
def toksA : List Tok := [
  ⟨[0,1],[109,111,114,101],0,4⟩, ⟨[4,1],[32],4,5⟩, ⟨[0,2],[116,104,97,110],5,9⟩, ⟨[4,1],[32],9,10⟩,
  ⟨[3,3],[52],10,11⟩, ⟨[1,4],[36],11,12⟩, ⟨[1,5],[46],12,13⟩]
def addedA : List Tok := [⟨[4,1],[32],13,14⟩, ⟨[0,6],[84,104,97,110,107,115],14,20⟩, ⟨[1,5],[46],20,21⟩]
def lintA : LintM := ⟨1, 10, 11, 6, [[0,102,111,117,114]], msgA, 63⟩

/-! ### Witness data: twins inside one document. `a thier a thier` — the same misspelling
twice with the same neighbours (kinds as the harness encodes them: `[0,k]` word, `[4,1]` space). -/

def toksT : List Tok := [⟨[0,1],[97],0,1⟩, ⟨[4,1],[32],1,2⟩, ⟨[0,0],[116,104,105,101,114],2,7⟩,
  ⟨[4,1],[32],7,8⟩, ⟨[0,1],[97],8,9⟩, ⟨[4,1],[32],9,10⟩, ⟨[0,0],[116,104,105,101,114],10,15⟩]
/-- spelling lint on the first `thier` -/
def lintT₁ : LintM := ⟨0, 2, 7, 0, [[0,116,104,101,105,114]], [63], 63⟩
/-- spelling lint on the second `thier`: other id, other span, everything hashed equal -/
def lintT₂ : LintM := ⟨1, 10, 15, 0, [[0,116,104,101,105,114]], [63], 63⟩
/-- a third lint on the second `thier` with another message (e.g. another rule) -/
def lintT₃ : LintM := ⟨2, 10, 15, 3, [], [64], 31⟩

/-- `teh cat. teh cat.`: the same misspelling twice, but the first one starts the document —
`pulled_by(2)` is `None` there, its context has no tokens before it -/
def toksU : List Tok := [⟨[0,0],[116,101,104],0,3⟩, ⟨[4,1],[32],3,4⟩, ⟨[0,1],[99,97,116],4,7⟩,
  ⟨[1,4],[46],7,8⟩, ⟨[4,1],[32],8,9⟩, ⟨[0,0],[116,101,104],9,12⟩, ⟨[4,1],[32],12,13⟩,
  ⟨[0,1],[99,97,116],13,16⟩, ⟨[1,4],[46],16,17⟩]
def lintU₁ : LintM := ⟨0, 0, 3, 0, [[0,116,104,101]], [63], 63⟩
def lintU₂ : LintM := ⟨1, 9, 12, 0, [[0,116,104,101]], [63], 63⟩

end Ignore
end Harper
