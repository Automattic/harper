import Harper.Lemmas.Parse
import Harper.Model.LexExt
/-!
Bounds for the url / e-mail / hostname lexers (every index the Rust code uses is in range, every
token consumes between 1 and the remaining characters), hence `ExtOK (extOfSrc src)`; the table
`extOfSrc` makes `lexToken` pick exactly what `lex_token` with the three lexers called directly
picks.
-/
namespace Harper

theorem of_ite_none_eq_some {α} {c : Prop} [Decidable c] {x : Option α} {y : α}
    (h : (if c then none else x) = some y) : ¬ c ∧ x = some y := by
  by_cases hc : c
  · rw [if_pos hc] at h; cases h
  · rw [if_neg hc] at h; exact ⟨hc, h⟩

/-! ## searching -/

theorem position_eq (p : Char → Bool) (l : List Char) : position p l = l.findIdx? p := by
  induction l with
  | nil => rfl
  | cons c cs ih => rw [position, List.findIdx?_cons, ih]

theorem position_lt (p : Char → Bool) (l : List Char) (i : Nat) (h : position p l = some i) :
    i < l.length := by
  rw [position_eq] at h
  exact (List.findIdx?_eq_some_iff_getElem.mp h).1

theorem lastPosition_lt (p : Char → Bool) (l : List Char) (i : Nat)
    (h : lastPosition p l = some i) : i < l.length := by
  induction l generalizing i with
  | nil => simp [lastPosition] at h
  | cons c cs ih =>
    unfold lastPosition at h
    split at h
    · rename_i j hj; cases h; have := ih j hj; simp; omega
    · split at h
      · cases h; simp
      · cases h

theorem position_append_some (p : Char → Bool) (a t : List Char) (i : Nat) (h : position p a = some i) :
    position p (a ++ t) = some i := by
  rw [position_eq] at h ⊢
  rw [List.findIdx?_append, h]
  rfl

theorem position_append_none (p : Char → Bool) (a t : List Char) (h : position p a = none) :
    position p (a ++ t) = (position p t).map (· + a.length) := by
  rw [position_eq] at h
  rw [position_eq, position_eq, List.findIdx?_append, h]
  rfl

theorem position_none_iff (p : Char → Bool) (l : List Char) : position p l = none ↔ ∀ c ∈ l, p c = false := by
  rw [position_eq]
  exact List.findIdx?_eq_none_iff

theorem position_spec (p : Char → Bool) (l : List Char) (i : Nat) (h : position p l = some i) :
    ∃ c, l[i]? = some c ∧ p c = true := by
  rw [position_eq] at h
  obtain ⟨hlt, hp, _⟩ := List.findIdx?_eq_some_iff_getElem.mp h
  exact ⟨l[i], List.getElem?_eq_getElem hlt, hp⟩

theorem lastPosition_none (p : Char → Bool) (t : List Char) (ht : ∀ c ∈ t, p c = false) : lastPosition p t = none := by
  induction t with
  | nil => rfl
  | cons c t ih =>
    simp only [List.mem_cons, forall_eq_or_imp] at ht
    simp only [lastPosition, ih ht.2, ht.1]
    simp

theorem lastPosition_append_none (p : Char → Bool) (a t : List Char) (ht : ∀ c ∈ t, p c = false) :
    lastPosition p (a ++ t) = lastPosition p a := by
  induction a with
  | nil => simp [lastPosition_none p t ht, lastPosition]
  | cons c a ih => simp only [List.cons_append, lastPosition, ih]

theorem lastPosition_spec (p : Char → Bool) (l : List Char) (i : Nat) (h : lastPosition p l = some i) :
    ∃ c, l[i]? = some c ∧ p c = true := by
  induction l generalizing i with
  | nil => simp [lastPosition] at h
  | cons c l ih =>
    unfold lastPosition at h
    split at h
    · rename_i j hj
      cases h
      obtain ⟨d, h1, h2⟩ := ih j hj
      exact ⟨d, by simpa using h1, h2⟩
    · split at h
      · rename_i hc; cases h; exact ⟨c, rfl, hc⟩
      · cases h

/-! ## hostname -/

theorem hostnameLoop_bound (passed : Nat) (cs : List Char) :
    passed ≤ hostnameLoop passed cs ∧ hostnameLoop passed cs ≤ passed + cs.length := by
  fun_induction hostnameLoop passed cs with
  | case1 => exact ⟨Nat.le_refl _, Nat.le_refl _⟩
  | case2 passed c cs _ ih => rw [List.length_cons]; omega
  | case3 passed c cs _ _ ih => rw [List.length_cons]; omega
  | case4 => exact ⟨Nat.le_refl _, Nat.le_add_right _ _⟩

theorem lexHostname_bound (src : List Char) (n : Nat) (h : lexHostname src = some n) :
    1 ≤ n ∧ n ≤ src.length := by
  unfold lexHostname at h
  cases src with
  | nil => cases h
  | cons c cs =>
    simp only at h
    split at h
    · cases h
    · rename_i hc
      cases h
      have hb := hostnameLoop_bound 1 cs
      have hstep : hostnameLoop 0 (c :: cs) = hostnameLoop 1 cs := by
        have hc' : isAsciiAlnum c = true := by simpa using hc
        simp [hostnameLoop, isHostChar, hc']
      rw [hstep]; simp; omega

theorem lexHostnameToken_some (src : List Char) (k : Kind) (n : Nat) (h : lexHostnameToken src = some (k, n)) :
    k = .hostname ∧ lexHostname src = some n := by
  unfold lexHostnameToken at h
  cases hl : lexHostname src with
  | none => rw [hl] at h; cases h
  | some len =>
    rw [hl] at h
    have h := (of_ite_none_eq_some (of_ite_none_eq_some (of_ite_none_eq_some (of_ite_none_eq_some h).2).2).2).2
    cases h
    exact ⟨rfl, rfl⟩

theorem lexHostnameToken_ok (src : List Char) : FoundOK (lexHostnameToken src) src.length :=
  fun k n h => lexHostname_bound src n (lexHostnameToken_some src k n h).2

/-! ## url -/

theorem lexXcharString_le (l : List Char) : lexXcharString l ≤ l.length := by
  fun_induction lexXcharString l <;> simp <;> omega

theorem pathLoop_le (fuel : Nat) (rest : List Char) : pathLoop fuel rest ≤ rest.length := by
  fun_induction pathLoop fuel rest with
  | case1 | case2 | case3 => exact Nat.zero_le _
  | case4 => exact Nat.succ_le_succ (Nat.zero_le _)
  | case5 fuel c cs _ n _ ih =>
    have hx := lexXcharString_le cs
    rw [List.length_drop] at ih
    rw [List.length_cons]
    omega

theorem pathLoop_fuel (f1 f2 : Nat) (rest : List Char) (h1 : rest.length < f1)
    (h2 : rest.length < f2) : pathLoop f1 rest = pathLoop f2 rest := by
  induction f1 generalizing f2 rest with
  | zero => exact absurd h1 (Nat.not_lt_zero _)
  | succ f1 ih =>
    cases f2 with
    | zero => exact absurd h2 (Nat.not_lt_zero _)
    | succ f2 =>
      cases rest with
      | nil => rfl
      | cons c r =>
        have hx := lexXcharString_le r
        rw [List.length_cons] at h1 h2
        simp only [pathLoop, ih f2 (r.drop (lexXcharString r)) (by rw [List.length_drop]; omega)
          (by rw [List.length_drop]; omega)]

theorem lexHostport_le (src : List Char) (n : Nat) (h : lexHostport src = some n) :
    n ≤ src.length := by
  unfold lexHostport at h
  split at h
  · cases h
  · rename_i he hh
    split at h
    · cases h
      cases hp : position (fun c => !isAsciiDigit c) src with
      | none => simp
      | some i => have := position_lt _ _ _ hp; simp; omega
    · cases h; exact (lexHostname_bound _ _ hh).2

theorem loginHostportStart_le (src : List Char) (hs : Nat)
    (h : loginHostportStart src = some hs) : hs ≤ src.length := by
  unfold loginHostportStart at h
  split at h
  · rename_i credEnd hc
    have := position_lt _ _ _ hc
    simp only at h
    split at h
    · cases h
    · split at h
      · cases h
      · cases h; omega
  · cases h; omega

theorem lexLogin_some (src : List Char) (n : Nat) (h : lexLogin src = some n) :
    ∃ hs he, loginHostportStart src = some hs ∧ lexHostport (src.drop hs) = some he ∧ n = hs + he := by
  unfold lexLogin at h
  cases h1 : loginHostportStart src with
  | none => rw [h1] at h; cases h
  | some hs =>
    rw [h1] at h
    cases h2 : lexHostport (src.drop hs) with
    | none => simp only [h2] at h; cases h
    | some he => simp only [h2] at h; cases h; exact ⟨hs, he, rfl, h2, rfl⟩

/-- `lex_login(rest) ≤ rest.len()`: the cursor of `lex_ip_schemepart` starts in range -/
theorem lexLogin_le (src : List Char) (n : Nat) (h : lexLogin src = some n) : n ≤ src.length := by
  obtain ⟨hs, he, h1, h2, rfl⟩ := lexLogin_some src n h
  have := loginHostportStart_le src hs h1
  have := lexHostport_le _ _ h2
  rw [List.length_drop] at this
  omega

theorem lexLogin_getD_le (src : List Char) : (lexLogin src).getD 0 ≤ src.length := by
  cases h : lexLogin src with
  | none => exact Nat.zero_le _
  | some n => exact lexLogin_le src n h

theorem lexIpSchemepart_some (src : List Char) (n : Nat) (h : lexIpSchemepart src = some n) :
    ∃ rest, src = '/' :: '/' :: rest ∧
      n = (lexLogin rest).getD 0 + pathLoop (rest.length + 1) (rest.drop ((lexLogin rest).getD 0)) + 2 := by
  unfold lexIpSchemepart at h
  split at h
  · cases h; exact ⟨_, rfl, rfl⟩
  · cases h

theorem lexIpSchemepart_bound (src : List Char) (n : Nat) (h : lexIpSchemepart src = some n) :
    2 ≤ n ∧ n ≤ src.length := by
  obtain ⟨rest, rfl, rfl⟩ := lexIpSchemepart_some src n h
  have hl := lexLogin_getD_le rest
  have hp := pathLoop_le (rest.length + 1) (rest.drop ((lexLogin rest).getD 0))
  rw [List.length_drop] at hp
  simp only [List.length_cons]
  omega

theorem lexUrl_some (src : List Char) (k : Kind) (n : Nat) (h : lexUrl src = some (k, n)) :
    ∃ sep e, position (· == ':') src = some sep ∧ (src.take sep).all validSchemeChar = true ∧
      lexIpSchemepart (src.drop (sep + 1)) = some e ∧ k = .url ∧ n = sep + 1 + e := by
  unfold lexUrl at h
  cases hs : position (· == ':') src with
  | none => rw [hs] at h; cases h
  | some sep =>
    rw [hs] at h
    obtain ⟨hv, h⟩ := of_ite_none_eq_some h
    cases he : lexIpSchemepart (src.drop (sep + 1)) with
    | none => rw [he] at h; cases h
    | some e => rw [he] at h; cases h; exact ⟨sep, e, rfl, by simpa using hv, he, rfl, by omega⟩

theorem lexUrl_ok (src : List Char) : FoundOK (lexUrl src) src.length := by
  intro k n h
  obtain ⟨sep, e, hs, _, he, _, rfl⟩ := lexUrl_some src k n h
  have := position_lt _ _ _ hs
  have := lexIpSchemepart_bound _ _ he
  rw [List.length_drop] at this
  omega

/-- a URL token has at least 3 characters (`:` `/` `/`) -/
theorem lexUrl_min (src : List Char) (k : Kind) (n : Nat) (h : lexUrl src = some (k, n)) :
    k = .url ∧ 3 ≤ n := by
  obtain ⟨sep, e, _, _, he, rfl, rfl⟩ := lexUrl_some src k n h
  have := lexIpSchemepart_bound _ _ he
  exact ⟨rfl, by omega⟩

/-! ## e-mail -/

theorem lexEmailAddress_some (src : List Char) (k : Kind) (n : Nat) (h : lexEmailAddress src = some (k, n)) :
    ∃ atLoc d, lastPosition (· == '@') src = some atLoc ∧ validateLocalPart (src.take atLoc) = true ∧
      lexHostname (src.drop (atLoc + 1)) = some d ∧ k = .email ∧ n = atLoc + 1 + d := by
  unfold lexEmailAddress at h
  cases ha : lastPosition (· == '@') src with
  | none => rw [ha] at h; cases h
  | some atLoc =>
    rw [ha] at h
    obtain ⟨hv, h⟩ := of_ite_none_eq_some h
    cases hd : lexHostname (src.drop (atLoc + 1)) with
    | none => rw [hd] at h; cases h
    | some d =>
      rw [hd] at h
      have h := (of_ite_none_eq_some h).2
      cases h
      exact ⟨atLoc, d, rfl, by simpa using hv, hd, rfl, rfl⟩

theorem lexEmailAddress_ok (src : List Char) : FoundOK (lexEmailAddress src) src.length := by
  intro k n h
  obtain ⟨atLoc, d, ha, _, hd, _, rfl⟩ := lexEmailAddress_some src k n h
  have := lastPosition_lt _ _ _ ha
  have := lexHostname_bound _ _ hd
  rw [List.length_drop] at this
  omega

/-- an e-mail token has at least 3 characters (non-empty local part, `@`, non-empty domain) -/
theorem lexEmailAddress_min (src : List Char) (k : Kind) (n : Nat)
    (h : lexEmailAddress src = some (k, n)) : k = .email ∧ 3 ≤ n := by
  obtain ⟨atLoc, d, _, hv, hd, rfl, rfl⟩ := lexEmailAddress_some src k n h
  have hb := lexHostname_bound _ _ hd
  -- the local part is not empty
  have hat0 : atLoc ≠ 0 := by
    intro h0
    rw [h0] at hv
    simp [validateLocalPart] at hv
  exact ⟨rfl, by omega⟩

/-! ## the computed table -/

theorem extOfSrc_ok (src : List Char) : ExtOK (extOfSrc src) src.length := by
  intro pos k n h
  have hlen : (src.drop pos).length = src.length - pos := List.length_drop
  have key : ∀ f : Found, FoundOK f (src.drop pos).length → f = some (k, n) →
      1 ≤ n ∧ pos + n ≤ src.length := by
    intro f hf he
    have := hf k n he
    rw [hlen] at this; omega
  unfold extOfSrc at h
  simp only at h
  split at h
  · exact key _ (lexUrl_ok _) (by rename_i hu; rw [hu, h])
  · split at h
    · exact key _ (lexEmailAddress_ok _) (by rename_i he; rw [he, h])
    · exact key _ (lexHostnameToken_ok _) h

/-! ## `extOfSrc` agrees with calling the three lexers in `lex_token`'s order -/

/-- In the list of lexers, `lex_email_address` occurs only after `lex_url` has been tried and
`lex_hostname_token` only after both (`u`, `e`: already tried). Decided on the regenerated
`Tables.lexerOrder`. -/
def extOrderOK : Bool → Bool → List LexerName → Bool
  | _, _, [] => true
  | _, e, .lex_url :: ls => extOrderOK true e ls
  | u, _, .lex_email_address :: ls => u && extOrderOK u true ls
  | u, e, .lex_hostname_token :: ls => u && e && extOrderOK u e ls
  | u, e, _ :: ls => extOrderOK u e ls

theorem lexerOrder_extOrderOK : extOrderOK false false Tables.lexerOrder = true := by decide

theorem runLexer_ext_irrelevant (cls : Cls) (ext : Ext) (pos : Nat) (s : List Char)
    (l : LexerName) (h1 : l ≠ .lex_url) (h2 : l ≠ .lex_email_address)
    (h3 : l ≠ .lex_hostname_token) :
    runLexer cls ext pos s l = runLexerFull cls s l := by
  cases l <;> first | rfl | (exfalso; first | exact h1 rfl | exact h2 rfl | exact h3 rfl)

/-- the table returns the first result among url / e-mail / hostname, and `runLexer` accepts only an entry of its own
kind: so `lex_url` sees its own result; `lex_email_address` too once `lex_url` has failed; `lex_hostname_token` once both
have -/
theorem runLexer_extOfSrc_url (cls : Cls) (src : List Char) (pos : Nat) :
    runLexer cls (extOfSrc src) pos (src.drop pos) .lex_url = lexUrl (src.drop pos) := by
  simp only [runLexer, extOfSrc]
  cases hu : lexUrl (src.drop pos) with
  | some f => obtain ⟨k, n⟩ := f; obtain rfl := (lexUrl_min _ _ _ hu).1; rfl
  | none =>
    cases he : lexEmailAddress (src.drop pos) with
    | some f => obtain ⟨k, n⟩ := f; obtain rfl := (lexEmailAddress_min _ _ _ he).1; rfl
    | none =>
      cases hh : lexHostnameToken (src.drop pos) with
      | some f => obtain ⟨k, n⟩ := f; obtain rfl := (lexHostnameToken_some _ _ _ hh).1; rfl
      | none => rfl

theorem runLexer_extOfSrc_email (cls : Cls) (src : List Char) (pos : Nat) (hu : lexUrl (src.drop pos) = none) :
    runLexer cls (extOfSrc src) pos (src.drop pos) .lex_email_address = lexEmailAddress (src.drop pos) := by
  simp only [runLexer, extOfSrc, hu]
  cases he : lexEmailAddress (src.drop pos) with
  | some f => obtain ⟨k, n⟩ := f; obtain rfl := (lexEmailAddress_min _ _ _ he).1; rfl
  | none =>
    cases hh : lexHostnameToken (src.drop pos) with
    | some f => obtain ⟨k, n⟩ := f; obtain rfl := (lexHostnameToken_some _ _ _ hh).1; rfl
    | none => rfl

theorem runLexer_extOfSrc_hostname (cls : Cls) (src : List Char) (pos : Nat) (hu : lexUrl (src.drop pos) = none)
    (he : lexEmailAddress (src.drop pos) = none) :
    runLexer cls (extOfSrc src) pos (src.drop pos) .lex_hostname_token = lexHostnameToken (src.drop pos) := by
  simp only [runLexer, extOfSrc, hu, he]
  cases hh : lexHostnameToken (src.drop pos) with
  | some f => obtain ⟨k, n⟩ := f; obtain rfl := (lexHostnameToken_some _ _ _ hh).1; rfl
  | none => rfl

theorem firstFound_extOfSrc (cls : Cls) (src : List Char) (pos : Nat) (ls : List LexerName)
    (u e : Bool) (hok : extOrderOK u e ls = true)
    (hu : u = true → lexUrl (src.drop pos) = none)
    (he : e = true → lexEmailAddress (src.drop pos) = none) :
    firstFound cls (extOfSrc src) pos (src.drop pos) ls = firstFoundFull cls (src.drop pos) ls := by
  induction ls generalizing u e with
  | nil => rfl
  | cons l ls ih =>
    unfold firstFound firstFoundFull
    by_cases h1 : l = .lex_url
    · subst h1
      rw [runLexer_extOfSrc_url, runLexerFull]
      cases hurl : lexUrl (src.drop pos) with
      | some f => rfl
      | none => exact ih true e hok (fun _ => hurl) he
    · by_cases h2 : l = .lex_email_address
      · subst h2
        simp only [extOrderOK, Bool.and_eq_true] at hok
        rw [runLexer_extOfSrc_email cls src pos (hu hok.1), runLexerFull]
        cases hem : lexEmailAddress (src.drop pos) with
        | some f => rfl
        | none => exact ih u true hok.2 hu (fun _ => hem)
      · by_cases h3 : l = .lex_hostname_token
        · subst h3
          simp only [extOrderOK, Bool.and_eq_true] at hok
          rw [runLexer_extOfSrc_hostname cls src pos (hu hok.1.1) (he hok.1.2), runLexerFull]
          cases lexHostnameToken (src.drop pos) with
          | some f => rfl
          | none => exact ih u e hok.2 hu he
        · rw [runLexer_ext_irrelevant cls _ pos _ l h1 h2 h3]
          have hok' : extOrderOK u e ls = true := by
            cases l <;> first | exact hok | exact absurd rfl h1 | exact absurd rfl h2 | exact absurd rfl h3
          cases runLexerFull cls (src.drop pos) l with
          | some f => rfl
          | none => exact ih u e hok' hu he

/-- with the computed table, `lexToken` at `pos` is `lex_token(&source[pos..])` with the three
lexers called directly, in the real order -/
theorem lexToken_extOfSrc (cls : Cls) (src : List Char) (pos : Nat) :
    lexToken cls (extOfSrc src) pos (src.drop pos) = lexTokenFull cls (src.drop pos) :=
  firstFound_extOfSrc cls src pos _ false false lexerOrder_extOrderOK (by simp) (by simp)

theorem parseLoop_extOfSrc (cls : Cls) (src : List Char) (fuel cursor : Nat) (rest : List Char)
    (hr : rest = src.drop cursor) :
    parseLoop cls (extOfSrc src) fuel cursor rest = parseLoopDirect cls fuel cursor rest := by
  induction fuel generalizing cursor rest with
  | zero => rfl
  | succ fuel ih =>
    unfold parseLoop parseLoopDirect
    cases rest with
    | nil => rfl
    | cons c cs =>
      simp only
      have hl : lexToken cls (extOfSrc src) cursor (c :: cs) = lexTokenFull cls (c :: cs) := by
        rw [hr]; exact lexToken_extOfSrc cls src cursor
      rw [hl]
      cases lexTokenFull cls (c :: cs) with
      | none => rfl
      | some f =>
        obtain ⟨k, n⟩ := f
        simp only
        rw [ih (cursor + n) ((c :: cs).drop n) (by rw [hr, List.drop_drop])]
        cases parseLoopDirect cls fuel (cursor + n) ((c :: cs).drop n) <;> rfl

/-- the computed table is only a device: `parsePlainFull` is the parse loop over `lex_token`
with all fourteen lexers called directly -/
theorem parsePlainFull_eq_direct (cls : Cls) (src : List Char) :
    parsePlainFull cls src = parsePlainDirect cls src := by
  exact parseLoop_extOfSrc cls src (src.length + 1) 0 src (by simp)

end Harper
