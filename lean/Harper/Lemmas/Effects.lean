import Harper.Model.Effects
/-! # Lemmas for C10: `file_dict_name` is one path component; what a trace can contain; what `mkdirs`
can create -/
namespace Harper.Effects

theorem splitSlash_ne_nil (l : List Char) : splitSlash l ≠ [] := by
  cases l with
  | nil => simp [splitSlash]
  | cons c cs =>
    simp only [splitSlash]
    split
    · simp
    · split <;> simp

theorem splitSlash_no_slash (l : List Char) : ∀ g ∈ splitSlash l, '/' ∉ g := by
  induction l with
  | nil => simp [splitSlash]
  | cons c cs ih =>
    simp only [splitSlash]
    split
    · rename_i h; exact absurd h (splitSlash_ne_nil cs)
    · rename_i g gs h
      rw [h] at ih
      split
      · intro x hx
        simp only [List.mem_cons] at hx
        rcases hx with rfl | rfl | hx
        · simp
        · exact ih _ (by simp)
        · exact ih _ (by simp [hx])
      · rename_i hc
        intro x hx
        simp only [List.mem_cons] at hx
        rcases hx with rfl | hx
        · have := ih g (by simp)
          simp only [List.mem_cons, not_or]
          exact ⟨fun h => hc h.symm, this⟩
        · exact ih _ (by simp [hx])

theorem components_no_slash (p : List Char) : ∀ g ∈ components p, '/' ∉ g := by
  intro g hg
  exact splitSlash_no_slash p g (List.mem_filter.mp hg).1

theorem components_cons_slash (rest : List Char) : components ('/' :: rest) = components rest := by
  unfold components
  rw [splitSlash]
  cases h : splitSlash rest with
  | nil => exact absurd h (splitSlash_ne_nil rest)
  | cons g gs => rfl

theorem percentJoin_no_slash (cs : List (List Char)) (h : ∀ g ∈ cs, '/' ∉ g) :
    '/' ∉ cs.flatMap (fun c => c ++ ['%']) := by
  intro hm
  simp only [List.mem_flatMap, List.mem_append, List.mem_singleton] at hm
  obtain ⟨g, hg, h1 | h1⟩ := hm
  · exact h g hg h1
  · exact absurd h1 (by decide)

theorem percentJoin_last (cs : List (List Char)) :
    cs.flatMap (fun c => c ++ ['%']) = [] ∨ (cs.flatMap (fun c => c ++ ['%'])).getLast? = some '%' := by
  induction cs with
  | nil => left; rfl
  | cons c cs ih =>
    right
    simp only [List.flatMap_cons]
    rcases ih with h | h
    · rw [h]; simp
    · rw [List.getLast?_append]
      simp [h]

/-- **`file_dict_name` yields one path component.** Whatever the document path — `..` segments,
percent-decoded slashes, any Unicode, any length — the rewritten name contains no `/`, is neither
`.` nor `..`, and is empty or ends in `%`. -/
theorem fileDictName_single_component (p : List Char) :
    '/' ∉ fileDictName p ∧ fileDictName p ≠ ['.', '.'] ∧ fileDictName p ≠ ['.'] ∧
    (fileDictName p = [] ∨ (fileDictName p).getLast? = some '%') := by
  have h1 := percentJoin_no_slash (components p) (components_no_slash p)
  have h2 := percentJoin_last (components p)
  refine ⟨h1, ?_, ?_, h2⟩
  · intro h; unfold fileDictName at h; rw [h] at h2; simp at h2
  · intro h; unfold fileDictName at h; rw [h] at h2; simp at h2

theorem splitSlash_of_no_slash (l : List Char) (h : '/' ∉ l) : splitSlash l = [l] := by
  induction l with
  | nil => rfl
  | cons c cs ih =>
    simp only [List.mem_cons, not_or] at h
    simp only [splitSlash, ih h.2]
    have : c ≠ '/' := fun e => h.1 e.symm
    simp [this]

theorem fileDictPath_eq (P : Paths) (doc : List Char) :
    fileDictPath P doc
      = if fileDictName doc = [] then P.fileDir else P.fileDir ++ [fileDictName doc] := by
  obtain ⟨h1, _, h3, _⟩ := fileDictName_single_component doc
  have hhead : (fileDictName doc).head? ≠ some '/' := fun h => h1 (List.mem_of_mem_head? h)
  unfold fileDictPath joinName components
  rw [if_neg hhead, splitSlash_of_no_slash _ h1]
  by_cases he : fileDictName doc = []
  · rw [if_pos he, he]; exact List.append_nil _
  · rw [if_neg he, List.filter_cons_of_pos (by simp [he, h3])]; rfl

/-- so `file_dict_path.join(name)` is the directory itself (empty name) or a direct child of it -/
theorem fileDictPath_inside (P : Paths) (doc : List Char) :
    fileDictPath P doc = P.fileDir ∨
    ∃ n, n ≠ [] ∧ '/' ∉ n ∧ n ≠ ['.', '.'] ∧ n ≠ ['.'] ∧ fileDictPath P doc = P.fileDir ++ [n] := by
  obtain ⟨h1, h2, h3, _⟩ := fileDictName_single_component doc
  rw [fileDictPath_eq]
  by_cases he : fileDictName doc = []
  · exact Or.inl (if_pos he)
  · exact Or.inr ⟨_, he, h1, h2, h3, if_neg he⟩

/-- the directory `create_dir_all` is called with for a per-document dictionary lies in (or is) the
dictionary directory -/
theorem parent_fileDictPath_prefix (P : Paths) (doc : List Char) :
    parent (fileDictPath P doc) <+: P.fileDir := by
  rw [fileDictPath_eq]
  by_cases he : fileDictName doc = []
  · rw [if_pos he]; exact List.dropLast_prefix _
  · rw [if_neg he, parent, List.dropLast_concat]; exact List.prefix_refl _

/-- the name is empty exactly for the root path (no normal component: `/`, `//`, `/./.`) -/
theorem fileDictName_empty_iff_root (p : List Char) : fileDictName p = [] ↔ components p = [] := by
  unfold fileDictName
  cases components p with
  | nil => simp
  | cons c cs => simp

/-- the files a handler saves: the user dictionary, the statistics file, a per-document dictionary -/
def Saved (P : Paths) (q : Path) : Prop := q = P.userDict ∨ q = P.stats ∨ ∃ doc, q = fileDictPath P doc

/-- what saving the file `q` does: `create_dir_all` of its directory (unless `q` is the root), then
the file is created or opened for appending -/
def SaveOf (q : Path) (x : Eff) : Prop :=
  (x = .mkdirs (parent q) ∧ q ≠ []) ∨ x = .createFile q ∨ x = .appendFile q

theorem mem_mkParent {q : Path} {x : Eff} (h : x ∈ mkParent q) : x = .mkdirs (parent q) ∧ q ≠ [] := by
  cases q with
  | nil => cases h
  | cons c cs => exact ⟨List.mem_singleton.mp h, List.cons_ne_nil c cs⟩

theorem mem_saveDictEff {q : Path} {x : Eff} (h : x ∈ saveDictEff q) : SaveOf q x := by
  rcases List.mem_append.mp h with h | h
  · exact Or.inl (mem_mkParent h)
  · exact Or.inr (Or.inl (List.mem_singleton.mp h))

theorem mem_saveStatsEff {q : Path} {x : Eff} (h : x ∈ saveStatsEff q) : SaveOf q x := by
  rcases List.mem_append.mp h with h | h
  · exact Or.inl (mem_mkParent h)
  · exact Or.inr (Or.inr (List.mem_singleton.mp h))

/-- the root path: no `mkdir`, only the (failing) attempt to create `/` as a file -/
theorem saveDictEff_root : saveDictEff [] = [.createFile []] := rfl

theorem mem_nonRootPrefixes {p q : Path} : q ∈ nonRootPrefixes p ↔ q ≠ [] ∧ q <+: p := by
  induction p generalizing q with
  | nil => simp [nonRootPrefixes]
  | cons c cs ih =>
    simp only [nonRootPrefixes, List.mem_cons, List.mem_map]
    constructor
    · rintro (rfl | ⟨r, hr, rfl⟩)
      · exact ⟨by simp, by simp [List.prefix_cons_iff]⟩
      · exact ⟨by simp, by simpa [List.cons_prefix_cons] using (ih.mp hr).2⟩
    · rintro ⟨hne, hpre⟩
      cases q with
      | nil => exact absurd rfl hne
      | cons a as =>
        obtain ⟨rfl, has⟩ := List.cons_prefix_cons.mp hpre
        by_cases h0 : as = []
        · left; rw [h0]
        · right; exact ⟨as, ih.mpr ⟨h0, has⟩, rfl⟩

/-- `p` itself is among what `mkdirs p` can create (unless `p` is the root, which exists) -/
theorem self_mem_nonRootPrefixes {p : Path} (h : p ≠ []) : p ∈ nonRootPrefixes p :=
  mem_nonRootPrefixes.mpr ⟨h, List.prefix_refl p⟩

/-- what the driver reports as created directories is, up to `..` resolution, among what the
`mkdirs` effects may create, and was not there before -/
theorem mem_dirsCreated {existing : List Path} {es : List Eff} {q : Path}
    (h : q ∈ dirsCreated existing es) :
    (∃ d, Eff.mkdirs d ∈ es ∧ ∃ r ∈ (Eff.mkdirs d).created, q = normDots [] r) ∧
    q ≠ [] ∧ ∀ x ∈ existing, ¬ q <+: x := by
  unfold dirsCreated at h
  simp only [List.mem_filter, List.mem_map, List.mem_flatMap, Bool.and_eq_true, Bool.not_eq_true',
    List.any_eq_false, List.isEmpty_eq_false_iff] at h
  obtain ⟨⟨r, ⟨e, ⟨he, hk⟩, hr⟩, rfl⟩, hne, hex⟩ := h
  refine ⟨?_, hne, ?_⟩
  · cases e <;> simp at hk
    exact ⟨_, he, r, hr, rfl⟩
  · intro x hx hpre
    have := hex x hx
    rw [List.isPrefixOf_iff_prefix.mpr hpre] at this
    exact absurd this (by simp)


theorem mem_updateEff {P : Paths} {doc : List Char} {t : Bool} {x : Eff}
    (h : x ∈ updateEff P doc t) : ∃ p, x = .readFile p := by
  have hl : ∀ y ∈ loadDicts P doc, ∃ p, y = .readFile p := by
    intro y hy
    rcases List.mem_cons.mp hy with rfl | hy
    · exact ⟨_, rfl⟩
    · exact ⟨_, List.mem_singleton.mp hy⟩
  rcases List.mem_append.mp h with h | h
  · exact hl x h
  · cases t with
    | false => cases h
    | true => exact hl x h

theorem mem_rereadEff {P : Paths} {doc : List Char} {e t : Bool} {x : Eff}
    (h : x ∈ rereadEff P doc e t) : ∃ p, x = .readFile p := by
  rcases List.mem_cons.mp h with h | h
  · exact ⟨_, h⟩
  · cases e with
    | false => cases h
    | true => exact mem_updateEff h

theorem mem_trace {P : Paths} {en : Entry} {x : Eff} (h : x ∈ trace P en) :
    (∃ p, x = .readFile p) ∨ (∃ q, Saved P q ∧ SaveOf q x) ∨
    ((x = .listen [127, 0, 0, 1] 4000 ∨ x = .accept) ∧ en.isTcp = true) ∨
    (∃ url, x = .spawnOpener url) := by
  cases en with
  | startTcp =>
    rcases List.mem_cons.mp h with h | h
    · exact Or.inr (Or.inr (Or.inl ⟨Or.inl h, rfl⟩))
    · exact Or.inr (Or.inr (Or.inl ⟨Or.inr (List.mem_singleton.mp h), rfl⟩))
  | update doc twice => exact Or.inl (mem_updateEff h)
  | save doc e t => exact Or.inl (mem_rereadEff h)
  | configuration docs =>
    obtain ⟨d, _, hd⟩ := List.mem_flatMap.mp h
    exact Or.inl (mem_rereadEff hd)
  | addUser doc e t =>
    rcases List.mem_append.mp h with h | h
    · rcases List.mem_append.mp h with h | h
      · exact Or.inl ⟨_, List.mem_singleton.mp h⟩
      · exact Or.inr (Or.inl ⟨_, Or.inl rfl, mem_saveDictEff h⟩)
    · exact Or.inl (mem_rereadEff h)
  | addFile doc e t =>
    rcases List.mem_append.mp h with h | h
    · rcases List.mem_append.mp h with h | h
      · exact Or.inl ⟨_, List.mem_singleton.mp h⟩
      · exact Or.inr (Or.inl ⟨_, Or.inr (Or.inr ⟨doc, rfl⟩), mem_saveDictEff h⟩)
    · exact Or.inl (mem_rereadEff h)
  | openUrl url => exact Or.inr (Or.inr (Or.inr ⟨url, List.mem_singleton.mp h⟩))
  | shutdown => exact Or.inr (Or.inl ⟨_, Or.inr (Or.inl rfl), mem_saveStatsEff h⟩)
  | _ => cases h

theorem mem_traceAll {P : Paths} {hist : List Entry} {x : Eff} (h : x ∈ traceAll P hist) :
    (∃ p, x = .readFile p) ∨ (∃ q, Saved P q ∧ SaveOf q x) ∨
    ((x = .listen [127, 0, 0, 1] 4000 ∨ x = .accept) ∧ ∃ en ∈ hist, en.isTcp = true) ∨
    (∃ url, x = .spawnOpener url) := by
  obtain ⟨en, hen, hx⟩ := List.mem_flatMap.mp h
  rcases mem_trace hx with h | h | ⟨h, ht⟩ | h
  · exact Or.inl h
  · exact Or.inr (Or.inl h)
  · exact Or.inr (Or.inr (Or.inl ⟨h, en, hen, ht⟩))
  · exact Or.inr (Or.inr (Or.inr h))

end Harper.Effects
