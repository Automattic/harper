import Harper.Model.NumberSuffix
import Harper.Model.Pattern
-- for `DecidableEq (Except Panic α)` (`Pat.instDecEqResult`), needed by `decide` on model results
/-!
# Helper lemmas for C17 (ordinal suffixes)

Specification-side definitions (the English rule on written digits, the sixteen spellings) and the
lemmas that connect the regenerated tables to them. Every `decide` here is over a complete finite
table (the extracted arms / rows) or a bounded range of digits.
-/
namespace Harper
open Harper.Tables.NumberSuffix

/-! ### Specification side: the English rule, on the digits as written -/

/-- big-endian decimal value of a digit string (leading zeros allowed) -/
def ofDigits (ds : List Nat) : Nat := ds.foldl (fun a d => 10 * a + d) 0

/-- the English ordinal suffix, from the tens digit `t` and the last digit `o` -/
def ordinalOfLast (t o : Nat) : Suffix :=
  if t = 1 then .th
  else match o with
    | 1 => .st
    | 2 => .nd
    | 3 => .rd
    | _ => .th

/-- the English ordinal suffix of a written decimal number: tens digit 1 ⇒ `th`, otherwise by the
last digit; a single digit has no tens digit. Leading zeros are digits like any other. -/
def ordinalOfDigits (ds : List Nat) : Suffix :=
  match ds.reverse with
  | [] => .th
  | [o] => ordinalOfLast 0 o
  | o :: t :: _ => ordinalOfLast t o

/-- the letters of a suffix, written down independently of `to_chars` -/
def suffixLetters : Suffix → List Char
  | .th => ['t', 'h']
  | .st => ['s', 't']
  | .nd => ['n', 'd']
  | .rd => ['r', 'd']

/-- the four case variants of a two-letter word -/
def caseVariants (w : List Char) : List (List Char) :=
  match w with
  | [a, b] => [[a, b], [a.toUpper, b], [a, b.toUpper], [a.toUpper, b.toUpper]]
  | _ => []

/-- "one of st/nd/rd/th in any letter case": the sixteen spellings with the suffix they spell -/
def suffixSpellings : List (List Char × Suffix) :=
  [Suffix.th, .st, .nd, .rd].flatMap fun s => (caseVariants (suffixLetters s)).map fun w => (w, s)

/-- The span of a written ordinal: digits `ds` starting at character `p`, directly followed by two
letters. (`ruleOnWritten` takes the value, the letters and this span.) -/
def writtenSpan (p : Nat) (ds : List Nat) : Span := ⟨p, p + ds.length + 2⟩

/-! ### The last two digits -/

theorem ofDigits_append_two (pre : List Nat) (t o : Nat) :
    ofDigits (pre ++ [t, o]) = 100 * ofDigits pre + 10 * t + o := by
  simp only [ofDigits, List.foldl_append, List.foldl_cons, List.foldl_nil]
  omega

theorem ordinalOfDigits_append_two (pre : List Nat) (t o : Nat) :
    ordinalOfDigits (pre ++ [t, o]) = ordinalOfLast t o := by
  simp [ordinalOfDigits]

/-! ### The regenerated tables against the English rule -/

/-- the moduli the code uses are 100 and 10 -/
theorem mods_eq : teensMod = 100 ∧ lastDigitMod = 10 := by decide +kernel

/-- THE TABLE CHECK: for every tens digit and last digit, the extracted arms give the English
suffix. (100 closed instances; breaks when an arm of `correct_suffix_for` changes meaning.) -/
theorem arms_spec : ∀ t, t < 10 → ∀ o, o < 10 →
    (if teensLo ≤ 10 * t + o ∧ 10 * t + o ≤ teensHi then teensResult else lastDigitLookup o)
      = some (ordinalOfLast t o) := by
  decide +kernel

/-- the core step: the code's `% 100` / `% 10` arithmetic on `100·m + 10·t + o` -/
theorem correctSuffixFor_core (m t o : Nat) (ht : t < 10) (ho : o < 10) :
    correctSuffixFor (100 * m + 10 * t + o) = some (ordinalOfLast t o) := by
  have h100 : (100 * m + 10 * t + o) % teensMod = 10 * t + o := by
    rw [mods_eq.1]; omega
  have h10 : (100 * m + 10 * t + o) % lastDigitMod = o := by
    rw [mods_eq.2]; omega
  simp only [correctSuffixFor, h100, h10]
  exact arms_spec t ht o ho

/-- `to_chars` gives the letters of the suffix (in whatever letter case the code chooses) -/
theorem toChars_eq_letters (s : Suffix) : (toChars s).map Char.toLower = suffixLetters s := by
  cases s <;> decide +kernel

/-- `from_chars (to_chars s) = Some(s)` -/
theorem condense_toChars (s : Suffix) : condenseSuffix (toChars s) = .ok (some s) := by
  cases s <;> rfl

theorem toChars_length (s : Suffix) : (toChars s).length = 2 := by
  cases s <;> decide +kernel

theorem condense_spellings : ∀ p ∈ suffixSpellings, condenseSuffix p.1 = .ok (some p.2) := by
  decide +kernel

/-- every row of `from_chars` is one of the sixteen spellings -/
theorem rows_are_spellings :
    ∀ r ∈ fromCharsRows, ([r.1, r.2.1], r.2.2) ∈ suffixSpellings := by
  decide +kernel

/-- `from_chars` on exactly two characters: never panics, and is the row lookup -/
theorem fromChars_two (a b : Char) : fromChars [a, b] = .ok (fromCharsRow a b) := by
  simp [fromChars, show fromCharsMinLen = 2 by decide +kernel]

theorem fromCharsRow_mem {a b : Char} {s : Suffix} (h : fromCharsRow a b = some s) :
    (a, b, s) ∈ fromCharsRows := by
  obtain ⟨⟨r1, r2, r3⟩, hf, rfl⟩ := Option.map_eq_some_iff.mp h
  have hp := List.find?_some hf
  rw [Bool.and_eq_true, beq_iff_eq, beq_iff_eq] at hp
  exact hp.1 ▸ hp.2 ▸ List.mem_of_find?_eq_some hf

theorem condenseSuffix_cases (w : List Char) :
    (∃ a b, w = [a, b] ∧ condenseSuffix w = .ok (fromCharsRow a b)) ∨
      (w.length ≠ 2 ∧ condenseSuffix w = .ok none) := by
  by_cases h : w.length = 2
  · match w, h with
    | [a, b], h => exact .inl ⟨a, b, rfl, (if_neg (not_not_intro h)).trans (fromChars_two a b)⟩
  · exact .inr ⟨h, if_pos h⟩

/-- `condense_number_suffixes` never panics -/
theorem condenseSuffix_ok (w : List Char) : ∃ r, condenseSuffix w = .ok r := by
  rcases condenseSuffix_cases w with ⟨a, b, _, h⟩ | ⟨_, h⟩ <;> exact ⟨_, h⟩

/-! ### The rule on a token -/

theorem suffixSpan_of_le (sp : Span) (h : 2 ≤ sp.stop) :
    suffixSpan sp = some ⟨sp.stop - 2, sp.stop⟩ := by
  have : ¬ (2 > sp.stop) := by omega
  simp [suffixSpan, Span.withLen, Span.pulledBy, this]

/-- what `lintNumber` does once the token has a suffix, an integer value whose correct suffix is
`c`, and at least two characters before its end -/
theorem lintNumber_int (n : Nat) (s c : Suffix) (sp : Span) (h2 : 2 ≤ sp.stop)
    (hc : correctSuffixFor n = some c) :
    lintNumber ⟨.int n, some s, sp⟩ =
      if s ≠ c then some ⟨⟨sp.stop - 2, sp.stop⟩, toChars c⟩ else none := by
  simp only [lintNumber, suffixSpan_of_le sp h2, correctSuffixForVal, hc]

end Harper
