import Harper.Lemmas.LexAppend
/-! What lexer tokens are made of: the shape facts of `LexSpec` for the tokens of `PlainEnglish::parse` (`parsePlain_spec`);
no newline inside a non-`Newline` token (`runLexer_chars`: a scanner that a newline cuts and that stays in bounds never
passes one, `noNl_of_nlEnd`), and what that implies for a text that ends in a paragraph break or contains no quotation
mark. -/
namespace Harper

/-! # `NoNl`, `AllNl` -/

theorem NoNl.nil : NoNl [] := by intro x hx; cases hx

theorem noNl_append {a b : List Char} (ha : NoNl a) (hb : NoNl b) : NoNl (a ++ b) := by
  intro c hc
  rcases List.mem_append.mp hc with h | h
  · exact ha c h
  · exact hb c h

theorem noNl_take_add (l : List Char) (i j : Nat) (h1 : NoNl (l.take i)) (h2 : NoNl ((l.drop i).take j)) :
    NoNl (l.take (i + j)) := by
  rw [List.take_add]; exact noNl_append h1 h2

theorem noNl_of_all (p : Char → Bool) (hp : p '\n' = false) (l : List Char) (h : ∀ c ∈ l, p c = true) : NoNl l := by
  intro c hc e
  subst e
  have := h _ hc
  rw [hp] at this
  cases this

theorem noNl_take_succ (l : List Char) (i : Nat) (c : Char) (h1 : NoNl (l.take i)) (hc : l[i]? = some c)
    (hne : c ≠ '\n') : NoNl (l.take (i + 1)) := by
  rw [List.take_add_one, hc]
  exact noNl_append h1 (fun d hd => List.mem_singleton.mp hd ▸ hne)

/-- a scanner that treats a newline as the end of the text and stays inside the text never passes a newline: otherwise
it would return, on the part before that newline, more than that part's length (`len`: what a result consumes) -/
theorem noNl_of_nlEnd {β} (f : List Char → Option β) (len : β → Nat) (hcut : ∀ a D, f (a ++ '\n' :: D) = f a)
    (hle : ∀ s b, f s = some b → len b ≤ s.length) {s : List Char} {b : β} (h : f s = some b) :
    NoNl (s.take (len b)) := by
  intro c hc e
  subst e
  obtain ⟨a, t, hat⟩ := List.append_of_mem hc
  have hs : s = a ++ '\n' :: (t ++ s.drop (len b)) := by
    rw [← List.cons_append, ← List.append_assoc, ← hat, List.take_append_drop]
  have h2 := hle a b (by rw [← hcut a, ← hs, h])
  have h3 := congrArg List.length hat
  rw [List.length_take, List.length_append, List.length_cons] at h3
  omega

theorem parsePlain_spec {cls : Cls} {ext : Ext} {src : List Char} {toks : List Tok}
    (h : parsePlain cls ext src = .ok toks) {t : Tok} (ht : t ∈ toks) :
    LexSpec cls (src.drop t.span.start) (t.span.stop - t.span.start) t.kind :=
  have := parseLoop_tokens cls ext src _ 0 src toks rfl h t ht
  lexToken_spec this.2.2 this.1

/-! # No token other than a `Newline` token contains a newline -/

/-- no url / e-mail / hostname token of the text contains a newline -/
def ExtNoNl (ext : Ext) (P : List Char) : Prop :=
  ∀ pos k n, ext pos = some (k, n) → NoNl ((P.drop pos).take n)

theorem take_one_cons (c : Char) (r : List Char) : (c :: r).take 1 = [c] := rfl

theorem take_one_chars (s : List Char) : NoNl (s.take 1) ∨ AllNl (s.take 1) := by
  cases s with
  | nil => exact .inl NoNl.nil
  | cons c r =>
    by_cases h : c = '\n'
    · right; intro x hx; rw [List.mem_singleton.mp hx]; exact h
    · left; intro x hx; rw [List.mem_singleton.mp hx]; exact h

theorem runLexer_chars {cls : Cls} (hc : ClsOK cls) {ext : Ext} {pos : Nat} {src : List Char} {kd : Kind} {n : Nat}
    (hext : ∀ k n, ext pos = some (k, n) → NoNl (src.take n)) (l : LexerName)
    (h : runLexer cls ext pos src l = some (kd, n)) : NoNl (src.take n) ∨ AllNl (src.take n) := by
  have cut : ∀ f : List Char → Found, (∀ a D, f (a ++ '\n' :: D) = f a) →
      (∀ {s kd n}, f s = some (kd, n) → Lexed cls s kd n) → f src = some (kd, n) →
      NoNl (src.take n) ∨ AllNl (src.take n) :=
    fun f h1 h2 h => .inl (noNl_of_nlEnd f (·.2) h1 (fun _ _ h => (h2 h).1.2) h)
  cases l with
  | lex_regexish => exact cut _ (lexRegexish_nlEnd cls hc.nl_alnum) lexRegexish_lexed h
  | lex_punctuation => exact cut _ lexPunctuation_nlEnd lexPunctuation_lexed h
  | lex_tabs => exact cut _ lexTabs_nlEnd lexTabs_lexed h
  | lex_spaces => exact cut _ lexSpaces_nlEnd lexSpaces_lexed h
  | lex_newlines =>
    obtain ⟨rfl, _, _, hall⟩ := count_some (mk := .newline) h
    exact .inr fun c hc => by simpa using hall c hc
  | lex_plural_digit => exact cut _ lexPluralDigit_nlEnd lexPluralDigit_lexed h
  | lex_hex_number => exact cut _ (lexHexNumber_nlEnd cls hc.nl_alnum) lexHexNumber_lexed h
  | lex_long_decade => exact cut _ (lexLongDecade_nlEnd cls hc.nl_alnum) lexLongDecade_lexed h
  | lex_number => exact cut _ (lexNumber_nlEnd cls hc) lexNumber_lexed h
  | lex_word => exact cut _ (lexWord_nlEnd cls hc.nl_lingual) lexWord_lexed h
  | lex_catch => cases h; exact take_one_chars src
  | lex_url => exact .inl (hext _ _ (runLexer_ext (.inl rfl) h).1)
  | lex_email_address => exact .inl (hext _ _ (runLexer_ext (.inr (.inl rfl)) h).1)
  | lex_hostname_token => exact .inl (hext _ _ (runLexer_ext (.inr (.inr rfl)) h).1)

theorem lexToken_chars (cls : Cls) (hc : ClsOK cls) (ext : Ext) (pos : Nat) (src : List Char)
    (hext : ∀ k n, ext pos = some (k, n) → NoNl (src.take n)) (kd : Kind) (n : Nat)
    (h : lexToken cls ext pos src = some (kd, n)) : NoNl (src.take n) ∨ AllNl (src.take n) := by
  obtain ⟨l, hl⟩ := lexToken_from_lexer h
  exact runLexer_chars hc hext l hl

/-- a run of newlines is one `Newline` token: the four lexers tried before `lex_newlines` fail on a newline -/
theorem lexToken_newline_run (cls : Cls) (ext : Ext) (pos k : Nat) (more : List Char) (hk : 1 ≤ k)
    (h : more.head? ≠ some '\n') :
    lexToken cls ext pos (List.replicate k '\n' ++ more) = some (.newline k, k) := by
  obtain ⟨j, rfl⟩ : ∃ j, k = j + 1 := ⟨k - 1, by omega⟩
  have h5 : lexNewlines (List.replicate (j + 1) '\n' ++ more) = some (.newline (j + 1), j + 1) := by
    rw [lexNewlines_nl _ more h, lexNewlines, countWhile_replicate _ _ (by decide)]; rfl
  rw [List.replicate_succ, List.cons_append] at h5 ⊢
  have h2 : lexPunctuation ('\n' :: (List.replicate j '\n' ++ more)) = none := lexPunctuation_nlEnd [] _
  simp only [lexToken, Tables.lexerOrder, firstFound, runLexer, h2, h5]
  rfl

/-- what is left of the part before the final newline run: empty, or not ending in a newline -/
def NoNlEnd (x : List Char) : Prop := x.getLast? ≠ some '\n'

instance (x : List Char) : Decidable (NoNlEnd x) := inferInstanceAs (Decidable (_ ≠ _))

theorem NoNlEnd.drop {x : List Char} (h : NoNlEnd x) (n : Nat) : NoNlEnd (x.drop n) := by
  unfold NoNlEnd at *
  rw [List.getLast?_drop]
  split
  · exact fun e => nomatch e
  · exact h

/-- a token starting before the final newline run does not reach into it -/
theorem token_stops_before_run (cls : Cls) (hc : ClsOK cls) (ext : Ext) (pos : Nat) (x : List Char) (k : Nat)
    (hx : x ≠ []) (hend : NoNlEnd x) (hk : 1 ≤ k)
    (hext : ∀ kd n, ext pos = some (kd, n) → NoNl ((x ++ List.replicate k '\n').take n))
    (kd : Kind) (n : Nat) (h : lexToken cls ext pos (x ++ List.replicate k '\n') = some (kd, n)) :
    n ≤ x.length := by
  refine Classical.byContradiction fun hgt => ?_
  -- the token would contain the last character of `x` (not a newline) and the first newline of the run
  obtain ⟨m, rfl⟩ : ∃ m, n = x.length + (m + 1) := ⟨n - x.length - 1, by omega⟩
  obtain ⟨j, rfl⟩ : ∃ j, k = j + 1 := ⟨k - 1, by omega⟩
  have ht : (x ++ List.replicate (j + 1) '\n').take (x.length + (m + 1)) = x ++ '\n' :: (List.replicate j '\n').take m := by
    rw [List.take_length_add_append, List.replicate_succ, List.take_succ_cons]
  rcases lexToken_chars cls hc ext pos _ hext kd _ h with hno | hall
  · rw [ht] at hno
    exact hno '\n' (List.mem_append_right _ List.mem_cons_self) rfl
  · rw [ht] at hall
    exact hend (by rw [List.getLast?_eq_some_getLast hx, hall _ (List.mem_append_left _ (List.getLast_mem hx))])

/-- the lexer's tokens of a text that ends in a maximal run of `k ≥ 1` newlines end in `Newline(k)` -/
theorem parseLoop_ends_break (cls : Cls) (hc : ClsOK cls) (ext : Ext) (P0 : List Char) (k : Nat) (hk : 1 ≤ k)
    (hnl : ExtNoNl ext (P0 ++ List.replicate k '\n')) (hok : ExtOK ext (P0.length + k)) :
    ∀ (fuel cursor : Nat) (x : List Char), NoNlEnd x → cursor + x.length = P0.length →
      (P0 ++ List.replicate k '\n').drop cursor = x ++ List.replicate k '\n' →
      ∀ toks, parseLoop cls ext fuel cursor (x ++ List.replicate k '\n') = .ok toks →
        ∃ X, toks = X ++ [⟨⟨P0.length, P0.length + k⟩, .newline k⟩] := by
  intro fuel
  induction fuel with
  | zero => intro cursor x _ _ _ toks hp; cases hp
  | succ fuel ih =>
    intro cursor x hend hcur hsrc toks hp
    by_cases hx : x = []
    · -- only the run is left: one `Newline` token
      subst hx
      obtain ⟨j, rfl⟩ : ∃ j, k = j + 1 := ⟨k - 1, (Nat.sub_add_cancel hk).symm⟩
      have hl := lexToken_newline_run cls ext cursor (j + 1) [] hk (by simp)
      rw [List.append_nil] at hl
      rw [List.nil_append, parseLoop_step cls ext fuel cursor (by simp) hl,
        List.drop_eq_nil_of_le (by rw [List.length_replicate]; exact Nat.le_refl _)] at hp
      cases fuel with
      | zero => cases hp
      | succ fuel =>
        simp only [parseLoop, Except.map] at hp
        cases hp
        exact ⟨[], by rw [← hcur]; rfl⟩
    · have hlen : cursor + (x ++ List.replicate k '\n').length = P0.length + k := by
        rw [List.length_append, List.length_replicate, ← Nat.add_assoc, hcur]
      have hne := List.append_ne_nil_of_left_ne_nil hx (List.replicate k '\n')
      obtain ⟨kd, n, hl, hn1, hn2⟩ := lexToken_progress cls ext cursor _ (P0.length + k) hok hlen hne
      have hnx : n ≤ x.length :=
        token_stops_before_run cls hc ext cursor x k hx hend hk
          (fun kd' n' he => by have := hnl cursor kd' n' he; rwa [hsrc] at this) kd n hl
      rw [parseLoop_step cls ext fuel cursor hne hl, List.drop_append_of_le_length hnx] at hp
      cases hrec : parseLoop cls ext fuel (cursor + n) (x.drop n ++ List.replicate k '\n') with
      | error e => rw [hrec] at hp; cases hp
      | ok ts =>
        rw [hrec] at hp
        cases hp
        obtain ⟨X, hX⟩ := ih (cursor + n) (x.drop n) (hend.drop n)
          (by rw [List.length_drop, Nat.add_assoc, Nat.add_sub_cancel' hnx, hcur])
          (by rw [← List.drop_drop, hsrc, List.drop_append_of_le_length hnx]) ts hrec
        exact ⟨_ :: X, by rw [hX]; rfl⟩

theorem parsePlain_ends_break (cls : Cls) (hc : ClsOK cls) (ext : Ext) (P0 : List Char) (k : Nat) (hk : 1 ≤ k)
    (hend : NoNlEnd P0) (hnl : ExtNoNl ext (P0 ++ List.replicate k '\n'))
    (hok : ExtOK ext (P0 ++ List.replicate k '\n').length) (toks : List Tok)
    (h : parsePlain cls ext (P0 ++ List.replicate k '\n') = .ok toks) :
    ∃ X, toks = X ++ [⟨⟨P0.length, P0.length + k⟩, .newline k⟩] := by
  have hl : (P0 ++ List.replicate k '\n').length = P0.length + k := by simp
  rw [hl] at hok
  exact parseLoop_ends_break cls hc ext P0 k hk hnl hok _ 0 P0 hend (by omega) (by simp) toks h

/-- the text contains none of the quotation-mark characters of `lex_quote` -/
def NoQuoteChars (P : List Char) : Prop := ∀ c ∈ P, Tables.quoteChars.contains c.toNat = false

instance (P : List Char) : Decidable (NoQuoteChars P) := inferInstanceAs (Decidable (∀ c ∈ P, _))

/-- a text without quotation-mark characters has no quote token -/
theorem parsePlain_noQuotes (cls : Cls) (ext : Ext) (P : List Char) (hq : NoQuoteChars P) (toks : List Tok)
    (h : parsePlain cls ext P = .ok toks) : ∀ t ∈ toks, t.kind.isQuote = false := by
  intro t ht
  have hs := parsePlain_spec h ht
  cases hk : t.kind with
  | quote tw =>
    rw [hk] at hs
    obtain ⟨_, _, c, r, e, hc⟩ := hs
    have hm : c ∈ P := List.mem_of_mem_drop (e ▸ List.mem_cons_self)
    rw [hq c hm] at hc; cases hc
  | _ => rfl

end Harper
