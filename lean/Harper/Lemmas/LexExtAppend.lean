import Harper.Lemmas.LexExt
import Harper.Lemmas.LexShape
/-! The modelled url / e-mail / hostname lexers (`Model/LexExt.lean`) at a newline. As for the lexers of
`Lemmas/LexAppend.lean`, each scanner treats a newline as the end of the text, `f (a ++ '\n' :: D) = f a`
(`hostnameLoop_nlEnd` … `lexUrl_nlEnd`, `extOfSrc_nlEnd`) — for `lex_email_address` and `lex_url` provided `D` contains no
`@`, which they search for in the whole rest of the text. With the bounds of `Lemmas/LexExt.lean` this shows that a
scanner never passes a newline (`noNl_of_nlEnd`); `C12.extOfSrc_noNl`: no token of the three lexers contains one, in a
text without any quotation-mark character of `lex_quote`. -/
namespace Harper

/-! ### `lex_hostname` -/

theorem hostnameLoop_nlEnd (a D : List Char) (passed : Nat) :
    hostnameLoop passed (a ++ '\n' :: D) = hostnameLoop passed a := by
  induction a generalizing passed with
  | nil => rfl
  | cons c a ih =>
    simp only [List.cons_append, hostnameLoop, ih]

theorem lexHostname_nlEnd (a D : List Char) : lexHostname (a ++ '\n' :: D) = lexHostname a := by
  cases a with
  | nil => rfl
  | cons c a => simp only [lexHostname, List.cons_append]; rw [← List.cons_append, hostnameLoop_nlEnd]

theorem lexHostnameToken_nlEnd (a D : List Char) : lexHostnameToken (a ++ '\n' :: D) = lexHostnameToken a := by
  unfold lexHostnameToken
  rw [lexHostname_nlEnd a D]
  cases h : lexHostname a with
  | none => rfl
  | some len =>
    have hle := (lexHostname_bound a len h).2
    simp only
    by_cases h1 : len ≤ 1
    · rw [if_pos h1, if_pos h1]
    · have f1 : ¬ (a ++ '\n' :: D).length < len - 1 := by rw [List.length_append]; omega
      have f2 : ¬ a.length < len - 1 := by omega
      rw [if_neg h1, if_neg h1, if_neg f1, if_neg f2, List.take_append_of_le_length (by omega),
        List.getElem?_append_left (by omega)]

/-! ### `lex_email_address` -/

theorem at_not_in_nl_cons (D : List Char) (hD : ∀ c ∈ D, c ≠ '@') : ∀ c ∈ '\n' :: D, (c == '@') = false := by
  intro c hc
  simp only [List.mem_cons] at hc
  rcases hc with rfl | hc
  · decide
  · simpa using hD c hc

theorem lexEmailAddress_nlEnd (a D : List Char) (hD : ∀ c ∈ D, c ≠ '@') :
    lexEmailAddress (a ++ '\n' :: D) = lexEmailAddress a := by
  unfold lexEmailAddress
  rw [lastPosition_append_none _ a ('\n' :: D) (at_not_in_nl_cons D hD)]
  cases h : lastPosition (fun x => x == '@') a with
  | none => rfl
  | some atLoc =>
    have hlt := lastPosition_lt _ a atLoc h
    simp only
    rw [List.take_append_of_le_length (by omega), List.drop_append_of_le_length (by omega), lexHostname_nlEnd _ D]

/-! ### `lex_url` -/

theorem nl_not_xchar : (isReserved '\n' || isUnreserved '\n') = false := by decide
theorem nl_not_hex : isAsciiHex '\n' = false := by decide

theorem xchar_cons (c : Char) (cs : List Char) : lexXcharString (c :: cs) =
    if isReserved c || isUnreserved c then lexXcharString cs + 1
    else match cs with
      | h1 :: h2 :: r => if c == '%' && isAsciiHex h1 && isAsciiHex h2 then lexXcharString r + 3 else 0
      | _ => 0 := by
  cases cs with
  | nil => rfl
  | cons h1 t =>
    cases t with
    | nil => rfl
    | cons h2 r => rfl

theorem xchar_nl (t : List Char) : lexXcharString ('\n' :: t) = 0 := by
  rw [xchar_cons, nl_not_xchar]
  have : ('\n' == '%') = false := by decide
  simp only [this, Bool.false_and, Bool.false_eq_true, if_false]
  split <;> rfl


theorem lexXcharString_nlEnd (b D : List Char) : lexXcharString (b ++ '\n' :: D) = lexXcharString b := by
  fun_induction lexXcharString b with
  | case1 => exact xchar_nl D
  | case2 c cs hx ih => rw [List.cons_append, xchar_cons, if_pos hx, ih]
  | case3 c hx h1 h2 r hc ih =>
    rw [List.cons_append, xchar_cons, if_neg hx]
    simp only [List.cons_append, if_pos hc, ih]
  | case4 c hx h1 h2 r hc =>
    rw [List.cons_append, xchar_cons, if_neg hx]
    simp only [List.cons_append, if_neg hc]
  | case5 c cs hx hcs =>
    rw [List.cons_append, xchar_cons, if_neg hx]
    rcases cs with _ | ⟨h1, _ | ⟨h2, r⟩⟩
    · cases D <;> simp [nl_not_hex]
    · simp [nl_not_hex]
    · exact absurd rfl (hcs h1 h2 r)

theorem pathLoop_nlEnd (fuel : Nat) (b D : List Char) :
    pathLoop fuel (b ++ '\n' :: D) = pathLoop fuel b := by
  induction fuel generalizing b with
  | zero => rfl
  | succ fuel ih =>
    cases b with
    | nil => rfl
    | cons c b =>
      simp only [List.cons_append, pathLoop, lexXcharString_nlEnd b D,
        List.drop_append_of_le_length (lexXcharString_le b), ih]

theorem lexHostport_nlEnd (b D : List Char) : lexHostport (b ++ '\n' :: D) = lexHostport b := by
  unfold lexHostport
  rw [lexHostname_nlEnd b D]
  cases h : lexHostname b with
  | none => rfl
  | some he =>
    have hle := (lexHostname_bound b he h).2
    simp only
    by_cases hlt : he < b.length
    · rw [List.getElem?_append_left hlt]
      cases hp : position (fun c => !isAsciiDigit c) b with
      | some i => rw [position_append_some _ b _ i hp]; rfl
      | none =>
        rw [position_append_none _ b _ hp, show position (fun c => !isAsciiDigit c) ('\n' :: D) = some 0 from rfl]
        simp only [Option.map_some, Option.getD_some, Option.getD_none, Nat.zero_add]
    · obtain rfl : he = b.length := by omega
      simp

theorem loginHostportStart_nlEnd (r D : List Char) (hD : ∀ c ∈ D, c ≠ '@') :
    loginHostportStart (r ++ '\n' :: D) = loginHostportStart r := by
  unfold loginHostportStart
  cases h : position (· == '@') r with
  | some i =>
    rw [position_append_some _ r _ i h]
    simp only
    rw [List.take_append_of_le_length (Nat.le_of_lt (position_lt _ r i h))]
  | none =>
    rw [position_append_none _ r _ h, (position_none_iff _ ('\n' :: D)).mpr (at_not_in_nl_cons D hD)]
    rfl

theorem lexLogin_nlEnd (r D : List Char) (hD : ∀ c ∈ D, c ≠ '@') : lexLogin (r ++ '\n' :: D) = lexLogin r := by
  unfold lexLogin
  rw [loginHostportStart_nlEnd r D hD]
  cases h : loginHostportStart r with
  | none => rfl
  | some hs =>
    simp only
    rw [List.drop_append_of_le_length (loginHostportStart_le r hs h), lexHostport_nlEnd]

theorem ipSchemepart_slash (rest : List Char) : lexIpSchemepart ('/' :: '/' :: rest) =
    some ((lexLogin rest).getD 0 + pathLoop (rest.length + 1) (rest.drop ((lexLogin rest).getD 0)) + 2) := rfl

theorem ipSchemepart_none1 (c : Char) (t : List Char) (h : c ≠ '/') : lexIpSchemepart (c :: t) = none := by
  unfold lexIpSchemepart
  split
  · rename_i heq; cases heq; exact absurd rfl h
  · rfl

theorem ipSchemepart_none2 (c : Char) (t : List Char) (h : t.head? ≠ some '/') : lexIpSchemepart (c :: t) = none := by
  unfold lexIpSchemepart
  split
  · rename_i heq; cases heq; exact absurd rfl h
  · rfl

theorem lexIpSchemepart_nlEnd (a D : List Char) (hD : ∀ c ∈ D, c ≠ '@') :
    lexIpSchemepart (a ++ '\n' :: D) = lexIpSchemepart a := by
  rcases a with _ | ⟨c1, _ | ⟨c2, r⟩⟩
  · exact ipSchemepart_none1 _ _ (by decide)
  · exact (ipSchemepart_none2 c1 ('\n' :: D) (by simp)).trans (ipSchemepart_none2 c1 [] (by simp)).symm
  · by_cases h1 : c1 = '/'
    · by_cases h2 : c2 = '/'
      · subst h1 h2
        have hle := lexLogin_getD_le r
        simp only [List.cons_append]
        rw [ipSchemepart_slash, ipSchemepart_slash, lexLogin_nlEnd r D hD, List.drop_append_of_le_length hle,
          pathLoop_nlEnd, pathLoop_fuel ((r ++ '\n' :: D).length + 1) (r.length + 1)]
        · rw [List.length_append, List.length_drop]; omega
        · rw [List.length_drop]; omega
      · exact (ipSchemepart_none2 c1 _ (by simpa using h2)).trans (ipSchemepart_none2 c1 _ (by simpa using h2)).symm
    · exact (ipSchemepart_none1 c1 _ h1).trans (ipSchemepart_none1 c1 _ h1).symm

theorem nl_not_scheme : validSchemeChar '\n' = false := by decide

theorem lexUrl_nlEnd (a D : List Char) (hD : ∀ c ∈ D, c ≠ '@') : lexUrl (a ++ '\n' :: D) = lexUrl a := by
  unfold lexUrl
  cases h : position (· == ':') a with
  | some sep =>
    have hlt := position_lt _ a sep h
    rw [position_append_some _ a _ sep h]
    simp only
    rw [List.take_append_of_le_length (by omega), List.drop_append_of_le_length (by omega), lexIpSchemepart_nlEnd _ D hD]
  | none =>
    rw [position_append_none _ a _ h,
      show position (· == ':') ('\n' :: D) = (position (· == ':') D).map (· + 1) from rfl]
    cases position (· == ':') D with
    | none => rfl
    | some j =>
      -- a colon behind the newline: the scheme would contain the newline
      have : ((a ++ '\n' :: D).take (j + 1 + a.length)).all validSchemeChar = false := by
        rw [List.all_eq_false]
        refine ⟨'\n', ?_, by simp [nl_not_scheme]⟩
        rw [List.mem_take_iff_getElem]
        exact ⟨a.length, by simp; omega, by simp⟩
      simp only [Option.map_some, this]
      rfl

theorem extOfSrc_nlEnd (a D : List Char) (hD : ∀ c ∈ D, c ≠ '@') (pos : Nat) (hp : pos ≤ a.length) :
    extOfSrc (a ++ '\n' :: D) pos = extOfSrc a pos := by
  simp only [extOfSrc]
  rw [List.drop_append_of_le_length hp, lexUrl_nlEnd _ D hD, lexEmailAddress_nlEnd _ D hD, lexHostnameToken_nlEnd _ D]

/-! ### no token of the three modelled lexers contains a newline (in a text without `"`) -/

theorem lexHostname_noNl (s : List Char) (n : Nat) (h : lexHostname s = some n) : NoNl (s.take n) :=
  noNl_of_nlEnd lexHostname id lexHostname_nlEnd (fun s n h => (lexHostname_bound s n h).2) h

theorem lexHostport_noNl (x : List Char) (he : Nat) (h : lexHostport x = some he) : NoNl (x.take he) :=
  noNl_of_nlEnd lexHostport id lexHostport_nlEnd lexHostport_le h

theorem lexHostnameToken_noNl (s : List Char) (k : Kind) (n : Nat) (h : lexHostnameToken s = some (k, n)) :
    NoNl (s.take n) :=
  noNl_of_nlEnd lexHostnameToken (·.2) lexHostnameToken_nlEnd (fun s b h => (lexHostnameToken_ok s b.1 b.2 h).2) h

theorem pathLoop_noNl (fuel : Nat) (b : List Char) : NoNl (b.take (pathLoop fuel b)) :=
  noNl_of_nlEnd (fun s => some (pathLoop fuel s)) id (fun a D => congrArg some (pathLoop_nlEnd fuel a D))
    (fun s _ h => Option.some.inj h ▸ pathLoop_le fuel s) rfl

theorem nl_not_unquoted : validUnquotedChar '\n' = false := by decide

theorem validateLocalPart_noNl (lp : List Char) (h : validateLocalPart lp = true) (hq : lp.head? ≠ some '"') : NoNl lp := by
  have hq' : (lp.head? == some '"') = false := by simpa using hq
  unfold validateLocalPart at h
  simp only [hq', Bool.false_and, Bool.false_eq_true, if_false] at h
  split at h
  · cases h
  · split at h
    · cases h
    · rename_i hall
      simp only [Bool.not_eq_true', Bool.not_eq_false] at hall
      exact noNl_of_all validUnquotedChar nl_not_unquoted lp (List.all_eq_true.mp hall)

theorem lexEmailAddress_noNl (s : List Char) (k : Kind) (n : Nat) (h : lexEmailAddress s = some (k, n))
    (hq : s.head? ≠ some '"') : NoNl (s.take n) := by
  obtain ⟨atLoc, d, h1, hv, h2, _, rfl⟩ := lexEmailAddress_some s k n h
  obtain ⟨c, hc1, hc2⟩ := lastPosition_spec _ s atLoc h1
  refine noNl_take_add s (atLoc + 1) d (noNl_take_succ s atLoc c ?_ hc1 (by rintro rfl; revert hc2; decide))
    (lexHostname_noNl _ _ h2)
  apply validateLocalPart_noNl _ hv
  rw [List.head?_take]
  split
  · simp
  · exact hq

theorem nl_not_uchar1 : ('\n' == ';' || '\n' == '?' || '\n' == '&' || '\n' == '=') = false := by decide
theorem nl_not_unreserved : isUnreserved '\n' = false := by decide

theorem isUcharPlusString_noNl (l : List Char) : isUcharPlusString l = true → NoNl l := by
  fun_induction isUcharPlusString l with
  | case1 => intro _ c hc; simp at hc
  | case2 c cs hx ih =>
    intro h d hd
    simp only [List.mem_cons] at hd
    rcases hd with rfl | hd
    · intro e; subst e; rw [nl_not_uchar1] at hx; cases hx
    · exact ih h d hd
  | case3 c cs hx hu ih =>
    intro h d hd
    simp only [List.mem_cons] at hd
    rcases hd with rfl | hd
    · intro e; subst e; rw [nl_not_unreserved] at hu; cases hu
    · exact ih h d hd
  | case4 c h1 h2 r hx hu hc ih =>
    intro h d hd
    simp only [Bool.and_eq_true] at hc
    simp only [List.mem_cons] at hd
    rcases hd with rfl | rfl | rfl | hd
    · intro e; subst e; exact absurd hc.1.1 (by decide)
    · intro e; subst e; exact absurd hc.1.2 (by decide)
    · intro e; subst e; exact absurd hc.2 (by decide)
    · exact ih h d hd
  | case5 => intro h; cases h
  | case6 => intro h; cases h

/-- the credentials and their `@` -/
theorem loginHostportStart_noNl (src : List Char) (hs : Nat) (h : loginHostportStart src = some hs) :
    NoNl (src.take hs) := by
  unfold loginHostportStart at h
  cases hp : position (fun x => x == '@') src with
  | none => rw [hp] at h; cases h; exact NoNl.nil
  | some credEnd =>
    rw [hp] at h
    obtain ⟨_, h⟩ := of_ite_none_eq_some h
    obtain ⟨hu, h⟩ := of_ite_none_eq_some h
    cases h
    obtain ⟨c, hc1, hc2⟩ := position_spec _ src credEnd hp
    exact noNl_take_succ src credEnd c (isUcharPlusString_noNl _ (by simpa using hu)) hc1 (by rintro rfl; revert hc2; decide)

theorem lexLogin_noNl (rest : List Char) (n : Nat) (h : lexLogin rest = some n) : NoNl (rest.take n) := by
  obtain ⟨hs, he, h1, h2, rfl⟩ := lexLogin_some rest n h
  exact noNl_take_add rest hs he (loginHostportStart_noNl rest hs h1) (lexHostport_noNl _ _ h2)

theorem lexIpSchemepart_noNl (t : List Char) (m : Nat) (h : lexIpSchemepart t = some m) : NoNl (t.take m) := by
  obtain ⟨rest, rfl, rfl⟩ := lexIpSchemepart_some t m h
  intro d hd
  simp only [List.take_succ_cons, List.mem_cons] at hd
  rcases hd with rfl | rfl | hd
  · decide
  · decide
  · refine noNl_take_add rest _ _ ?_ (pathLoop_noNl _ _) d hd
    cases hl : lexLogin rest with
    | none => exact NoNl.nil
    | some n => exact lexLogin_noNl rest n hl

theorem lexUrl_noNl (s : List Char) (k : Kind) (n : Nat) (h : lexUrl s = some (k, n)) : NoNl (s.take n) := by
  obtain ⟨sep, e, hp, hall, he, _, rfl⟩ := lexUrl_some s k n h
  obtain ⟨c, hc1, hc2⟩ := position_spec _ s sep hp
  exact noNl_take_add s _ _
    (noNl_take_succ s sep c (noNl_of_all validSchemeChar nl_not_scheme _ (List.all_eq_true.mp hall)) hc1
      (by rintro rfl; revert hc2; decide))
    (lexIpSchemepart_noNl _ _ he)

end Harper

namespace Harper.C12
open Harper

/-- the look-ahead of `lex_url`, stated on the characters: behind a newline only an `@` can change what it finds
before it (a `:` cannot: the scheme would contain the newline) -/
theorem lexUrl_nl (D a : List Char) (hD : ∀ c ∈ D, c ≠ '@') : lexUrl (a ++ '\n' :: D) = lexUrl (a ++ ['\n']) :=
  (lexUrl_nlEnd a D hD).trans (lexUrl_nlEnd a [] (fun _ h => nomatch h)).symm

theorem extOfSrc_local_of_atFree (P0 D : List Char) (k : Nat) (hk : 1 ≤ k) (hD : ∀ c ∈ D, c ≠ '@') (pos : Nat)
    (hp : pos < (P0 ++ List.replicate k '\n').length) :
    extOfSrc ((P0 ++ List.replicate k '\n') ++ D) pos = extOfSrc (P0 ++ List.replicate k '\n') pos := by
  obtain ⟨j, rfl⟩ : ∃ j, k = j + 1 := ⟨k - 1, by omega⟩
  rw [List.replicate_succ', ← List.append_assoc] at hp ⊢
  rw [List.length_append, List.length_singleton] at hp
  rw [← List.append_cons, extOfSrc_nlEnd _ D hD pos (by omega), extOfSrc_nlEnd _ [] (fun _ h => nomatch h) pos (by omega)]

/-- no url / e-mail / hostname token of the modelled lexers contains a newline when the text has no quotation-mark
character of `lex_quote` (only `"` matters: an
e-mail address with a QUOTED local part may: `"a⏎b"@c.d`) -/
theorem extOfSrc_noNl (P : List Char) (hq : NoQuoteChars P) : ExtNoNl (extOfSrc P) P := by
  intro pos k n h
  simp only [extOfSrc] at h
  have hhead : (P.drop pos).head? ≠ some '"' := by
    intro e
    have : '"' ∈ P.drop pos := List.mem_of_mem_head? e
    have := hq '"' (List.mem_of_mem_drop this)
    revert this; decide
  cases h1 : lexUrl (P.drop pos) with
  | some f =>
    rw [h1] at h
    cases h
    exact lexUrl_noNl _ _ _ h1
  | none =>
    rw [h1] at h
    simp only at h
    cases h2 : lexEmailAddress (P.drop pos) with
    | some f =>
      rw [h2] at h
      cases h
      exact lexEmailAddress_noNl _ _ _ h2 hhead
    | none =>
      rw [h2] at h
      exact lexHostnameToken_noNl _ _ _ h

end Harper.C12
