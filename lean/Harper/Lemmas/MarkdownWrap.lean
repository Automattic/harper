import Harper.Lemmas.Markdown
import Harper.Lemmas.CondensePats
import Harper.Lemmas.Span
/-!
Lemmas about `collapseIdentifiers` (`Harper.Model.Markdown`): the `WORD_OR_NUMBER` pattern in closed
form, its matches are disjoint and increasing (`PatOK` of `Lemmas/CondensePattern.lean`), and the
loop + `remove_indices` replace disjoint runs by one token each (`Merged`): the loop is a `SegLoop`
(`collapseLoop_segLoop`), so its closed form is `condSpec (collSeg dict src)`; it returns when `Span::new` and
`get_content` cannot panic on the matched segments (`collapseLoop_total`); `Merged` keeps ordered in-bounds lists
(`Merged.sorted`) and the Markdown shape `Good` (`Merged.good`).
-/
namespace Harper.Md
open Harper

/-! ## the pattern in closed form -/

/-- number of leading `separator word` pairs -/
def sepWordPairs : List Tok → Nat
  | a :: b :: r => if isCaseSeparator a.kind && b.kind.isWord then sepWordPairs r + 1 else 0
  | _ => 0

theorem sepWordPairs_le : ∀ (l : List Tok), 2 * sepWordPairs l ≤ l.length
  | [] => by simp [sepWordPairs]
  | [_] => by simp [sepWordPairs]
  | a :: b :: r => by
    have := sepWordPairs_le r
    simp only [sepWordPairs, List.length_cons]
    split <;> omega

/-- `then_case_separator().then_any_word()` -/
def sepWord : Matcher := seqPat [kindAtom isCaseSeparator, kindAtom Kind.isWord]

theorem sepWord_eq (src : List Char) (toks : List Tok) :
    sepWord src toks = .ok (match toks with
      | a :: b :: _ => if isCaseSeparator a.kind && b.kind.isWord then 2 else 0
      | _ => 0) := by
  unfold sepWord seqPat
  match toks with
  | [] => simp [seqGo, kindAtom]
  | [a] => cases h : isCaseSeparator a.kind <;> simp [seqGo, kindAtom, h]
  | a :: b :: r =>
    cases h : isCaseSeparator a.kind <;> cases h2 : b.kind.isWord <;> simp [seqGo, kindAtom, h, h2]

theorem repGo_pairs (src : List Char) : ∀ (toks : List Tok) (fuel cursor rep : Nat), toks.length < fuel →
    repGo sepWord 0 src fuel cursor rep toks = .ok (cursor + 2 * sepWordPairs toks)
  | [], fuel, cursor, rep, hf => by
    cases fuel with
    | zero => simp at hf
    | succ f => simp [repGo, sepWord_eq, sepWordPairs]
  | [a], fuel, cursor, rep, hf => by
    cases fuel with
    | zero => simp at hf
    | succ f => simp [repGo, sepWord_eq, sepWordPairs]
  | a :: b :: r, fuel, cursor, rep, hf => by
    cases fuel with
    | zero => simp at hf
    | succ f =>
      simp only [repGo, sepWord_eq]
      cases h : (isCaseSeparator a.kind && b.kind.isWord)
      · simp [sepWordPairs, h]
      · simp only [if_true, List.length_cons]
        rw [if_neg (by omega), if_neg (by omega)]
        simp only [List.drop_succ_cons, List.drop_zero]
        rw [repGo_pairs src r f (cursor + 2) (rep + 1) (by simp at hf; omega)]
        simp only [sepWordPairs, h, if_true]
        congr 1
        omega

/-- the length of the match of `WORD_OR_NUMBER` at the head of a token list -/
def runLen : List Tok → Nat
  | t :: r => if t.kind.isWord && decide (1 ≤ sepWordPairs r) then 1 + 2 * sepWordPairs r else 0
  | [] => 0

theorem wordOrNumberPat_eq (src : List Char) (toks : List Tok) :
    wordOrNumberPat src toks = .ok (runLen toks) := by
  have hrep : ∀ r : List Tok, repPat sepWord 0 src r = .ok (2 * sepWordPairs r) := by
    intro r
    unfold repPat
    rw [repGo_pairs src r _ 0 0 (by omega)]
    simp
  unfold wordOrNumberPat seqPat
  change seqGo src [kindAtom Kind.isWord, repPat sepWord 0] 0 toks = _
  match toks with
  | [] => simp [seqGo, kindAtom, runLen]
  | t :: r =>
    have hle := sepWordPairs_le r
    cases hw : t.kind.isWord
    · simp [seqGo, kindAtom, runLen, hw]
    · simp only [seqGo, kindAtom, hw, if_true, List.length_cons, runLen, Bool.true_and]
      rw [if_neg (by omega), if_neg (by omega)]
      simp only [List.drop_succ_cons, List.drop_zero, hrep]
      by_cases hp : 1 ≤ sepWordPairs r
      · rw [if_neg (by omega), if_neg (by omega)]
        simp [hp] <;> omega
      · rw [if_pos (by omega)]
        simp [hp]

theorem word_not_sep (k : Kind) (h : k.isWord = true) : isCaseSeparator k = false := by
  cases k <;> simp_all [Kind.isWord, isCaseSeparator]

/-- a run that starts before a word token either stops before it or runs through it -/
theorem pairs_through : ∀ (u : List Tok) (w : Tok) (v' : List Tok), w.kind.isWord = true → u ≠ [] →
    1 + 2 * sepWordPairs (u ++ w :: v').tail ≤ u.length + (1 + 2 * sepWordPairs v')
  | [], _, _, _, hne => absurd rfl hne
  | [a], w, v', hw, _ => by
    have hs := word_not_sep _ hw
    cases v' with
    | nil => simp [sepWordPairs]
    | cons x xs => simp [sepWordPairs, hs]
  | [a, b], w, v', hw, _ => by
    simp only [List.cons_append, List.nil_append, List.tail_cons, sepWordPairs, List.length_cons,
      List.length_nil]
    split <;> omega
  | a :: b :: c :: u'', w, v', hw, _ => by
    have ih := pairs_through (c :: u'') w v' hw (by simp)
    simp only [List.cons_append, List.tail_cons, List.length_cons] at ih ⊢
    simp only [sepWordPairs]
    split <;> omega

theorem runLen_pos {l : List Tok} (h : runLen l > 0) :
    ∃ t r, l = t :: r ∧ t.kind.isWord = true ∧ 1 ≤ sepWordPairs r ∧ runLen l = 1 + 2 * sepWordPairs r := by
  match l with
  | [] => simp [runLen] at h
  | t :: r =>
    simp only [runLen] at h ⊢
    split at h
    · rename_i hc
      simp only [Bool.and_eq_true, decide_eq_true_eq] at hc
      exact ⟨t, r, rfl, hc.1, hc.2, by simp [hc.1, hc.2]⟩
    · omega

theorem wordOrNumber_patOK (src : List Char) : PatOK wordOrNumberPat src (fun _ => True) where
  tail := fun _ _ _ => trivial
  ok := by
    intro v _
    refine ⟨_, wordOrNumberPat_eq src v, ?_⟩
    match v with
    | [] => simp [runLen]
    | t :: r =>
      have := sepWordPairs_le r
      simp only [runLen, List.length_cons]
      split <;> omega
  mono := by
    intro u v n n' hu _ hn hpos hn' hpos'
    rw [wordOrNumberPat_eq] at hn hn'
    injection hn with hn
    injection hn' with hn'
    subst hn hn'
    obtain ⟨w, v', rfl, hw, _, e2⟩ := runLen_pos hpos'
    obtain ⟨t, r, e0, _, _, e1⟩ := runLen_pos hpos
    have := pairs_through u w v' hw hu
    rw [e0] at this
    simp only [List.tail_cons] at this
    omega

/-- the last token of a match is a word -/
theorem pairs_last : ∀ (r : List Tok), 1 ≤ sepWordPairs r →
    ∃ t, (r.take (2 * sepWordPairs r)).getLast? = some t ∧ t.kind.isWord = true
  | [], h => by simp [sepWordPairs] at h
  | [_], h => by simp [sepWordPairs] at h
  | a :: b :: r', h => by
    simp only [sepWordPairs] at h ⊢
    split at h
    · rename_i hc
      simp only [Bool.and_eq_true] at hc
      rw [if_pos (by simp [hc.1, hc.2]), Nat.mul_add, List.take_succ_cons, List.take_succ_cons]
      by_cases h0 : sepWordPairs r' = 0
      · exact ⟨b, by simp [h0], hc.2⟩
      · obtain ⟨t, ht, hw⟩ := pairs_last r' (by omega)
        refine ⟨t, ?_, hw⟩
        cases hl : r'.take (2 * sepWordPairs r') with
        | nil => rw [hl] at ht; cases ht
        | cons x xs => rw [hl] at ht; simpa [List.getLast?_cons_cons] using ht
    · omega

/-! ## the matches of `find_all_matches` -/

/-- the first and the last token are words -/
def WordEnds (seg : List Tok) : Prop :=
  ∃ s e, seg.head? = some s ∧ seg.getLast? = some e ∧ s.kind.isWord = true ∧ e.kind.isWord = true

theorem findAllMatches_good (src : List Char) (toks : List Tok) :
    ∃ ms, findAllMatches wordOrNumberPat src toks = .ok ms ∧ GoodMs 0 ms toks.length ∧
      ∀ m ∈ ms, WordEnds (segOf 0 m toks) := by
  obtain ⟨ms, hf, hg, hm⟩ := findAllMatches_goodMs (wordOrNumber_patOK src) toks trivial
  refine ⟨ms, hf, hg, fun b hb => ?_⟩
  have hrun := hm b hb
  rw [wordOrNumberPat_eq] at hrun
  injection hrun with hrun
  obtain ⟨w, r, hv, hw, hp, e1⟩ := runLen_pos (l := toks.drop b.start) (by have := (hg.all b hb).1; omega)
  obtain ⟨t, ht, htw⟩ := pairs_last r hp
  refine ⟨w, t, ?_, ?_, hw, htw⟩ <;>
    rw [segOf, Nat.sub_zero, hv, ← hrun, e1, Nat.add_comm 1, List.take_succ_cons]
  · rfl
  · cases hl : r.take (2 * sepWordPairs r) with
    | nil => rw [hl] at ht; cases ht
    | cons x xs => rw [hl] at ht; rw [List.getLast?_cons_cons]; exact ht

/-! ## the loop -/

/-- `out` is `inp` with some disjoint runs replaced by ONE `Word` token each, spanning from the
start of the run's first token to the end of its last token; first and last are words -/
inductive Merged : List Tok → List Tok → Prop
  | nil : Merged [] []
  | keep (t : Tok) {a b : List Tok} : Merged a b → Merged (t :: a) (t :: b)
  | merge (first last : Tok) (tl : List Tok) {a b : List Tok}
      (hl : (first :: tl).getLast? = some last)
      (hw : first.kind.isWord = true ∧ last.kind.isWord = true) :
      Merged a b →
      Merged (first :: tl ++ a) (⟨⟨first.span.start, last.span.stop⟩, .word⟩ :: b)

theorem Merged.refl : ∀ (l : List Tok), Merged l l
  | [] => .nil
  | t :: l => .keep t (Merged.refl l)

theorem Merged.append {a b c d : List Tok} (h1 : Merged a b) (h2 : Merged c d) : Merged (a ++ c) (b ++ d) := by
  induction h1 with
  | nil => exact h2
  | keep t _ ih => exact .keep t ih
  | merge first last tl hl hw _ ih => rw [List.append_assoc]; exact .merge first last tl hl hw ih

theorem Merged.prefix (pre : List Tok) {a b : List Tok} (h : Merged a b) : Merged (pre ++ a) (pre ++ b) :=
  (Merged.refl pre).append h

/-- what one round of the loop and `remove_indices` make of the matched segment: `tokens[start]` stretched
to the end of `tokens[end - 1]` if the dictionary knows that text -/
def collSeg (dict : List Char → Bool) (src : List Char) (seg : List Tok) : List Tok :=
  match seg.head?, seg.getLast? with
  | some s, some e =>
    match Span.getContent ⟨s.span.start, e.span.stop⟩ src with
    | .ok content => if dict content then [⟨⟨s.span.start, e.span.stop⟩, .word⟩] else seg
    | .error _ => seg
  | _, _ => seg

/-- `Span::new` and `get_content` of the round do not panic -/
def CollOk (src : List Char) (seg : List Tok) : Prop :=
  ∀ s e, seg.head? = some s → seg.getLast? = some e →
    s.span.start ≤ e.span.stop ∧ e.span.stop ≤ src.length

theorem collSeg_merged (dict : List Char → Bool) (src : List Char) {seg : List Tok} (h : WordEnds seg) :
    Merged seg (collSeg dict src seg) := by
  obtain ⟨s, e, hs, he, hw⟩ := h
  simp only [collSeg, hs, he]
  split
  · split
    · cases seg with
      | nil => cases hs
      | cons first tl =>
        cases hs
        simpa using Merged.merge s e tl he hw .nil
    · exact Merged.refl _
  · exact Merged.refl _

theorem collapseLoop_segLoop (dict : List Char → Bool) (src : List Char) :
    SegLoop (collapseLoop dict src) (collSeg dict src) (CollOk src) where
  nil := fun _ _ => rfl
  round := by
    intro m ms A tl l s rem hA hstop
    obtain ⟨e, he⟩ : ∃ e, (s :: tl).getLast? = some e := ⟨_, List.getLast?_eq_some_getLast (List.cons_ne_nil _ _)⟩
    have hfirst : (A ++ (s :: tl ++ l))[m.start]? = some s := by
      rw [List.getElem?_append_right (Nat.le_of_eq hA), hA, Nat.sub_self]; rfl
    have hlast : (A ++ (s :: tl ++ l))[m.stop - 1]? = some e := by
      rw [List.getElem?_append_right (by omega), hA,
        List.getElem?_append_left (by rw [List.length_cons]; omega), ← he, List.getLast?_eq_getElem?]
      congr 1
      rw [List.length_cons]; omega
    have hset : ∀ x : Tok, (A ++ (s :: tl ++ l)).set m.start x = A ++ (x :: tl ++ l) := by
      intro x
      rw [List.set_append_right _ _ (Nat.le_of_eq hA), hA, Nat.sub_self]
      rfl
    rw [collapseLoop, if_neg (by omega), hfirst, hlast]
    simp only [collSeg, List.head?_cons, he, hset, show m.stop - (m.start + 1) = tl.length by omega]
    by_cases hle : s.span.start ≤ e.span.stop
    · rw [Span.new_of_le hle]
      cases hc : Span.getContent ⟨s.span.start, e.span.stop⟩ src with
      | error x =>
        refine .inl ⟨⟨x, by simp only [hc, bind, Except.bind]⟩, fun hok => ?_⟩
        rw [Span.getContent_of_le (⟨s.span.start, e.span.stop⟩ : Span) src hle (hok s e rfl he).2] at hc
        cases hc
      | ok content =>
        simp only [hc, bind, Except.bind]
        by_cases hd : dict content = true
        · rw [if_pos hd, if_pos hd]; exact .inr (.inr ⟨_, rfl, rfl⟩)
        · rw [if_neg hd, if_neg hd]; exact .inr (.inl ⟨rfl, rfl⟩)
    · refine .inl ⟨⟨.spanNew, ?_⟩, fun hok => hle (hok s e rfl he).1⟩
      simp only [Span.new, if_pos (Nat.lt_of_not_le hle), bind, Except.bind]

theorem condSpec_merged (dict : List Char → Bool) (src : List Char) :
    ∀ (ms : List Span) (off : Nat) (rest : List Tok), GoodMs off ms (off + rest.length) →
      (∀ m ∈ ms, WordEnds (segOf off m rest)) → Merged rest (condSpec (collSeg dict src) off ms rest) := by
  intro ms
  induction ms with
  | nil => intro off rest _ _; exact Merged.refl rest
  | cons m ms ih =>
    intro off rest hg hw
    obtain ⟨g1, g2, g3, g4⟩ := hg
    obtain ⟨pre, seg, l, rfl, hpre, hstop, hrest⟩ := split_at rest off m.start m.stop g1 (Nat.le_of_lt g2) g3
    rw [hrest] at g4
    rw [condSpec_cons _ off m ms pre seg l hpre hstop]
    refine (Merged.refl pre).append ((collSeg_merged dict src ?_).append (ih m.stop l g4 fun m' hm' => ?_))
    · exact segOf_mid off m pre seg l hpre hstop ▸ hw m List.mem_cons_self
    · exact segOf_behind off m m' pre seg l hpre hstop (g4.ge m' hm') ▸ hw m' (List.mem_cons_of_mem _ hm')

/-- the loop returns on disjoint matches whose segments are `CollOk` -/
theorem collapseLoop_total (dict : List Char → Bool) (src : List Char) (ms : List Span) (toks : List Tok)
    (hg : GoodMs 0 ms toks.length) (hok : ∀ m ∈ ms, CollOk src (segOf 0 m toks)) :
    ∃ r, collapseLoop dict src ms toks [] = .ok r :=
  let ⟨_, _, h, _⟩ := (collapseLoop_segLoop dict src).spec ms [] toks [] 0 rfl (by rwa [Nat.zero_add]) (.inl hok)
  ⟨_, h⟩

/-- the first token of a list does not start after the end of its last one, if the tokens satisfying `p`
are ordered and both do -/
theorem ends_ordered {seg : List Tok} {p : Tok → Bool}
    (hs : seg.Pairwise (fun a b => p a = true → p b = true → a.span.stop ≤ b.span.start))
    (hwf : ∀ t ∈ seg, t.span.start ≤ t.span.stop) {s e : Tok} (hh : seg.head? = some s)
    (hl : seg.getLast? = some e) (ps : p s = true) (pe : p e = true) : s.span.start ≤ e.span.stop := by
  cases seg with
  | nil => cases hh
  | cons a tl =>
    cases hh
    have hwe := hwf e (List.mem_of_getLast? hl)
    rcases List.mem_cons.mp (List.mem_of_getLast? hl) with rfl | hm
    · exact hwe
    · have := (List.pairwise_cons.mp hs).1 e hm ps pe
      have := hwf s List.mem_cons_self
      omega

theorem segOf_sublist (off : Nat) (m : Span) (rest : List Tok) : (segOf off m rest).Sublist rest :=
  (List.take_sublist _ _).trans (List.drop_sublist _ _)

theorem insertUniq_lt (x : Nat) (l : List Nat) (h : ∀ y ∈ l, x < y) : insertUniq x l = x :: l := by
  cases l with
  | nil => rfl
  | cons y ys => simp [insertUniq, h y List.mem_cons_self]

/-- `sorted().unique()` does nothing to a strictly increasing queue -/
theorem sortUniq_of_sorted (l : List Nat) (h : l.Pairwise (· < ·)) : sortUniq l = l := by
  induction l with
  | nil => rfl
  | cons x xs ih =>
    have ⟨h1, h2⟩ := List.pairwise_cons.mp h
    simp only [sortUniq, List.foldr_cons] at ih ⊢
    rw [ih h2, insertUniq_lt x xs h1]

/-- `CollapseIdentifiers::parse` after the inner parser: if it returns, the result is the input
with disjoint runs merged -/
theorem collapseIdentifiers_merged (dict : List Char → Bool) (src : List Char) (toks out : List Tok)
    (h : collapseIdentifiers dict src toks = .ok out) : Merged toks out := by
  obtain ⟨ms, hf, hg, hends⟩ := findAllMatches_good src toks
  have hg' : GoodMs 0 ms (0 + toks.length) := by rwa [Nat.zero_add]
  simp only [collapseIdentifiers, hf, bind, Except.bind] at h
  cases hc : collapseLoop dict src ms toks [] with
  | error x => rw [hc] at h; cases h
  | ok p =>
    obtain ⟨ts, r, hc', _, _, hp, hq⟩ :=
      (collapseLoop_segLoop dict src).spec ms [] toks [] 0 rfl hg' (.inr ⟨p, hc⟩)
    have hc' : collapseLoop dict src ms toks [] = .ok (ts, r) := hc'
    rw [hc'] at h
    cases h
    have := hq [] [] nofun
    simp only [List.append_nil, removeIndices] at this ⊢
    rw [sortUniq_of_sorted r hp, this]
    exact condSpec_merged dict src ms 0 toks hg' hends

/-! ## what merging preserves -/

theorem Merged.length_le {a b : List Tok} (h : Merged a b) : b.length ≤ a.length := by
  induction h with
  | nil => simp
  | keep t _ ih => simp; omega
  | merge first last tl hl hw _ ih => simp; omega

/-- every output token is an input token, or spans from the start of one input token (a word) to the
end of a later one (a word) -/
theorem Merged.mem_word {a b : List Tok} (h : Merged a b) :
    ∀ t ∈ b, t ∈ a ∨ ∃ f l, f ∈ a ∧ l ∈ a ∧ f.kind.isWord = true ∧ l.kind.isWord = true ∧
      t = ⟨⟨f.span.start, l.span.stop⟩, .word⟩ := by
  induction h with
  | nil => intro t ht; cases ht
  | keep x _ ih =>
    intro t ht
    rcases List.mem_cons.mp ht with rfl | ht
    · left; simp
    · rcases ih t ht with h | ⟨f, l, hf, hl, w1, w2, e⟩
      · left; exact List.mem_cons_of_mem _ h
      · right; exact ⟨f, l, List.mem_cons_of_mem _ hf, List.mem_cons_of_mem _ hl, w1, w2, e⟩
  | merge first last tl hl hw _ ih =>
    intro t ht
    have hlast : last ∈ first :: tl := List.mem_of_getLast? hl
    rcases List.mem_cons.mp ht with rfl | ht
    · right
      exact ⟨first, last, by simp, List.mem_append_left _ hlast, hw.1, hw.2, rfl⟩
    · rcases ih t ht with h | ⟨f, l, hf, hl', w1, w2, e⟩
      · left; exact List.mem_append_right _ h
      · right; exact ⟨f, l, List.mem_append_right _ hf, List.mem_append_right _ hl', w1, w2, e⟩

/-- in bounds, and "the tokens satisfying `p` are ordered and disjoint", survive merging when words satisfy `p` -/
theorem Merged.keeps {n : Nat} {p : Tok → Bool} {a b : List Tok} (h : Merged a b)
    (hp : ∀ t ∈ a, t.kind.isWord = true → p t = true)
    (hwf : ∀ t ∈ a, t.span.start ≤ t.span.stop ∧ t.span.stop ≤ n)
    (hs : (a.filter p).Pairwise (fun x y => x.span.stop ≤ y.span.start)) :
    (∀ t ∈ b, t.span.start ≤ t.span.stop ∧ t.span.stop ≤ n) ∧
    (b.filter p).Pairwise (fun x y => x.span.stop ≤ y.span.start) := by
  induction h with
  | nil => exact ⟨hwf, hs⟩
  | keep x hm ih =>
    have hpa := fun t ht => hp t (List.mem_cons_of_mem _ ht)
    obtain ⟨i1, i2⟩ := ih hpa (fun t ht => hwf t (List.mem_cons_of_mem _ ht))
      (hs.sublist ((List.sublist_cons_self x _).filter p))
    refine ⟨fun t ht => (List.mem_cons.mp ht).elim (· ▸ hwf x List.mem_cons_self) (i1 t), ?_⟩
    simp only [List.filter_cons] at hs ⊢
    split
    · rename_i hc
      rw [if_pos hc] at hs
      refine List.pairwise_cons.mpr ⟨fun y hy => ?_, i2⟩
      obtain ⟨hyb, hyc⟩ := List.mem_filter.mp hy
      rcases hm.mem_word y hyb with hy' | ⟨f, l, hf, _, w1, _, rfl⟩
      · exact (List.pairwise_cons.mp hs).1 y (List.mem_filter.mpr ⟨hy', hyc⟩)
      · exact (List.pairwise_cons.mp hs).1 f (List.mem_filter.mpr ⟨hf, hpa f hf w1⟩)
    · exact i2
  | merge first last tl hl hww hm ih =>
    rename_i a' b'
    have hsplit : (first :: tl ++ a') = (first :: tl) ++ a' := rfl
    rw [hsplit] at hs hp hwf
    have hpa := fun t ht => hp t (List.mem_append_right _ ht)
    rw [List.filter_append] at hs
    obtain ⟨hs1, hs2, hs3⟩ := List.pairwise_append.mp hs
    obtain ⟨i1, i2⟩ := ih hpa (fun t ht => hwf t (List.mem_append_right _ ht)) hs2
    have hlast : last ∈ first :: tl := List.mem_of_getLast? hl
    have hpf : p first = true := hp first (by simp) hww.1
    have hlc : last ∈ (first :: tl).filter p :=
      List.mem_filter.mpr ⟨hlast, hp last (List.mem_append_left _ hlast) hww.2⟩
    have hfl : first.span.start ≤ last.span.stop := by
      have hlc' := hlc
      rw [List.filter_cons, if_pos hpf] at hs1 hlc'
      rcases List.mem_cons.mp hlc' with rfl | hlt
      · exact (hwf _ (by simp)).1
      · have := (List.pairwise_cons.mp hs1).1 last hlt
        have := hwf first (by simp)
        have := hwf last (List.mem_append_left _ hlast)
        omega
    refine ⟨fun t ht => (List.mem_cons.mp ht).elim
      (· ▸ ⟨hfl, (hwf last (List.mem_append_left _ hlast)).2⟩) (i1 t), ?_⟩
    rw [List.filter_cons]
    split
    · refine List.pairwise_cons.mpr ⟨fun y hy => ?_, i2⟩
      obtain ⟨hyb, hyc⟩ := List.mem_filter.mp hy
      rcases hm.mem_word y hyb with hy' | ⟨f, l, hf, _, w1, _, rfl⟩
      · exact hs3 last hlc y (List.mem_filter.mpr ⟨hy', hyc⟩)
      · exact hs3 last hlc f (List.mem_filter.mpr ⟨hf, hpa f hf w1⟩)
    · exact i2

/-- ordered, disjoint, well-formed, in-bounds token lists stay so (plain English, HTML, comments:
every token covers characters) -/
theorem Merged.sorted {n : Nat} {a b : List Tok} (h : Merged a b)
    (hwf : ∀ t ∈ a, t.span.start ≤ t.span.stop ∧ t.span.stop ≤ n)
    (hs : a.Pairwise (fun x y => x.span.stop ≤ y.span.start)) :
    (∀ t ∈ b, t.span.start ≤ t.span.stop ∧ t.span.stop ≤ n) ∧
    b.Pairwise (fun x y => x.span.stop ≤ y.span.start) := by
  have ft : ∀ l : List Tok, l.filter (fun _ => true) = l := fun l => List.filter_eq_self.mpr fun _ _ => rfl
  have := h.keeps (p := fun _ => true) (fun _ _ _ => rfl) hwf (by rwa [ft])
  rwa [ft] at this

/-- the Markdown shape — zero-width structural tokens anywhere, the tokens that cover characters
increasing and disjoint — is preserved as well, provided word tokens cover characters -/
theorem Merged.good {n : Nat} {a b : List Tok} (h : Merged a b)
    (hw : ∀ t ∈ a, t.kind.isWord = true → t.span.start < t.span.stop) (hg : Good n 0 a) :
    Good n 0 b :=
  have ⟨h1, h2⟩ := h.keeps (fun t ht w => (cov_iff t).mpr (hw t ht w)) hg.inb hg.sorted
  ⟨h1, fun _ _ _ => Nat.zero_le _, h2⟩

end Harper.Md
