import Harper.Model.EditDistance
import Harper.Model.Dict
import Harper.Lemmas.SortSweep
import Harper.Model.Pattern
-- for `DecidableEq (Except Panic α)` (`Pat.instDecEqResult`), needed by `decide` on model results
/-!
# Lemmas for C15: Levenshtein distance, the Wagner–Fischer rows, fuzzy search, merged dictionaries

`lev` is the textbook three-way recursion (the specification); everything else is about the
executable model in `Harper/Model/{EditDistance,Dict}.lean`.
-/
namespace Harper

section Lev
variable {α : Type} [DecidableEq α]

/-- Levenshtein distance, textbook recursion on the heads: delete / insert / substitute-or-keep. -/
def lev : List α → List α → Nat
  | [], t => t.length
  | a :: s, [] => (a :: s).length
  | a :: s, b :: t => min (min (lev (a :: s) t + 1) (lev s (b :: t) + 1)) (lev s t + edCost a b)
termination_by s t => s.length + t.length

@[simp] theorem lev_nil_left (t : List α) : lev [] t = t.length := by rw [lev]

@[simp] theorem lev_nil_right (s : List α) : lev s [] = s.length := by
  cases s <;> rw [lev]

theorem lev_cons_cons (a b : α) (s t : List α) :
    lev (a :: s) (b :: t) = min (min (lev (a :: s) t + 1) (lev s (b :: t) + 1)) (lev s t + edCost a b) := by
  rw [lev]

theorem edCost_le_one (a b : α) : edCost a b ≤ 1 := by
  unfold edCost; split <;> omega

theorem edCost_comm (a b : α) : edCost a b = edCost b a := by
  by_cases h : a = b
  · rw [h]
  · rw [edCost, edCost, if_neg h, if_neg (Ne.symm h)]

theorem edCost_self (a : α) : edCost a a = 0 := by simp [edCost]

theorem edCost_eq_zero {a b : α} (h : edCost a b = 0) : a = b := by
  unfold edCost at h; split at h
  · assumption
  · omega

theorem C15.edCost_triangle (a b c : α) : edCost a c ≤ edCost a b + edCost b c := by
  unfold edCost
  by_cases h1 : a = b <;> by_cases h2 : b = c <;> by_cases h3 : a = c <;> simp_all

theorem lev_cons_left_le (a : α) (s t : List α) : lev (a :: s) t ≤ lev s t + 1 := by
  cases t with
  | nil => rw [lev_nil_right, lev_nil_right]; exact Nat.le_refl _
  | cons b t => rw [lev_cons_cons]; exact Nat.le_trans (Nat.min_le_left _ _) (Nat.min_le_right _ _)

theorem lev_cons_right_le (b : α) (s t : List α) : lev s (b :: t) ≤ lev s t + 1 := by
  cases s with
  | nil => rw [lev_nil_left, lev_nil_left]; exact Nat.le_refl _
  | cons a s => rw [lev_cons_cons]; exact Nat.le_trans (Nat.min_le_left _ _) (Nat.min_le_left _ _)

theorem lev_cons_cons_le (a b : α) (s t : List α) : lev (a :: s) (b :: t) ≤ lev s t + edCost a b := by
  rw [lev_cons_cons]; exact Nat.min_le_right _ _

theorem lev_le_max (s t : List α) : lev s t ≤ max s.length t.length := by
  induction s generalizing t with
  | nil => rw [lev_nil_left]; exact Nat.le_max_right _ _
  | cons a s ih =>
    cases t with
    | nil => rw [lev_nil_right]; exact Nat.le_max_left _ _
    | cons b t =>
      have := Nat.le_trans (lev_cons_cons_le a b s t) (Nat.add_le_add (ih t) (edCost_le_one a b))
      rwa [List.length_cons, List.length_cons, Nat.succ_max_succ]

theorem lev_le_of_length_le {s t : List α} {n : Nat} (hs : s.length ≤ n) (ht : t.length ≤ n) :
    lev s t ≤ n :=
  Nat.le_trans (lev_le_max s t) (Nat.max_le.mpr ⟨hs, ht⟩)

/-- the distance is at least the difference of the lengths (justifies the length window of
`fuzzy_match`) -/
theorem lev_length_bounds (s t : List α) :
    s.length ≤ t.length + lev s t ∧ t.length ≤ s.length + lev s t := by
  fun_induction lev s t with
  | case1 t => simp
  | case2 a s => simp
  | case3 a s b t ih1 ih2 ih3 =>
    simp only [List.length_cons] at *
    omega

theorem lev_self (s : List α) : lev s s = 0 := by
  induction s with
  | nil => exact lev_nil_left []
  | cons a s ih => rw [lev_cons_cons, ih, edCost, if_pos rfl]; omega

theorem lev_singleton_of_not_mem (b : α) (s : List α) (hs : s ≠ []) (hb : b ∉ s) :
    lev s [b] = s.length := by
  induction s with
  | nil => exact absurd rfl hs
  | cons a s ih =>
    have hab : edCost a b = 1 := if_neg fun (e : a = b) => hb (e ▸ List.mem_cons_self)
    rw [lev_cons_cons, lev_nil_right, lev_nil_right, hab, List.length_cons]
    by_cases h : s = []
    · subst h; rw [lev_nil_left]; rfl
    · rw [ih h fun m => hb (List.mem_cons_of_mem _ m)]; omega

end Lev

/-! ## The rows of `edit_distance_min_alloc`

Side conditions have the shape `m = .nat ∨ P` (unbounded cells, or a bound that keeps `u8` cells
exact); a weaker bound is obtained with `Or.imp_right`. -/
section Rows
variable {α : Type} [DecidableEq α]

theorem Arith.add_ok (m : Arith) (a b : Nat) (h : m = .nat ∨ a + b ≤ 255) :
    m.add a b = .ok (a + b) := by
  rcases h with rfl | h
  · rfl
  · cases m
    · rfl
    · exact if_pos h
    · exact congrArg Except.ok (Nat.mod_eq_of_lt (by omega))

theorem Arith.cast_ok (m : Arith) (n : Nat) (h : m = .nat ∨ n ≤ 255) : m.cast n = n := by
  rcases h with rfl | h
  · rfl
  · cases m
    · rfl
    · exact Nat.mod_eq_of_lt (by omega)
    · exact Nat.mod_eq_of_lt (by omega)

theorem Arith.lenOk_ok (m : Arith) (n : Nat) (h : m = .nat ∨ n ≤ 255) : m.lenOk n = true := by
  rcases h with rfl | h
  · rfl
  · cases m
    · rfl
    · exact decide_eq_true h
    · rfl

/-- The row of the table as a specification. `sp` and `tp` are the *reversed* prefixes of source
and target already processed (the Rust loops run over prefixes), `s` the rest of the source:
the cells `D[i][j]` for `i = |sp|+1 ..`, `j = |tp|`. -/
def rowFrom (sp : List α) : List α → List α → List Nat
  | [], _ => []
  | a :: s, tp => lev (a :: sp) tp :: rowFrom (a :: sp) s tp

theorem nextRowAux_cons (m : Arith) (b a : α) (l d p : Nat) (s : List α) (ps : List Nat)
    (h : m = .nat ∨ (p ≤ 254 ∧ l ≤ 254 ∧ d ≤ 254)) :
    nextRowAux m b l d (a :: s) (p :: ps) =
      (nextRowAux m b (min (min (p + 1) (l + 1)) (d + edCost a b)) p s ps).map
        (min (min (p + 1) (l + 1)) (d + edCost a b) :: ·) := by
  have := edCost_le_one a b
  simp only [nextRowAux, Arith.add_ok m p 1 (h.imp_right fun _ => by omega),
    Arith.add_ok m l 1 (h.imp_right fun _ => by omega),
    Arith.add_ok m d (edCost a b) (h.imp_right fun _ => by omega)]
  cases nextRowAux m b (min (min (p + 1) (l + 1)) (d + edCost a b)) p s ps <;> rfl

/-- Inner-loop invariant: fed with row `j-1` (as specified) the loop produces row `j`. -/
theorem nextRowAux_spec (m : Arith) (b : α) (tp s sp : List α)
    (hm : m = .nat ∨ (sp.length + s.length ≤ 254 ∧ tp.length + 1 ≤ 254)) :
    nextRowAux m b (lev sp (b :: tp)) (lev sp tp) s (rowFrom sp s tp)
      = .ok (rowFrom sp s (b :: tp)) := by
  induction s generalizing sp with
  | nil => rfl
  | cons a s ih =>
    simp only [List.length_cons] at hm
    simp only [rowFrom]
    rw [nextRowAux_cons m b a _ _ _ s _ (hm.imp_right fun h =>
        ⟨lev_le_of_length_le (by rw [List.length_cons]; omega) (by omega),
         lev_le_of_length_le (by omega) (by rw [List.length_cons]; omega),
         lev_le_of_length_le (by omega) (by omega)⟩),
      ← lev_cons_cons, ih (a :: sp) (hm.imp_right fun h => by rw [List.length_cons]; omega)]
    rfl

theorem rowFrom_nil (sp s : List α) :
    rowFrom sp s ([] : List α) = List.range' (sp.length + 1) s.length := by
  induction s generalizing sp with
  | nil => rfl
  | cons a s ih => rw [rowFrom, ih, lev_nil_right, List.length_cons, List.length_cons, List.range'_succ]

theorem getElem?_rowFrom (sp s tp : List α) :
    (lev sp tp :: rowFrom sp s tp)[s.length]? = some (lev (s.reverse ++ sp) tp) := by
  induction s generalizing sp with
  | nil => rfl
  | cons a s ih =>
    rw [rowFrom, List.length_cons, List.getElem?_cons_succ, List.reverse_cons, List.append_assoc]
    exact ih (a :: sp)

theorem edRows_nil (m : Arith) (s tp : List α) (j : Nat) :
    edRows m s j [] (tp.length :: rowFrom [] s tp) = .ok (lev s.reverse tp) := by
  have := getElem?_rowFrom [] s tp
  rw [lev_nil_left, List.append_nil] at this
  rw [edRows, this]

/-- Outer-loop invariant, one round: from row `|tp|` (as specified, `j = |tp| + 1`) to row
`|tp| + 1`. -/
theorem edRows_cons (m : Arith) (b : α) (s t tp : List α)
    (hm : m = .nat ∨ (s.length ≤ 254 ∧ tp.length + 1 ≤ 254)) :
    edRows m s (tp.length + 1) (b :: t) (tp.length :: rowFrom [] s tp)
      = edRows m s ((b :: tp).length + 1) t ((b :: tp).length :: rowFrom [] s (b :: tp)) := by
  have hrow := nextRowAux_spec m b tp s [] (hm.imp_right fun h => by simpa using h)
  rw [lev_nil_left, lev_nil_left, List.length_cons] at hrow
  simp only [edRows, Arith.cast_ok m (tp.length + 1) (hm.imp_right fun _ => by omega),
    List.headD_cons, List.tail_cons, List.length_cons, hrow]

theorem edRows_prefix (m : Arith) (s t1 t2 tp : List α)
    (hm : m = .nat ∨ (s.length ≤ 254 ∧ tp.length + t1.length ≤ 254)) :
    edRows m s (tp.length + 1) (t1 ++ t2) (tp.length :: rowFrom [] s tp)
      = edRows m s ((t1.reverse ++ tp).length + 1) t2
          ((t1.reverse ++ tp).length :: rowFrom [] s (t1.reverse ++ tp)) := by
  induction t1 generalizing tp with
  | nil => rfl
  | cons b t ih =>
    simp only [List.length_cons] at hm
    rw [List.cons_append, edRows_cons m b s _ tp (hm.imp_right fun _ => by omega),
      ih (b :: tp) (hm.imp_right fun _ => by rw [List.length_cons]; omega), List.reverse_cons,
      List.append_assoc]
    rfl

theorem editDistance_eq_edRows (m : Arith) (s t : List α) (hs : m = .nat ∨ s.length ≤ 255)
    (ht : m = .nat ∨ t.length ≤ 255) :
    editDistance m s t = edRows m s 1 t (0 :: rowFrom [] s []) := by
  rw [editDistance, Arith.lenOk_ok m _ hs, Arith.lenOk_ok m _ ht, Arith.cast_ok m _ hs, rowFrom_nil,
    List.range_eq_range', List.range'_succ]
  rfl

/-- The model of `edit_distance_min_alloc` computes the Levenshtein distance of the reversed
strings — with unbounded cells always, with `u8` cells (either profile) up to length 254. -/
theorem editDistance_eq_lev_reverse (m : Arith) (s t : List α)
    (hm : m = .nat ∨ (s.length ≤ 254 ∧ t.length ≤ 254)) :
    editDistance m s t = .ok (lev s.reverse t.reverse) := by
  have h := edRows_prefix m s t [] [] (hm.imp_right fun h => by simpa using h)
  rw [List.append_nil, List.append_nil] at h
  rw [editDistance_eq_edRows m s t (hm.imp_right fun _ => by omega) (hm.imp_right fun _ => by omega)]
  exact h.trans (edRows_nil m s t.reverse _)

/-! ### The boundary: 255 characters -/

theorem editDistance_nil_right (m : Arith) (s : List α) (hm : m = .nat ∨ s.length ≤ 255) :
    editDistance m s [] = .ok s.length := by
  rw [editDistance_eq_edRows m s [] hm (.inr (Nat.zero_le _))]
  exact (edRows_nil m s [] 1).trans (by rw [lev_nil_right, List.length_reverse])

/-- an empty source: every row is the single cell `current_row[0] = j` -/
theorem edRows_nil_source (m : Arith) (t : List α) (k : Nat) (hm : m = .nat ∨ k + t.length ≤ 255) :
    edRows m ([] : List α) (k + 1) t [k] = .ok (k + t.length) := by
  induction t generalizing k with
  | nil => rfl
  | cons b t ih =>
    rw [List.length_cons] at hm
    simp only [edRows, nextRowAux, Arith.cast_ok m (k + 1) (hm.imp_right fun _ => by omega)]
    rw [ih (k + 1) (hm.imp_right fun _ => by omega), List.length_cons, Nat.add_right_comm,
      Nat.add_assoc]

theorem editDistance_nil_left (m : Arith) (t : List α) (hm : m = .nat ∨ t.length ≤ 255) :
    editDistance m [] t = .ok t.length := by
  rw [editDistance_eq_edRows m [] t (.inr (Nat.zero_le _)) hm]
  exact (edRows_nil_source m t 0 (hm.imp_right fun _ => by omega)).trans (by rw [Nat.zero_add])

/-- a source of 255 characters: cell `previous_row[255] = 255`, and `previous_row[i] + 1`
overflows in the first row -/
theorem nextRowAux_overflow_source (b : α) (s sp : List α) (hs : s ≠ [])
    (hlen : sp.length + s.length = 255) :
    nextRowAux .checked b (lev sp [b]) (lev sp []) s (rowFrom sp s []) = .error .overflow := by
  induction s generalizing sp with
  | nil => exact absurd rfl hs
  | cons a s ih =>
    simp only [List.length_cons] at hlen
    by_cases hs' : s = []
    · subst hs'
      have : ¬ (sp.length + 1 + 1 ≤ 255) := by simp only [List.length_nil] at hlen; omega
      simp [rowFrom, nextRowAux, Arith.add, this]
    · have hpos : 0 < s.length := List.length_pos_iff.mpr hs'
      simp only [rowFrom]
      rw [nextRowAux_cons _ b a (lev sp [b]) (lev sp []) (lev (a :: sp) []) s _ (.inr
          ⟨lev_le_of_length_le (by rw [List.length_cons]; omega) (Nat.zero_le _),
           lev_le_of_length_le (by omega) (Nat.le_add_left 1 253),
           lev_le_of_length_le (by omega) (Nat.zero_le _)⟩),
        ← lev_cons_cons, ih (a :: sp) hs' (by rw [List.length_cons]; omega)]
      rfl

theorem editDistance_overflow_source (s t : List α) (hs : s.length = 255) (ht : t ≠ [])
    (ht' : t.length ≤ 255) : editDistance .checked s t = .error .overflow := by
  obtain ⟨b, t, rfl⟩ := List.exists_cons_of_ne_nil ht
  have hrow := nextRowAux_overflow_source b s [] (List.ne_nil_of_length_pos (by omega))
    (by rw [hs]; rfl)
  simp only [lev_nil_left, List.length_cons, List.length_nil, Nat.zero_add] at hrow
  rw [editDistance_eq_edRows _ s _ (.inr (by omega)) (.inr ht')]
  simp only [edRows, Arith.cast, List.headD_cons, List.tail_cons, Nat.reduceMod, hrow]

/-- a target of 255 characters: `current_row[0] = 255`, and `current_row[i-1] + 1` overflows in
the last row -/
theorem editDistance_overflow_target (s t : List α) (hs : s ≠ []) (hs' : s.length ≤ 254)
    (ht : t.length = 255) : editDistance .checked s t = .error .overflow := by
  obtain ⟨a, s, rfl⟩ := List.exists_cons_of_ne_nil hs
  rcases List.eq_nil_or_concat t with rfl | ⟨t1, b, rfl⟩
  · cases ht
  · simp only [List.concat_eq_append, List.length_append, List.length_cons, List.length_nil] at ht
    have h1 := lev_le_max [a] t1.reverse
    simp only [List.length_cons, List.length_nil, List.length_reverse] at h1
    have hle : lev [a] t1.reverse + 1 ≤ 255 := by omega
    have ht1 : t1.reverse.length = 254 := by rw [List.length_reverse]; omega
    rw [editDistance_eq_edRows _ _ _ (.inr (by omega)) (.inr (by simp; omega)),
      List.concat_eq_append]
    refine (edRows_prefix .checked (a :: s) t1 [b] [] (.inr ⟨hs', by simp; omega⟩)).trans ?_
    -- last row: `c0 = cast 255 = 255`; `previous_row[1] + 1` passes (`hle`), then
    -- `current_row[0] + 1 = 255 + 1` overflows
    simp [edRows, Arith.cast, rowFrom, nextRowAux, Arith.add, hle, ht1]

theorem editDistance_assert (s t : List α) (h : 255 < s.length ∨ 255 < t.length) :
    editDistance .checked s t = .error .assertFail := by
  have : ¬ (s.length ≤ 255 ∧ t.length ≤ 255) := by omega
  simp [editDistance, Arith.lenOk, this]

end Rows

/-! ## Edit scripts: `lev` is invariant under reversal, symmetric, and a metric

Edit scripts: `Align s t n` — `s` can be turned into `t` by a script of cost `n`. `lev` is the
least cost of a script; scripts can be concatenated, hence extended at the far end, hence
reversed. -/
section Reverse
variable {α : Type} [DecidableEq α]

inductive Align : List α → List α → Nat → Prop
  | nil : Align [] [] 0
  | del (a : α) {s t n} : Align s t n → Align (a :: s) t (n + 1)
  | ins (b : α) {s t n} : Align s t n → Align s (b :: t) (n + 1)
  | sub (a b : α) {s t n} : Align s t n → Align (a :: s) (b :: t) (n + edCost a b)

theorem Align.cast {s t : List α} {n m : Nat} (h : Align s t n) (e : n = m) : Align s t m := e ▸ h

theorem Align.insAll (t : List α) : Align ([] : List α) t t.length := by
  induction t with
  | nil => exact .nil
  | cons b t ih => exact .ins b ih

theorem Align.delAll (s : List α) : Align s ([] : List α) s.length := by
  induction s with
  | nil => exact .nil
  | cons a s ih => exact .del a ih

theorem Align.of_lev (s t : List α) : Align s t (lev s t) := by
  fun_induction lev s t with
  | case1 t => exact Align.insAll t
  | case2 a s => exact Align.delAll (a :: s)
  | case3 a s b t ih1 ih2 ih3 =>
    have hmin : ∀ x y z : Nat, min (min x y) z = x ∨ min (min x y) z = y ∨ min (min x y) z = z := by
      omega
    rcases hmin (lev (a :: s) t + 1) (lev s (b :: t) + 1) (lev s t + edCost a b) with h | h | h
    · rw [h]; exact .ins b ih1
    · rw [h]; exact .del a ih2
    · rw [h]; exact .sub a b ih3

theorem Align.lev_le {s t : List α} {n : Nat} (h : Align s t n) : lev s t ≤ n := by
  induction h with
  | nil => exact Nat.le_of_eq (lev_nil_left [])
  | del a _ ih => exact Nat.le_trans (lev_cons_left_le a _ _) (Nat.succ_le_succ ih)
  | ins b _ ih => exact Nat.le_trans (lev_cons_right_le b _ _) (Nat.succ_le_succ ih)
  | sub a b _ ih => exact Nat.le_trans (lev_cons_cons_le a b _ _) (Nat.add_le_add_right ih _)

theorem Align.append {s t s' t' : List α} {n n' : Nat} (h : Align s t n) (h' : Align s' t' n') :
    Align (s ++ s') (t ++ t') (n + n') := by
  induction h with
  | nil => simpa using h'
  | del a _ ih => exact (Align.del a ih).cast (by omega)
  | ins b _ ih => exact (Align.ins b ih).cast (by omega)
  | sub a b _ ih => exact (Align.sub a b ih).cast (by omega)

theorem Align.reverse {s t : List α} {n : Nat} (h : Align s t n) :
    Align s.reverse t.reverse n := by
  induction h with
  | nil => exact .nil
  | del a _ ih => simpa using ih.append (.del a .nil)
  | ins b _ ih => simpa using ih.append (.ins b .nil)
  | sub a b _ ih => simpa using ih.append (.sub a b .nil)

/-- Levenshtein distance computed from the last character backwards is the same number. -/
theorem lev_reverse (s t : List α) : lev s.reverse t.reverse = lev s t := by
  have hle (s t : List α) : lev s.reverse t.reverse ≤ lev s t := (Align.of_lev s t).reverse.lev_le
  apply Nat.le_antisymm (hle s t)
  simpa using hle s.reverse t.reverse

theorem lev_le_iff (s t : List α) (n : Nat) : lev s t ≤ n ↔ ∃ k, k ≤ n ∧ Align s t k :=
  ⟨fun h => ⟨_, h, Align.of_lev s t⟩, fun ⟨_, hk, ha⟩ => Nat.le_trans ha.lev_le hk⟩

theorem Align.symm {s t : List α} {n : Nat} (h : Align s t n) : Align t s n := by
  induction h with
  | nil => exact .nil
  | del a _ ih => exact .ins a ih
  | ins b _ ih => exact .del b ih
  | sub a b _ ih =>
    exact edCost_comm b a ▸ Align.sub b a ih

theorem lev_comm (s t : List α) : lev s t = lev t s :=
  Nat.le_antisymm (Align.of_lev t s).symm.lev_le (Align.of_lev s t).symm.lev_le

/-- a script of cost 0 is the identity -/
theorem Align.eq_of_zero {s t : List α} {n : Nat} (h : Align s t n) (hn : n = 0) : s = t := by
  induction h with
  | nil => rfl
  | del a _ _ => omega
  | ins b _ _ => omega
  | @sub a b s t n _ ih =>
    have h1 : n = 0 := by omega
    have h2 : edCost a b = 0 := by omega
    rw [ih h1, edCost_eq_zero h2]

/-- edit scripts compose, costs add (at most) -/
theorem Align.trans {s t : List α} {n : Nat} (h1 : Align s t n) :
    ∀ {u : List α} {m : Nat}, Align t u m → ∃ k, k ≤ n + m ∧ Align s u k := by
  induction h1 with
  | nil => intro u m h2; exact ⟨m, by omega, h2⟩
  | @del a s t n _ ih =>
    intro u m h2
    obtain ⟨k, hk, hal⟩ := ih h2
    exact ⟨k + 1, by omega, .del a hal⟩
  | @ins b s t n h ih =>
    intro u m h2
    generalize hbt : b :: t = bt at h2
    induction h2 with
    | nil => cases hbt
    | @del a' s' u' m' h2' _ =>
      cases hbt
      obtain ⟨k, hk, hal⟩ := ih h2'
      exact ⟨k, by omega, hal⟩
    | @ins c s' u' m' _ ih2 =>
      obtain ⟨k, hk, hal⟩ := ih2 hbt
      exact ⟨k + 1, by omega, .ins c hal⟩
    | @sub a' c s' u' m' h2' _ =>
      cases hbt
      obtain ⟨k, hk, hal⟩ := ih h2'
      exact ⟨k + 1, by omega, .ins c hal⟩
  | @sub a b s t n h ih =>
    intro u m h2
    generalize hbt : b :: t = bt at h2
    induction h2 with
    | nil => cases hbt
    | @del a' s' u' m' h2' _ =>
      cases hbt
      obtain ⟨k, hk, hal⟩ := ih h2'
      exact ⟨k + 1, by omega, .del a hal⟩
    | @ins c s' u' m' _ ih2 =>
      obtain ⟨k, hk, hal⟩ := ih2 hbt
      exact ⟨k + 1, by omega, .ins c hal⟩
    | @sub a' c s' u' m' h2' _ =>
      cases hbt
      obtain ⟨k, hk, hal⟩ := ih h2'
      have := C15.edCost_triangle a b c
      exact ⟨k + edCost a c, by omega, .sub a c hal⟩

theorem Align.append_left (p : List α) {s t : List α} {n : Nat} (h : Align s t n) :
    Align (p ++ s) (p ++ t) n := by
  induction p with
  | nil => exact h
  | cons a p ih => exact (Align.sub a a ih).cast (by rw [edCost_self]; rfl)

end Reverse

/-! ## The model computes `lev`; evaluating `lev` -/
section Corollaries
variable {α : Type} [DecidableEq α]

/-- the model computes `lev` (head-recursive form) -/
theorem editDistance_eq_lev (m : Arith) (s t : List α)
    (hm : m = .nat ∨ (s.length ≤ 254 ∧ t.length ≤ 254)) :
    editDistance m s t = .ok (lev s t) := by
  rw [editDistance_eq_lev_reverse m s t hm, lev_reverse]

/-- evaluate `lev` on concrete strings by running the (structurally recursive) model -/
theorem lev_of_editDistance {s t : List α} {n : Nat} (h : editDistance .nat s t = .ok n) :
    lev s t = n := by
  rw [editDistance_eq_lev .nat s t (.inl rfl)] at h
  exact Except.ok.inj h

/-- the same as a rewrite rule: after it, closed statements about `lev` are decided by the kernel -/
theorem lev_eq_run (s t : List α) : lev s t = (editDistance .nat s t).toOption.getD 0 := by
  rw [editDistance_eq_lev .nat s t (.inl rfl)]; rfl

end Corollaries

/-! ## Fuzzy search of the mutable dictionary -/
section Fuzzy
variable {β : Type}

theorem inWindow_iff (ql b wl : Nat) :
    inWindow ql b wl = true ↔ (if ql ≤ b then 1 else ql - b) ≤ wl ∧ wl ≤ ql + b := by
  simp [inWindow]

/-- what the scan of `fuzzy_match` yields, as a specification: the candidates it keeps, in dictionary
order, each with the distance it reports -/
def fuzzyPool (bound : Nat) (q ql : List Char) (ws : List (β × List Char)) : List (β × Nat) :=
  (ws.filter fun xw => inWindow q.length bound xw.2.length &&
      decide (min (lev q xw.2) (lev ql xw.2) ≤ bound)).map fun xw => (xw.1, min (lev q xw.2) (lev ql xw.2))

/-- the scan never panics when the query (and its lower-case form) is short enough for every
candidate in the length window to have at most 254 characters, and then it is the specification -/
theorem fuzzyScan_eq (m : Arith) (bound : Nat) (q ql : List Char) (ws : List (β × List Char))
    (hq : m = .nat ∨ (q.length + bound ≤ 254 ∧ ql.length ≤ 254)) :
    fuzzyScan m bound q ql ws = .ok (fuzzyPool bound q ql ws) := by
  induction ws with
  | nil => rfl
  | cons xw ws ih =>
    obtain ⟨x, w⟩ := xw
    unfold fuzzyPool at ih ⊢
    by_cases hw : inWindow q.length bound w.length = true
    · have hwl := (inWindow_iff _ _ _).mp hw
      simp only [fuzzyScan, hw, if_true, ih, List.filter_cons, Bool.true_and,
        editDistance_eq_lev m q w (hq.imp_right fun _ => by omega),
        editDistance_eq_lev m ql w (hq.imp_right fun _ => by omega)]
      by_cases hb : min (lev q w) (lev ql w) ≤ bound
      · simp only [hb, decide_true, if_true, List.map_cons]
      · simp only [hb, decide_false, Bool.false_eq_true, if_false]
    · simp only [fuzzyScan, hw, ih, List.filter_cons, Bool.false_and, if_false, Bool.false_eq_true]

theorem fuzzyMatch_eq (m : Arith) (bound cap : Nat) (q ql : List Char) (ws : List (β × List Char))
    (hq : m = .nat ∨ (q.length + bound ≤ 254 ∧ ql.length ≤ 254)) :
    fuzzyMatch m bound cap q ql ws = .ok ((sortByDist (fuzzyPool bound q ql ws)).take cap) := by
  simp only [fuzzyMatch, fuzzyAll, fuzzyScan_eq m bound q ql ws hq]

/-- the fuzzy search's sort is the stable insertion sort of `Lemmas/SortSweep.lean`, by distance -/
theorem sortByDist_eq : @sortByDist β = isortBy (fun a b => decide (a.2 ≤ b.2)) := by
  have hi : ∀ (x : β × Nat) l, insertByDist x l = insertBy (fun a b => decide (a.2 ≤ b.2)) x l := by
    intro x l
    induction l with
    | nil => rfl
    | cons y ys ih => simp only [insertByDist, insertBy, ih, decide_eq_true_eq]
  funext l
  induction l with
  | nil => rfl
  | cons x xs ih => rw [sortByDist, isortBy, hi, ih]

theorem sortByDist_perm (l : List (β × Nat)) : (sortByDist l).Perm l := by
  rw [sortByDist_eq]; exact isortBy_perm _ l

theorem sortByDist_sorted (l : List (β × Nat)) :
    (sortByDist l).Pairwise (fun a b => a.2 ≤ b.2) := by
  rw [sortByDist_eq]
  exact (isortBy_sorted _ (fun a b => by simp only [decide_eq_true_eq]; omega)
    (fun h1 h2 => by simp only [decide_eq_true_eq] at *; omega) l).imp of_decide_eq_true

/-- an input that is already sorted is left as it is, ties in their order: a consequence of the sort's
stability, and all of it that is used -/
theorem sortByDist_of_sorted (l : List (β × Nat)) (h : l.Pairwise (fun a b => a.2 ≤ b.2)) :
    sortByDist l = l := by
  rw [sortByDist_eq]; exact isortBy_of_sorted _ (h.imp decide_eq_true)

theorem filterMap_ite {α γ : Type} (p : α → Prop) [DecidablePred p] (g : α → γ) (l : List α) :
    l.filterMap (fun a => if p a then some (g a) else none)
      = (l.filter fun a => decide (p a)).map g := by
  induction l with
  | nil => rfl
  | cons a l ih =>
    by_cases h : p a <;> simp [h, ih]

theorem fuzzyPool_fst_sublist (bound : Nat) (q ql : List Char) (ws : List (β × List Char)) :
    ((fuzzyPool bound q ql ws).map (·.1)).Sublist (ws.map (·.1)) := by
  rw [fuzzyPool, List.map_map]
  exact List.filter_sublist.map _

theorem length_fuzzyPool_le (bound : Nat) (q ql : List Char) (ws : List (β × List Char)) :
    (fuzzyPool bound q ql ws).length ≤
      (ws.filter (fun xw => decide (min (lev q xw.2) (lev ql xw.2) ≤ bound))).length := by
  simp only [fuzzyPool, List.length_map, ← List.filter_filter]
  exact List.length_filter_le _ _

/-- a word within the bound of the query is never cut off by the length window (empty words are) -/
theorem inWindow_of_lev_le (q w : List Char) (bound : Nat) (hw : w ≠ []) (h : lev q w ≤ bound) :
    inWindow q.length bound w.length = true := by
  have := lev_length_bounds q w
  have : 0 < w.length := List.length_pos_iff.mpr hw
  rw [inWindow_iff]
  split <;> omega

theorem mem_fuzzy {bound cap : Nat} {q ql : List Char} {ws : List (β × List Char)} :
    ∀ r ∈ (sortByDist (fuzzyPool bound q ql ws)).take cap,
      ∃ w, (r.1, w) ∈ ws ∧ r.2 = min (lev q w) (lev ql w) ∧ r.2 ≤ bound := by
  intro r hr
  obtain ⟨xw, hxw, rfl⟩ := List.mem_map.mp ((sortByDist_perm _).mem_iff.mp (List.mem_of_mem_take hr))
  obtain ⟨hm, hk⟩ := List.mem_filter.mp hxw
  exact ⟨xw.2, hm, rfl, of_decide_eq_true (Bool.and_eq_true_iff.mp hk).2⟩

theorem near_mem_fuzzy {bound : Nat} {q ql w : List Char} {ws : List (β × List Char)}
    {x : β} (hxw : (x, w) ∈ ws) (hw : w ≠ [])
    (hd : lev q w ≤ bound ∨ (ql.length = q.length ∧ lev ql w ≤ bound)) :
    (x, min (lev q w) (lev ql w)) ∈ sortByDist (fuzzyPool bound q ql ws) := by
  have hwin : inWindow q.length bound w.length = true := by
    rcases hd with h | ⟨hl, h⟩
    · exact inWindow_of_lev_le q w bound hw h
    · rw [← hl]; exact inWindow_of_lev_le ql w bound hw h
  have hmin : min (lev q w) (lev ql w) ≤ bound := by omega
  exact (sortByDist_perm _).mem_iff.mpr (List.mem_map.mpr
    ⟨_, List.mem_filter.mpr ⟨hxw, Bool.and_eq_true_iff.mpr ⟨hwin, decide_eq_true hmin⟩⟩, rfl⟩)

theorem take_fuzzy_of_cap {bound cap : Nat} {q ql : List Char} {ws : List (β × List Char)}
    (hcap : (ws.filter (fun xw => decide (min (lev q xw.2) (lev ql xw.2) ≤ bound))).length ≤ cap) :
    (sortByDist (fuzzyPool bound q ql ws)).take cap = sortByDist (fuzzyPool bound q ql ws) :=
  List.take_of_length_le (by
    rw [(sortByDist_perm _).length_eq]
    exact Nat.le_trans (length_fuzzyPool_le bound q ql ws) hcap)

end Fuzzy

/-! ## The FST back-end's positional merge -/
section Fst

theorem zipPick_mem (us ls : List (Nat × Nat)) : ∀ r ∈ zipPick us ls, r ∈ us ∨ r ∈ ls := by
  induction us generalizing ls with
  | nil => simp [zipPick]
  | cons u us ih =>
    cases ls with
    | nil => simp [zipPick]
    | cons l ls =>
      intro r hr
      simp only [zipPick, List.mem_cons] at hr
      rcases hr with rfl | hr
      · split <;> simp
      · rcases ih ls r hr with h | h
        · exact .inl (List.mem_cons_of_mem _ h)
        · exact .inr (List.mem_cons_of_mem _ h)

theorem zipPick_self (us : List (Nat × Nat)) : zipPick us us = us := by
  induction us with
  | nil => rfl
  | cons u us ih => simp [zipPick, ih]

theorem sortByIdx_perm (l : List (Nat × Nat)) : (sortByIdx l).Perm l := by
  unfold sortByIdx
  have := ((sortByDist_perm (l.map Prod.swap)).map Prod.swap)
  simpa [Function.comp_def] using this

theorem sortByIdx_sorted (l : List (Nat × Nat)) : (sortByIdx l).Pairwise (fun a b => a.1 ≤ b.1) := by
  unfold sortByIdx
  have := sortByDist_sorted (l.map Prod.swap)
  rw [List.pairwise_map]
  exact this.imp (fun h => by simpa using h)

theorem sortByIdx_of_sorted (l : List (Nat × Nat)) (h : l.Pairwise (fun a b => a.1 ≤ b.1)) :
    sortByIdx l = l := by
  unfold sortByIdx
  rw [sortByDist_of_sorted]
  · simp [Function.comp_def]
  · rw [List.pairwise_map]
    exact h.imp (fun h => by simpa using h)

theorem dedupAux_sub (p : Nat) (l : List (Nat × Nat)) : (dedupAux p l).Sublist l := by
  induction l generalizing p with
  | nil => simp [dedupAux]
  | cons y r ih =>
    unfold dedupAux
    split
    · exact (ih p).cons _
    · exact (ih y.1).cons_cons _

theorem dedupIdx_sub (l : List (Nat × Nat)) : (dedupIdx l).Sublist l := by
  cases l with
  | nil => simp [dedupIdx]
  | cons x r => exact (dedupAux_sub x.1 r).cons_cons _

theorem dedupAux_strict (p : Nat) (l : List (Nat × Nat))
    (h : l.Pairwise (fun a b => a.1 ≤ b.1)) (hp : ∀ y ∈ l, p ≤ y.1) :
    (dedupAux p l).Pairwise (fun a b => a.1 < b.1) ∧ ∀ y ∈ dedupAux p l, p < y.1 := by
  induction l generalizing p with
  | nil => simp [dedupAux]
  | cons y r ih =>
    have ⟨hy, hr⟩ := List.pairwise_cons.mp h
    unfold dedupAux
    split
    · rename_i he
      exact ih p hr (fun z hz => hp z (List.mem_cons_of_mem _ hz))
    · rename_i hne
      have hpy := hp y List.mem_cons_self
      have ⟨h1, h2⟩ := ih y.1 hr hy
      refine ⟨List.pairwise_cons.mpr ⟨h2, h1⟩, ?_⟩
      intro z hz
      rcases List.mem_cons.mp hz with rfl | hz
      · omega
      · have := h2 z hz; omega

theorem dedupIdx_strict (l : List (Nat × Nat)) (h : l.Pairwise (fun a b => a.1 ≤ b.1)) :
    (dedupIdx l).Pairwise (fun a b => a.1 < b.1) := by
  cases l with
  | nil => simp [dedupIdx]
  | cons x r =>
    have ⟨hx, hr⟩ := List.pairwise_cons.mp h
    have ⟨h1, h2⟩ := dedupAux_strict x.1 r hr hx
    exact List.pairwise_cons.mpr ⟨h2, h1⟩

theorem dedupAux_of_strict (p : Nat) (l : List (Nat × Nat)) (hp : ∀ y ∈ l, p < y.1)
    (h : l.Pairwise (fun a b => a.1 < b.1)) : dedupAux p l = l := by
  induction l generalizing p with
  | nil => simp [dedupAux]
  | cons y r ih =>
    have ⟨hy, hr⟩ := List.pairwise_cons.mp h
    have := hp y List.mem_cons_self
    unfold dedupAux
    rw [if_neg (by omega), ih y.1 hy hr]

theorem dedupIdx_of_strict (l : List (Nat × Nat)) (h : l.Pairwise (fun a b => a.1 < b.1)) :
    dedupIdx l = l := by
  cases l with
  | nil => rfl
  | cons x r =>
    have ⟨hx, hr⟩ := List.pairwise_cons.mp h
    simp [dedupIdx, dedupAux_of_strict x.1 r hx hr]

theorem fstStream_eq (bound : Nat) (q : List Char) (ws : List (Nat × List Char)) :
    fstStream bound q ws
      = (ws.filter (fun iw => decide (lev q iw.2 ≤ bound))).map (fun iw => (iw.1, lev q iw.2)) := by
  simp only [fstStream, editDistance_eq_lev .nat q _ (.inl rfl)]
  exact filterMap_ite _ _ ws

theorem mem_fstStream (bound : Nat) (q : List Char) (ws : List (Nat × List Char)) (r : Nat × Nat) :
    r ∈ fstStream bound q ws ↔ ∃ w, (r.1, w) ∈ ws ∧ r.2 = lev q w ∧ r.2 ≤ bound := by
  rw [fstStream_eq, List.mem_map]
  constructor
  · rintro ⟨iw, h, rfl⟩
    have := List.mem_filter.mp h
    exact ⟨iw.2, this.1, rfl, of_decide_eq_true this.2⟩
  · rintro ⟨w, hw, hd, hb⟩
    exact ⟨(r.1, w), List.mem_filter.mpr ⟨hw, decide_eq_true (hd ▸ hb)⟩, Prod.ext rfl hd.symm⟩

theorem fstStream_fst_sublist (bound : Nat) (q : List Char) (ws : List (Nat × List Char)) :
    ((fstStream bound q ws).map (·.1)).Sublist (ws.map (·.1)) := by
  rw [fstStream_eq, List.map_map]
  exact List.filter_sublist.map _

theorem zipMergeAll_nodup (us ls : List (Nat × Nat)) :
    ((zipMergeAll us ls).map (·.1)).Nodup := by
  unfold zipMergeAll
  have hs := dedupIdx_strict _ (sortByIdx_sorted (zipPick us ls))
  have hn : ((dedupIdx (sortByIdx (zipPick us ls))).map (·.1)).Nodup := by
    rw [List.Nodup, List.pairwise_map]
    exact hs.imp (fun h => by omega)
  exact ((sortByDist_perm _).map _).nodup_iff.mpr hn

end Fst

/-! ## Dictionaries -/
section Dicts

theorem Dict.lookup_insert (e : DictEntry) (d : Dict) (k : List Char) :
    (Dict.insert e d).lookup k = if e.key = k then some e else d.lookup k := by
  induction d with
  | nil => simp [Dict.insert, Dict.lookup, List.find?]
  | cons x xs ih =>
    simp only [Dict.lookup] at ih ⊢
    unfold Dict.insert
    split
    · rename_i hx
      by_cases hk : e.key = k
      · simp [hk, List.find?]
      · have : ¬ x.key = k := by rw [hx]; exact hk
        simp [hk, this, List.find?]
    · rename_i hx
      by_cases hxk : x.key = k
      · have : ¬ e.key = k := by rw [← hxk]; exact fun h => hx h.symm
        simp [hxk, this, List.find?]
      · simp [hxk, List.find?, ih]

theorem Dict.lookup_key {d : Dict} {k : List Char} {e : DictEntry} (h : d.lookup k = some e) :
    e.key = k ∧ e ∈ d := by
  unfold Dict.lookup at h
  have h1 := List.find?_some h
  have h2 := List.mem_of_find?_eq_some h
  exact ⟨by simpa using h1, h2⟩

theorem Merged.lookup_eq_flatten (ds : Merged) (k : List Char) :
    Merged.lookup ds k = Dict.lookup ds.flatten k := by
  induction ds with
  | nil => simp [Merged.lookup, Dict.lookup]
  | cons d ds ih =>
    simp only [Merged.lookup, Dict.lookup, List.findSome?_cons, List.flatten_cons,
      List.find?_append] at ih ⊢
    cases h : List.find? (fun e => decide (e.key = k)) d with
    | none => rw [ih]; rfl
    | some e => rfl

theorem Merged.lookup_first (pre : List Dict) (d : Dict) (post : List Dict) (k : List Char)
    (hpre : ∀ p ∈ pre, p.lookup k = none) (hd : (d.lookup k).isSome) :
    Merged.lookup (pre ++ d :: post) k = d.lookup k := by
  induction pre with
  | nil =>
    simp only [Merged.lookup, List.nil_append, List.findSome?_cons]
    cases h : d.lookup k with
    | none => simp [h] at hd
    | some e => rfl
  | cons p pre ih =>
    have hp := hpre p List.mem_cons_self
    simp only [Merged.lookup, List.cons_append, List.findSome?_cons, hp] at ih ⊢
    exact ih (fun p' hp' => hpre p' (List.mem_cons_of_mem _ hp'))

theorem Merged.lookup_none (ds : Merged) (k : List Char) :
    Merged.lookup ds k = none ↔ ∀ d ∈ ds, d.lookup k = none := by
  simp [Merged.lookup]

theorem Merged.fuzzyMatch_eq (m : Arith) (bound cap : Nat) (q ql : List Char) (ds : Merged)
    (hq : m = .nat ∨ (q.length + bound ≤ 254 ∧ ql.length ≤ 254)) :
    Merged.fuzzyMatch m bound cap q ql ds = .ok ((sortByDist (ds.flatMap fun d =>
      (sortByDist (fuzzyPool bound q ql d.tagged)).take cap)).take cap) := by
  have hflat : Merged.fuzzyFlat m bound cap q ql ds = .ok (ds.flatMap fun d =>
      (sortByDist (fuzzyPool bound q ql d.tagged)).take cap) := by
    induction ds with
    | nil => rfl
    | cons d ds ih =>
      simp only [Merged.fuzzyFlat, Harper.fuzzyMatch_eq m bound cap q ql d.tagged hq, ih,
        List.flatMap_cons]
  simp only [Merged.fuzzyMatch, hflat]

end Dicts
end Harper
