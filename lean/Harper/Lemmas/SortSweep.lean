/-! Overlap removal over ANY element type that carries a span: the stable insertion sort `isortBy le`
(any order `le`; also the sort of the fuzzy search, by distance), the greedy sweep `sweepBy s e` and their
composition `removeOverlapsBy s e`. The models' sorts and sweeps on `Lint`, `RuleLint`, raw lints and
`(word, distance)` pairs are instances (`insertSorted_eq`, …). The one theorem that relates instances is
naturality, `removeOverlapsBy_filterMap`: reading every element back through a partial map `u` that keeps the
span, up to a move by `k`, commutes with overlap removal. -/
namespace Harper
universe u v

/-! ### the stable insertion sort -/
section InsSort
variable {α : Type u} (le : α → α → Bool)

def insertBy (x : α) : List α → List α
  | [] => [x]
  | y :: ys => if le x y then x :: y :: ys else y :: insertBy x ys

def isortBy : List α → List α
  | [] => []
  | x :: xs => insertBy le x (isortBy xs)

theorem insertBy_perm (x : α) (ys : List α) : (insertBy le x ys).Perm (x :: ys) := by
  induction ys with
  | nil => exact List.Perm.refl _
  | cons y ys ih =>
    unfold insertBy
    split
    · exact List.Perm.refl _
    · exact (List.Perm.cons y ih).trans (List.Perm.swap x y ys)

theorem isortBy_perm (l : List α) : (isortBy le l).Perm l := by
  induction l with
  | nil => exact List.Perm.refl _
  | cons x xs ih => exact (insertBy_perm le x _).trans (List.Perm.cons x ih)

theorem insertBy_of_le_all {x : α} {ys : List α} (h : ∀ y ∈ ys, le x y = true) :
    insertBy le x ys = x :: ys := by
  cases ys with
  | nil => rfl
  | cons y ys => rw [insertBy, if_pos (h y List.mem_cons_self)]

theorem isortBy_of_sorted {l : List α} (h : l.Pairwise (fun a b => le a b = true)) : isortBy le l = l := by
  induction l with
  | nil => rfl
  | cons x xs ih =>
    have ⟨h1, h2⟩ := List.pairwise_cons.mp h
    rw [isortBy, ih h2, insertBy_of_le_all le h1]

section
variable (htot : ∀ a b, le a b = true ∨ le b a = true)
  (htr : ∀ {a b c}, le a b = true → le b c = true → le a c = true)
include htot htr

theorem insertBy_sorted (x : α) {ys : List α} (h : ys.Pairwise (fun a b => le a b = true)) :
    (insertBy le x ys).Pairwise (fun a b => le a b = true) := by
  induction ys with
  | nil => exact List.pairwise_singleton _ _
  | cons y ys ih =>
    have ⟨h1, h2⟩ := List.pairwise_cons.mp h
    unfold insertBy
    split
    · next hxy =>
      refine List.pairwise_cons.mpr ⟨fun b hb => ?_, h⟩
      rcases List.mem_cons.mp hb with rfl | hb
      · exact hxy
      · exact htr hxy (h1 b hb)
    · next hxy =>
      refine List.pairwise_cons.mpr ⟨fun b hb => ?_, ih h2⟩
      rcases List.mem_cons.mp ((insertBy_perm le x ys).mem_iff.mp hb) with rfl | hb
      · exact (htot b y).resolve_left hxy
      · exact h1 b hb

theorem isortBy_sorted (l : List α) : (isortBy le l).Pairwise (fun a b => le a b = true) := by
  induction l with
  | nil => exact List.Pairwise.nil
  | cons x xs ih => exact insertBy_sorted le htot htr x ih
end

/-- stability: inserting `x` does not move it past an element it is `le` to, so a class `p` of elements
that are mutually `le` (equal keys) keeps its order -/
theorem insertBy_filter (p : α → Bool) (x : α) (ys : List α)
    (hp : ∀ y ∈ ys, p x = true → p y = true → le x y = true) :
    (insertBy le x ys).filter p = (x :: ys).filter p := by
  induction ys with
  | nil => rfl
  | cons y ys ih =>
    have ih' := ih (fun z hz => hp z (List.mem_cons_of_mem _ hz))
    unfold insertBy
    split
    · rfl
    · next hxy =>
      simp only [List.filter_cons, ih']
      cases hx : p x
      · simp only [Bool.false_eq_true, if_false]
      · have hy : p y = false := by
          cases hy : p y
          · rfl
          · exact absurd (hp y List.mem_cons_self hx hy) hxy
        simp only [hy, Bool.false_eq_true, if_false]

theorem isortBy_filter (p : α → Bool) (hp : ∀ a b, p a = true → p b = true → le a b = true)
    (l : List α) : (isortBy le l).filter p = l.filter p := by
  induction l with
  | nil => rfl
  | cons x xs ih =>
    rw [isortBy, insertBy_filter le p x _ (fun y _ => hp x y), List.filter_cons, List.filter_cons, ih]

theorem insertBy_append_left (a : α) (X : List α) {Y : List α} (h : ∀ y ∈ Y, le a y = true) :
    insertBy le a (X ++ Y) = insertBy le a X ++ Y := by
  induction X with
  | nil => exact insertBy_of_le_all le h
  | cons x X ih =>
    simp only [List.cons_append, insertBy]
    rw [apply_ite (· ++ Y), ih]
    rfl

/-- `b` sorts strictly after everything in `X` (not even an equal key): it travels through `X` -/
theorem insertBy_append_right (b : α) {X : List α} (Y : List α) (h : ∀ x ∈ X, le b x = false) :
    insertBy le b (X ++ Y) = X ++ insertBy le b Y := by
  induction X with
  | nil => rfl
  | cons x X ih =>
    rw [List.cons_append, insertBy, h x List.mem_cons_self, if_neg Bool.false_ne_true,
      ih (fun z hz => h z (List.mem_cons_of_mem _ hz)), List.cons_append]

theorem isortBy_append (A B : List α) (h : ∀ a ∈ A, ∀ b ∈ B, le a b = true) :
    isortBy le (A ++ B) = isortBy le A ++ isortBy le B := by
  induction A with
  | nil => rfl
  | cons a A ih =>
    rw [List.cons_append, isortBy, ih (fun x hx => h x (List.mem_cons_of_mem _ hx)), isortBy]
    exact insertBy_append_left le a _ fun y hy =>
      h a List.mem_cons_self y ((isortBy_perm le B).mem_iff.mp hy)

/-- the stable sort of any interleaving of two classes, the first strictly before the second, is the
sorted first class followed by the sorted second class -/
theorem isortBy_split (p : α → Bool) : ∀ (L : List α),
    (∀ a ∈ L, ∀ b ∈ L, p a = true → p b = false → le a b = true ∧ le b a = false) →
    isortBy le L = isortBy le (L.filter p) ++ isortBy le (L.filter fun x => !p x)
  | [], _ => rfl
  | x :: xs, h => by
    have ih := isortBy_split p xs
      (fun a ha b hb => h a (List.mem_cons_of_mem _ ha) b (List.mem_cons_of_mem _ hb))
    have hm : ∀ (q : α → Bool) y, y ∈ isortBy le (xs.filter q) → y ∈ x :: xs ∧ q y = true :=
      fun q y hy => by
        have := List.mem_filter.mp ((isortBy_perm le _).mem_iff.mp hy)
        exact ⟨List.mem_cons_of_mem _ this.1, this.2⟩
    rw [isortBy, ih, List.filter_cons, List.filter_cons]
    cases hp : p x with
    | true =>
      rw [if_pos rfl, Bool.not_true, if_neg Bool.false_ne_true, isortBy]
      exact insertBy_append_left le x _ fun y hy =>
        (h x List.mem_cons_self y (hm _ y hy).1 hp (by simpa using (hm _ y hy).2)).1
    | false =>
      rw [if_neg Bool.false_ne_true, Bool.not_false, if_pos rfl, isortBy]
      exact insertBy_append_right le x _ fun a ha =>
        (h a (hm _ a ha).1 x List.mem_cons_self (hm _ a ha).2 hp).2

variable {β : Type v} (le' : β → β → Bool) (u : α → Option β)

theorem insertBy_filterMap {x : α} {cx : β} (hx : u x = some cx) : ∀ ys : List α,
    (∀ y ∈ ys, ∃ cy, u y = some cy ∧ le' cx cy = le x y) →
    (insertBy le x ys).filterMap u = insertBy le' cx (ys.filterMap u)
  | [], _ => by rw [insertBy, List.filterMap_cons, hx]; rfl
  | y :: ys, h => by
    obtain ⟨cy, hy, hle⟩ := h y List.mem_cons_self
    have ih := insertBy_filterMap hx ys (fun z hz => h z (List.mem_cons_of_mem _ hz))
    rw [insertBy, List.filterMap_cons, hy, insertBy, hle, apply_ite (List.filterMap u),
      List.filterMap_cons, hx, List.filterMap_cons, hy, List.filterMap_cons, hy, ih]

end InsSort

/-! ### the sweep, and overlap removal -/
section Sweep
variable {α : Type u} (s e : α → Nat)

/-- the sort key order of `sort_by_key(|l| (l.span.start, !0 - l.span.end))` -/
def leBy (a b : α) : Bool := s a < s b || (s a == s b && e b ≤ e a)

theorem leBy_iff {a b : α} : leBy s e a b = true ↔ s a < s b ∨ (s a = s b ∧ e b ≤ e a) := by
  simp only [leBy, Bool.or_eq_true, decide_eq_true_eq, Bool.and_eq_true, beq_iff_eq]

theorem leBy_total (a b : α) : leBy s e a b = true ∨ leBy s e b a = true := by
  rw [leBy_iff, leBy_iff]; omega

theorem leBy_trans {a b c : α} (h1 : leBy s e a b = true) (h2 : leBy s e b c = true) :
    leBy s e a c = true := by
  rw [leBy_iff] at *; omega

/-- (kept, dropped): a lint that starts before the end `cur` of the last kept one is dropped -/
def sweepBy (cur : Nat) : List α → List α × List α
  | [] => ([], [])
  | l :: ls =>
    if s l < cur then ((sweepBy cur ls).1, l :: (sweepBy cur ls).2)
    else (l :: (sweepBy (e l) ls).1, (sweepBy (e l) ls).2)

def removeOverlapsBy (l : List α) : List α := (sweepBy s e 0 (isortBy (leBy s e) l)).1

variable {s e}

theorem sweepBy_cons_drop {cur : Nat} {l : α} (h : s l < cur) (ls : List α) :
    sweepBy s e cur (l :: ls) = ((sweepBy s e cur ls).1, l :: (sweepBy s e cur ls).2) := by
  rw [sweepBy, if_pos h]

theorem sweepBy_cons_keep {cur : Nat} {l : α} (h : ¬ s l < cur) (ls : List α) :
    sweepBy s e cur (l :: ls) = (l :: (sweepBy s e (e l) ls).1, (sweepBy s e (e l) ls).2) := by
  rw [sweepBy, if_neg h]

theorem sweepBy_sublist (cur : Nat) (ls : List α) : (sweepBy s e cur ls).1.Sublist ls := by
  induction ls generalizing cur with
  | nil => exact List.Sublist.refl _
  | cons l ls ih =>
    by_cases h : s l < cur
    · rw [sweepBy_cons_drop h]; exact List.Sublist.cons _ (ih cur)
    · rw [sweepBy_cons_keep h]; exact List.Sublist.cons_cons _ (ih (e l))

theorem sweepBy_perm (cur : Nat) (ls : List α) :
    ((sweepBy s e cur ls).1 ++ (sweepBy s e cur ls).2).Perm ls := by
  induction ls generalizing cur with
  | nil => exact List.Perm.refl _
  | cons l ls ih =>
    by_cases h : s l < cur
    · rw [sweepBy_cons_drop h]; exact List.perm_middle.trans (List.Perm.cons _ (ih cur))
    · rw [sweepBy_cons_keep h]; exact List.Perm.cons _ (ih (e l))

/-- on a start-sorted list the kept lints are pairwise disjoint; `start ≤ end` is not needed: the next
kept lint starts at or after `cur` by sortedness -/
theorem sweepBy_kept_sorted (cur : Nat) (ls : List α) (hs : ls.Pairwise (fun a b => s a ≤ s b)) :
    (∀ k ∈ (sweepBy s e cur ls).1, cur ≤ s k) ∧
    (sweepBy s e cur ls).1.Pairwise (fun a b => e a ≤ s b) := by
  induction ls generalizing cur with
  | nil => exact ⟨fun _ h => (nomatch h), List.Pairwise.nil⟩
  | cons l ls ih =>
    have ⟨hle, hs'⟩ := List.pairwise_cons.mp hs
    by_cases h : s l < cur
    · rw [sweepBy_cons_drop h]; exact ih cur hs'
    · rw [sweepBy_cons_keep h]
      have ⟨h1, h2⟩ := ih (e l) hs'
      refine ⟨fun k hk => ?_, List.pairwise_cons.mpr ⟨h1, h2⟩⟩
      rcases List.mem_cons.mp hk with rfl | hk
      · omega
      · have := hle k ((sweepBy_sublist (e l) ls).subset hk); omega

/-- every dropped lint starts inside a kept lint, or in `[lo, cur)` where `lo` is a lower bound of
all starts (the bound a kept lint preceding the list leaves behind). -/
theorem sweepBy_dropped (cur : Nat) (ls : List α) (hs : ls.Pairwise (fun a b => s a ≤ s b))
    (lo : Nat) (hlo : ∀ l ∈ ls, lo ≤ s l) :
    ∀ d ∈ (sweepBy s e cur ls).2,
      (lo ≤ s d ∧ s d < cur) ∨ ∃ k ∈ (sweepBy s e cur ls).1, s k ≤ s d ∧ s d < e k := by
  induction ls generalizing cur lo with
  | nil => intro d hd; cases hd
  | cons l ls ih =>
    have ⟨hle, hs'⟩ := List.pairwise_cons.mp hs
    intro d hd
    by_cases h : s l < cur
    · rw [sweepBy_cons_drop h] at hd ⊢
      rcases List.mem_cons.mp hd with rfl | hd
      · exact Or.inl ⟨hlo _ List.mem_cons_self, h⟩
      · exact ih cur hs' lo (fun x hx => hlo x (List.mem_cons_of_mem _ hx)) d hd
    · rw [sweepBy_cons_keep h] at hd ⊢
      rcases ih (e l) hs' (s l) hle d hd with ⟨h1, h2⟩ | ⟨k, hk, hkd⟩
      · exact Or.inr ⟨l, List.mem_cons_self, h1, h2⟩
      · exact Or.inr ⟨k, List.mem_cons_of_mem _ hk, hkd⟩

theorem sweepBy_cur {Y : List α} {cur : Nat} (h : ∀ y ∈ Y, cur ≤ s y) :
    sweepBy s e cur Y = sweepBy s e 0 Y := by
  cases Y with
  | nil => rfl
  | cons y Y =>
    have := h y List.mem_cons_self
    rw [sweepBy_cons_keep (by omega), sweepBy_cons_keep (Nat.not_lt_zero _)]

/-- the first part ends before the second part starts: the running end never reaches across -/
theorem sweepBy_append_sep (X Y : List α) (h : ∀ x ∈ X, ∀ y ∈ Y, e x ≤ s y) :
    ∀ cur, (∀ y ∈ Y, cur ≤ s y) →
      (sweepBy s e cur (X ++ Y)).1 = (sweepBy s e cur X).1 ++ (sweepBy s e 0 Y).1 := by
  induction X with
  | nil => intro cur hc; rw [List.nil_append, sweepBy_cur hc]; rfl
  | cons x X ih =>
    intro cur hc
    have ih' := ih (fun z hz => h z (List.mem_cons_of_mem _ hz))
    rw [List.cons_append]
    by_cases hx : s x < cur
    · rw [sweepBy_cons_drop hx, sweepBy_cons_drop hx]; exact ih' cur hc
    · rw [sweepBy_cons_keep hx, sweepBy_cons_keep hx]
      exact congrArg (x :: ·) (ih' (e x) (h x List.mem_cons_self))

theorem sweepBy_of_resolved (cur : Nat) (l : List α)
    (h0 : ∀ x ∈ l, cur ≤ s x) (hd : l.Pairwise (fun a b => e a ≤ s b)) :
    sweepBy s e cur l = (l, []) := by
  induction l generalizing cur with
  | nil => rfl
  | cons x xs ih =>
    have ⟨h1, h2⟩ := List.pairwise_cons.mp hd
    rw [sweepBy_cons_keep (Nat.not_lt.mpr (h0 x List.mem_cons_self)), ih (e x) h1 h2]

variable {β : Type v} {s' e' : β → Nat}

/-- `u` reads back from every element of `T` an element with the same span, moved by `k` -/
def SpanMap (s e : α → Nat) (s' e' : β → Nat) (k : Nat) (u : α → Option β) (T : List α) : Prop :=
  ∀ a ∈ T, ∃ c, u a = some c ∧ s' c = s a + k ∧ e' c = e a + k

theorem SpanMap.mono {k : Nat} {u : α → Option β} {T T' : List α} (h : SpanMap s e s' e' k u T)
    (hsub : ∀ a ∈ T', a ∈ T) : SpanMap s e s' e' k u T' := fun a ha => h a (hsub a ha)

theorem SpanMap.le_eq {k : Nat} {u : α → Option β} {T : List α} (h : SpanMap s e s' e' k u T)
    {a b : α} (ha : a ∈ T) (hb : b ∈ T) {ca cb : β} (hca : u a = some ca) (hcb : u b = some cb) :
    leBy s' e' ca cb = leBy s e a b := by
  obtain ⟨ca', hca', h1, h2⟩ := h a ha
  obtain ⟨cb', hcb', h3, h4⟩ := h b hb
  cases hca.symm.trans hca'
  cases hcb.symm.trans hcb'
  have hb : (s a + k == s b + k) = (s a == s b) := by
    rw [Bool.eq_iff_iff, beq_iff_eq, beq_iff_eq, Nat.add_right_cancel_iff]
  simp only [leBy, h1, h2, h3, h4, Nat.add_lt_add_iff_right, Nat.add_le_add_iff_right, hb]

theorem isortBy_filterMap {k : Nat} {u : α → Option β} : ∀ T : List α, SpanMap s e s' e' k u T →
    (isortBy (leBy s e) T).filterMap u = isortBy (leBy s' e') (T.filterMap u)
  | [], _ => rfl
  | x :: xs, h => by
    obtain ⟨cx, hx, _⟩ := h x List.mem_cons_self
    rw [isortBy, List.filterMap_cons, hx, isortBy,
      ← isortBy_filterMap xs (h.mono fun _ ha => List.mem_cons_of_mem _ ha)]
    refine insertBy_filterMap _ _ u hx _ fun y hy => ?_
    have hy' := List.mem_cons_of_mem x ((isortBy_perm _ xs).mem_iff.mp hy)
    obtain ⟨cy, hcy, _⟩ := h y hy'
    exact ⟨cy, hcy, h.le_eq List.mem_cons_self hy' hx hcy⟩

theorem SpanMap.spans {k : Nat} {u : α → Option β} {T : List α} (h : SpanMap s e s' e' k u T) :
    (T.filterMap u).map (fun c => (s' c, e' c)) = T.map (fun a => (s a + k, e a + k)) := by
  induction T with
  | nil => rfl
  | cons a T ih =>
    obtain ⟨c, hc, h1, h2⟩ := h a List.mem_cons_self
    rw [List.filterMap_cons, hc, List.map_cons, List.map_cons, h1, h2,
      ih (h.mono fun _ hx => List.mem_cons_of_mem _ hx)]

theorem sweepBy_filterMap {k : Nat} {u : α → Option β} : ∀ (T : List α), SpanMap s e s' e' k u T →
    ∀ cur, (sweepBy s e cur T).1.filterMap u = (sweepBy s' e' (cur + k) (T.filterMap u)).1
  | [], _, _ => rfl
  | x :: xs, h, cur => by
    obtain ⟨cx, hx, h1, h2⟩ := h x List.mem_cons_self
    have ih := sweepBy_filterMap xs (h.mono fun a ha => List.mem_cons_of_mem _ ha)
    rw [List.filterMap_cons, hx]
    by_cases hc : s x < cur
    · rw [sweepBy_cons_drop hc, sweepBy_cons_drop (by omega)]; exact ih cur
    · rw [sweepBy_cons_keep hc, sweepBy_cons_keep (by omega), List.filterMap_cons, hx, ih, h2]

theorem sweepBy_map {k : Nat} {f : α → β} (hf : ∀ a, s' (f a) = s a + k ∧ e' (f a) = e a + k)
    (l : List α) (cur : Nat) :
    (sweepBy s e cur l).1.map f = (sweepBy s' e' (cur + k) (l.map f)).1 := by
  have := sweepBy_filterMap (u := some ∘ f) l (fun a _ => ⟨f a, rfl, hf a⟩) cur
  rwa [List.filterMap_eq_map] at this

/-- **overlap removal is natural in the payload**: reading every element back through a map that keeps
the spans (up to a move by `k`) before or after makes no difference. Instances: a move of the lints, the
look-up of survivors by position after tagging, the projection to the span. -/
theorem removeOverlapsBy_filterMap {k : Nat} {u : α → Option β} {T : List α}
    (h : SpanMap s e s' e' k u T) :
    (removeOverlapsBy s e T).filterMap u = removeOverlapsBy s' e' (T.filterMap u) := by
  have hs := h.mono fun a ha => (isortBy_perm (leBy s e) T).mem_iff.mp ha
  rw [removeOverlapsBy, removeOverlapsBy, sweepBy_filterMap _ hs, isortBy_filterMap _ h,
    sweepBy_cur]
  intro y hy
  obtain ⟨a, _, hay⟩ := List.mem_filterMap.mp ((isortBy_perm _ _).mem_iff.mp hy)
  obtain ⟨c, hc, h1, _⟩ := h a ‹_›
  cases hay.symm.trans hc
  omega

theorem removeOverlapsBy_map {k : Nat} {f : α → β} (hf : ∀ a, s' (f a) = s a + k ∧ e' (f a) = e a + k)
    (l : List α) : removeOverlapsBy s' e' (l.map f) = (removeOverlapsBy s e l).map f := by
  have := removeOverlapsBy_filterMap (u := some ∘ f) (T := l) (fun a _ => ⟨f a, rfl, hf a⟩)
  rw [List.filterMap_eq_map] at this
  exact this.symm

/-! ### what overlap removal returns -/

theorem isortBy_startSorted (l : List α) : (isortBy (leBy s e) l).Pairwise (fun a b => s a ≤ s b) :=
  (isortBy_sorted _ (leBy_total s e) (leBy_trans s e) l).imp fun h => by rw [leBy_iff] at h; omega

theorem removeOverlapsBy_sublist (l : List α) :
    (removeOverlapsBy s e l).Sublist (isortBy (leBy s e) l) := sweepBy_sublist _ _

theorem removeOverlapsBy_subset (l : List α) : ∀ x ∈ removeOverlapsBy s e l, x ∈ l :=
  fun _ hx => (isortBy_perm _ l).mem_iff.mp ((removeOverlapsBy_sublist l).subset hx)

theorem removeOverlapsBy_disjoint (l : List α) :
    (removeOverlapsBy s e l).Pairwise (fun a b => e a ≤ s b) :=
  (sweepBy_kept_sorted 0 _ (isortBy_startSorted l)).2

theorem removeOverlapsBy_dropped (l : List α) :
    ((removeOverlapsBy s e l) ++ (sweepBy s e 0 (isortBy (leBy s e) l)).2).Perm l ∧
    ∀ d ∈ (sweepBy s e 0 (isortBy (leBy s e) l)).2,
      ∃ k ∈ removeOverlapsBy s e l, s k ≤ s d ∧ s d < e k :=
  ⟨(sweepBy_perm 0 _).trans (isortBy_perm _ l), fun d hd =>
    (sweepBy_dropped 0 _ (isortBy_startSorted l) 0 (fun _ _ => Nat.zero_le _) d hd).resolve_left
      fun h => Nat.not_lt_zero _ h.2⟩

theorem removeOverlapsBy_kept_or_covered (l : List α) :
    ∀ d ∈ l, d ∈ removeOverlapsBy s e l ∨ ∃ k ∈ removeOverlapsBy s e l, s k ≤ s d ∧ s d < e k := by
  intro d hd
  obtain ⟨hp, hin⟩ := removeOverlapsBy_dropped (s := s) (e := e) l
  exact (List.mem_append.mp (hp.mem_iff.mpr hd)).imp_right (hin d)

theorem removeOverlapsBy_of_resolved {l : List α} (hs : l.Pairwise (fun a b => leBy s e a b = true))
    (hd : l.Pairwise (fun a b => e a ≤ s b)) : removeOverlapsBy s e l = l := by
  rw [removeOverlapsBy, isortBy_of_sorted _ hs, sweepBy_of_resolved 0 l (fun _ _ => Nat.zero_le _) hd]

theorem removeOverlapsBy_idempotent (l : List α) :
    removeOverlapsBy s e (removeOverlapsBy s e l) = removeOverlapsBy s e l :=
  removeOverlapsBy_of_resolved
    ((isortBy_sorted _ (leBy_total s e) (leBy_trans s e) l).sublist (removeOverlapsBy_sublist l))
    (removeOverlapsBy_disjoint l)

/-- STRICTLY before: a zero-width lint of the first group AT the boundary would sort after a longer lint of the
second that starts there, and be swallowed by it -/
theorem removeOverlapsBy_append (A B : List α) (h : ∀ a ∈ A, ∀ b ∈ B, s a < s b ∧ e a ≤ s b) :
    removeOverlapsBy s e (A ++ B) = removeOverlapsBy s e A ++ removeOverlapsBy s e B := by
  rw [removeOverlapsBy, isortBy_append _ A B fun a ha b hb => (leBy_iff s e).mpr (Or.inl (h a ha b hb).1)]
  exact sweepBy_append_sep _ _
    (fun x hx y hy => (h x ((isortBy_perm _ A).mem_iff.mp hx) y ((isortBy_perm _ B).mem_iff.mp hy)).2)
    0 (fun _ _ => Nat.zero_le _)

theorem removeOverlapsBy_split (p : α → Bool) (L : List α)
    (h : ∀ a ∈ L, ∀ b ∈ L, p a = true → p b = false → s a < s b ∧ e a ≤ s b) :
    removeOverlapsBy s e L
      = removeOverlapsBy s e (L.filter p) ++ removeOverlapsBy s e (L.filter fun x => !p x) := by
  have hm : ∀ (q : α → Bool) y, y ∈ isortBy (leBy s e) (L.filter q) → y ∈ L ∧ q y = true :=
    fun q y hy => List.mem_filter.mp ((isortBy_perm _ _).mem_iff.mp hy)
  rw [removeOverlapsBy, isortBy_split _ p L fun a ha b hb pa pb => by
    have := (h a ha b hb pa pb).1
    rw [leBy_iff, ← Bool.not_eq_true, leBy_iff]; omega]
  exact sweepBy_append_sep _ _
    (fun x hx y hy => (h x (hm _ x hx).1 y (hm _ y hy).1 (hm _ x hx).2 (by simpa using (hm _ y hy).2)).2)
    0 (fun _ _ => Nat.zero_le _)

end Sweep
end Harper
