import Harper.Model.Suggestion
/-! Helper lemmas for C03 (and `fix_all_back_to_front` of C13): closed forms of the two in-place
loops of `Suggestion::apply`, `tokenSpan` as least / greatest endpoint, `pull_by` where it succeeds. -/
namespace Harper

/-! ### `set`, `take` and `drop` as the loops use them -/

theorem Vec.setAt_length {α} {src src' : List α} {i : Nat} {c : α}
    (h : Vec.setAt src i c = .ok src') : src'.length = src.length := by
  unfold Vec.setAt at h
  split at h
  · cases h; simp
  · cases h

theorem take_succ_set {α} {l : List α} {n : Nat} (h : n < l.length) (c : α) :
    (l.set n c).take (n + 1) = l.take n ++ [c] := by
  rw [List.take_succ_eq_append_getElem (by rwa [List.length_set]),
    List.take_set_of_le (Nat.le_refl n), List.getElem_set_self]

theorem take_append_flagged {α} (src : List α) {s e : Nat} (h : s ≤ e) :
    src.take s ++ (src.drop s).take (e - s) = src.take e := by
  rw [← List.take_add, Nat.add_sub_cancel' h]

theorem of_eq_ite {β : Type} {x : Except Panic β} {c : Prop} [Decidable c] {e : Panic} {v : β}
    (hx : x = if c then .error e else .ok v) :
    ((∃ p, x = .error p) ↔ c) ∧ ∀ out, x = .ok out → out = v := by
  by_cases hc : c
  · rw [if_pos hc] at hx
    exact ⟨⟨fun _ => hc, fun _ => ⟨e, hx⟩⟩, fun out h => by rw [hx] at h; cases h⟩
  · rw [if_neg hc] at hx
    exact ⟨⟨fun ⟨p, hp⟩ => (by rw [hx] at hp; cases hp), fun h => absurd h hc⟩,
      fun out h => by rw [hx] at h; cases h; rfl⟩

/-! ### the in-place overwrite loop -/

theorem overwriteLoop_eq {α} (start : Nat) (cs : List α) :
    ∀ (idx : Nat) (src : List α),
      overwriteLoop start idx cs src
        = if idx + start + cs.length ≤ src.length ∨ cs = [] then
            .ok (src.take (idx + start) ++ cs ++ src.drop (idx + start + cs.length))
          else .error .sliceOOB := by
  induction cs with
  | nil => intro idx src; simp [overwriteLoop]
  | cons c cs ih =>
    intro idx src
    by_cases hlt : idx + start < src.length
    · have hc : (idx + 1 + start + cs.length ≤ (src.set (idx + start) c).length ∨ cs = [])
          ↔ (idx + start + (c :: cs).length ≤ src.length ∨ c :: cs = []) := by
        simp only [List.length_set, List.length_cons, reduceCtorEq, or_false]
        constructor
        · rintro (h | rfl)
          · omega
          · exact hlt
        · intro h; left; omega
      have e : idx + 1 + start = idx + start + 1 := Nat.add_right_comm ..
      simp only [overwriteLoop, Vec.setAt, hlt, if_true, ih, hc]
      rw [e, take_succ_set hlt, List.drop_set_of_lt (by omega)]
      simp only [List.length_cons, List.append_assoc, List.singleton_append, Nat.add_assoc,
        Nat.add_comm 1]
    · have : ¬ (idx + start + (c :: cs).length ≤ src.length ∨ c :: cs = []) := by
        simp only [List.length_cons, reduceCtorEq, or_false]; omega
      simp only [overwriteLoop, Vec.setAt, hlt, if_false, this]

/-! ### the shifting loop of `Remove` -/

/-- `k` iterations from `i = j + l`, `l = span.len()`: the `k` elements from `j + l` on are copied
to `j ..`; nothing else changes. -/
theorem shiftLoop_ok {α} (span : Span) (l : Nat) (hl : span.lenChecked = .ok l) (k : Nat) :
    ∀ (j : Nat) (src : List α), j + l + k ≤ src.length →
      shiftLoop span k (j + l) src
        = .ok (src.take j ++ (src.drop (j + l)).take k ++ src.drop (j + k)) := by
  induction k with
  | zero => intro j src _; simp [shiftLoop]
  | succ k ih =>
    intro j src h
    have hi : j + l < src.length := by omega
    have hj : j < src.length := by omega
    have e : j + l + 1 = j + 1 + l := Nat.add_right_comm ..
    simp only [shiftLoop, hl, Vec.checkedSub, Nat.not_lt.mpr (Nat.le_add_left l j), if_false,
      Nat.add_sub_cancel, Vec.getAt, List.getElem?_eq_getElem hi, Vec.setAt, hj, if_true]
    rw [e, ih (j + 1) _ (by rw [List.length_set]; omega), take_succ_set hj,
      List.drop_set_of_lt (by omega), List.drop_set_of_lt (by omega),
      List.drop_eq_getElem_cons hi, List.take_succ_cons, ← e]
    simp only [List.append_assoc, List.singleton_append, Nat.add_assoc, Nat.add_comm 1]

/-- when `start > end` the body of the shifting loop panics in `span.len()` as soon as it runs -/
theorem shiftLoop_err {α} (span : Span) (hbad : span.start > span.stop) (k i : Nat) (src : List α) :
    shiftLoop span (k + 1) i src = .error .underflow := by
  simp [shiftLoop, Span.lenChecked, hbad]

/-! ### minimum / maximum of the endpoints (`Itertools::minmax`) -/

/-- Folding a selection `f` (it returns one of its arguments, `R`-below both) yields an element of
the list that is `R`-below all of them: `min` with `≤`, `max` with `≥`. -/
theorem foldl_select {α} {f : α → α → α} {R : α → α → Prop}
    (hsel : ∀ x a, f x a = x ∨ f x a = a) (hR : ∀ x a, R (f x a) x ∧ R (f x a) a)
    (hrefl : ∀ x, R x x) (htrans : ∀ {x y z}, R x y → R y z → R x z) (xs : List α) :
    ∀ x : α, xs.foldl f x ∈ x :: xs ∧ ∀ y ∈ x :: xs, R (xs.foldl f x) y := by
  induction xs with
  | nil =>
    intro x
    exact ⟨List.mem_cons_self, fun y hy => by rw [List.mem_singleton.mp hy]; exact hrefl x⟩
  | cons a xs ih =>
    intro x
    obtain ⟨hm, hle⟩ := ih (f x a)
    have h0 := hle (f x a) List.mem_cons_self
    refine ⟨?_, ?_⟩
    · rcases List.mem_cons.mp hm with h | h
      · rw [List.foldl_cons, h]
        rcases hsel x a with e | e <;> rw [e]
        · exact List.mem_cons_self
        · exact List.mem_cons_of_mem _ List.mem_cons_self
      · exact List.mem_cons_of_mem _ (List.mem_cons_of_mem _ h)
    · intro y hy
      rcases List.mem_cons.mp hy with rfl | hy
      · exact htrans h0 (hR _ _).1
      · rcases List.mem_cons.mp hy with rfl | hy
        · exact htrans h0 (hR _ _).2
        · exact hle y (List.mem_cons_of_mem _ hy)

def endpoints (toks : List Span) : List Nat := toks.flatMap (fun t => [t.start, t.stop])

theorem mem_endpoints {toks : List Span} {x : Nat} :
    x ∈ endpoints toks ↔ ∃ t ∈ toks, x = t.start ∨ x = t.stop := by
  simp [endpoints, List.mem_flatMap]

theorem tokenSpan_cons (t : Span) (ts : List Span) : ∃ sp, tokenSpan (t :: ts) = some sp :=
  ⟨_, rfl⟩

theorem tokenSpan_some {toks : List Span} {sp : Span} (h : tokenSpan toks = some sp) :
    sp.start ∈ endpoints toks ∧ sp.stop ∈ endpoints toks ∧
      ∀ x ∈ endpoints toks, sp.start ≤ x ∧ x ≤ sp.stop := by
  have e : tokenSpan toks = match endpoints toks with
      | [] => none
      | x :: xs => some ⟨xs.foldl min x, xs.foldl max x⟩ := rfl
  rw [e] at h
  cases he : endpoints toks with
  | nil => rw [he] at h; cases h
  | cons x xs =>
    rw [he] at h
    cases h
    obtain ⟨hmin, hle⟩ := foldl_select (R := (· ≤ ·)) (fun x a => by omega)
      (fun x a => ⟨Nat.min_le_left .., Nat.min_le_right ..⟩) Nat.le_refl Nat.le_trans xs x
    obtain ⟨hmax, hge⟩ := foldl_select (R := (· ≥ ·)) (fun x a => by omega)
      (fun x a => ⟨Nat.le_max_left .., Nat.le_max_right ..⟩) Nat.le_refl
      (fun h1 h2 => Nat.le_trans h2 h1) xs x
    exact ⟨hmin, hmax, fun y hy => ⟨hle y hy, hge y hy⟩⟩

theorem endpoints_between (t : Span) (ts : List Span) (hwf : ∀ x ∈ t :: ts, x.start ≤ x.stop)
    (hord : (t :: ts).Pairwise (fun a b => a.stop ≤ b.start)) :
    ∀ x ∈ endpoints (t :: ts), t.start ≤ x ∧ x ≤ ((t :: ts).getLast (by simp)).stop := by
  intro x hx
  obtain ⟨u, hu, hxu⟩ := mem_endpoints.mp hx
  have hw := hwf u hu
  have hfirst : t.start ≤ u.start := by
    rcases List.mem_cons.mp hu with rfl | hu'
    · exact Nat.le_refl _
    · exact Nat.le_trans (hwf t List.mem_cons_self) ((List.pairwise_cons.mp hord).1 u hu')
  have hlast : u.stop ≤ ((t :: ts).getLast (by simp)).stop := by
    rw [← List.dropLast_concat_getLast (l := t :: ts) (by simp)] at hu hord
    rcases List.mem_append.mp hu with hu' | hu'
    · exact Nat.le_trans ((List.pairwise_append.mp hord).2.2 u hu' _ (List.mem_singleton.mpr rfl))
        (hwf _ (List.getLast_mem _))
    · rw [List.mem_singleton.mp hu']; exact Nat.le_refl _
  rcases hxu with rfl | rfl <;> omega

/-! ### `Span::pull_by` -/

theorem pullBy_of_le (s : Span) (c : Nat) (h : c ≤ s.start) (h' : c ≤ s.stop) :
    s.pullBy c = .ok ⟨s.start - c, s.stop - c⟩ := by
  rw [Span.pullBy, if_neg (by omega)]

end Harper
