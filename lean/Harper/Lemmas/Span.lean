import Harper.Basic.Span

/-! `Span::new` and `Span::get_content` (`Basic/Span.lean`) on the inputs the other layers meet:
a well-formed span inside the text, a text extended to the right, a text extended to the left;
and the inversion of `Except Panic` do-blocks (`bind_ok_iff`, `Md.bind_ok`, `Md.bind_eq`, `Md.Ret`). -/
namespace Harper

theorem Span.new_of_le {a b : Nat} (h : a ≤ b) : Span.new a b = .ok ⟨a, b⟩ :=
  if_neg (Nat.not_lt.mpr h)

theorem Span.new_of_ok {a b : Nat} {s : Span} (h : Span.new a b = .ok s) : a ≤ b ∧ s = ⟨a, b⟩ := by
  unfold Span.new at h
  by_cases hab : a > b
  · rw [if_pos hab] at h; cases h
  · rw [if_neg hab] at h; cases h; exact ⟨Nat.not_lt.mp hab, rfl⟩

theorem Span.getContent_of_le {α} (s : Span) (l : List α) (h1 : s.start ≤ s.stop) (h2 : s.stop ≤ l.length) :
    s.getContent l = .ok ((l.drop s.start).take (s.stop - s.start)) := by
  unfold Span.getContent
  rw [if_neg (Nat.not_lt.mpr h1)]
  by_cases h : s.start ≥ l.length ∨ s.stop > l.length
  · -- only the empty span at the very end gets here
    have he : s.stop = s.start := by omega
    rw [if_pos h, he, beq_self_eq_true, if_pos rfl, Nat.sub_self, List.take_zero]
  · rw [if_neg h]

/-- whenever `get_content` answers, it answers with the slice (also for the empty span past the end) -/
theorem Span.getContent_of_ok {α} {s : Span} {l c : List α} (h : s.getContent l = .ok c) :
    c = (l.drop s.start).take (s.stop - s.start) := by
  unfold Span.getContent at h
  by_cases h1 : s.start > s.stop
  · rw [if_pos h1] at h; cases h
  · rw [if_neg h1] at h
    by_cases h2 : s.start ≥ l.length ∨ s.stop > l.length
    · rw [if_pos h2] at h
      by_cases he : (s.stop == s.start) = true
      · rw [if_pos he] at h; cases h
        rw [eq_of_beq he, Nat.sub_self, List.take_zero]
      · rw [if_neg he] at h; cases h
    · rw [if_neg h2] at h; cases h; rfl

/-- text behind the span does not matter -/
theorem Span.getContent_append_left {α} (P D : List α) (s : Span) (h : s.stop ≤ P.length) :
    s.getContent (P ++ D) = s.getContent P := by
  by_cases h1 : s.start ≤ s.stop
  · rw [Span.getContent_of_le s _ h1 (by rw [List.length_append]; omega), Span.getContent_of_le s P h1 h,
      List.drop_append_of_le_length (by omega), List.take_append_of_le_length (by rw [List.length_drop]; omega)]
  · unfold Span.getContent
    rw [if_pos (Nat.lt_of_not_le h1), if_pos (Nat.lt_of_not_le h1)]

/-- text in front of the span moves it -/
theorem Span.getContent_append_right {α} (P D : List α) (s : Span) :
    (s.pushBy P.length).getContent (P ++ D) = s.getContent D := by
  have hd : (P ++ D).drop (s.start + P.length) = D.drop s.start := by
    rw [Nat.add_comm, ← List.drop_drop, List.drop_left]
  unfold Span.getContent Span.pushBy
  simp only [List.length_append, gt_iff_lt, ge_iff_le, Nat.add_lt_add_iff_right, Nat.add_le_add_iff_right,
    Nat.add_comm P.length, Nat.add_right_cancel_iff, beq_iff_eq, hd, Nat.add_sub_add_right]

theorem Span.getContent_map {α β} (f : α → β) (s : Span) (l : List α) :
    s.getContent (l.map f) = (s.getContent l).map (List.map f) := by
  unfold Span.getContent
  rw [List.length_map]
  split
  · rfl
  · split
    · split <;> rfl
    · simp only [Except.map, List.map_take, List.map_drop]

theorem Span.getContent_ne_outOfFuel {α} (s : Span) (l : List α) : s.getContent l ≠ .error .outOfFuel := by
  unfold Span.getContent
  intro h
  repeat' split at h
  all_goals cases h

theorem Span.getContent_ok_spec {α} {lo hi : Nat} {src out0 : List α}
    (h : Span.getContent ⟨lo, hi⟩ src = .ok out0) :
    lo ≤ hi ∧ out0.length = hi - lo ∧ ∀ i, i < hi - lo → out0[i]? = src[lo + i]? := by
  have hc := Span.getContent_of_ok h
  -- an answer means `lo ≤ hi`, and `hi` inside the text unless the span is empty
  have hr : lo ≤ hi ∧ (hi ≤ src.length ∨ hi = lo) := by
    unfold Span.getContent at h
    by_cases h1 : lo > hi
    · rw [if_pos h1] at h; cases h
    · rw [if_neg h1] at h
      by_cases h2 : lo ≥ src.length ∨ hi > src.length
      · rw [if_pos h2] at h
        by_cases he : (hi == lo) = true
        · exact ⟨Nat.not_lt.mp h1, .inr (eq_of_beq he)⟩
        · rw [if_neg he] at h; cases h
      · exact ⟨Nat.not_lt.mp h1, .inl (by omega)⟩
  refine ⟨hr.1, ?_, fun i hi' => ?_⟩
  · rw [hc, List.length_take, List.length_drop]
    show min (hi - lo) (src.length - lo) = hi - lo
    omega
  · rw [hc]
    show (List.take (hi - lo) (List.drop lo src))[i]? = src[lo + i]?
    rw [List.getElem?_take_of_lt hi', List.getElem?_drop]

theorem Span.getContent_full {α} (l : List α) : Span.getContent ⟨0, l.length⟩ l = .ok l := by
  rw [Span.getContent_of_le _ l (Nat.zero_le _) (Nat.le_refl _)]
  exact congrArg Except.ok (List.take_length)

/-! ## computations that may panic -/

theorem bind_ok_iff {ε α β} {x : Except ε α} {f : α → Except ε β} {b : β} :
    (x >>= f) = .ok b ↔ ∃ a, x = .ok a ∧ f a = .ok b := by
  cases x with
  | error e => exact ⟨nofun, nofun⟩
  | ok a => exact ⟨fun h => ⟨a, rfl, h⟩, fun ⟨_, h1, h2⟩ => by cases h1; exact h2⟩

/-- `toOption = some v` (what `decide` can check) gives `= .ok v` (what the theorems assume) -/
theorem ok_of_toOption_eq_some {α} (r : Except Panic α) (v : α) (h : r.toOption = some v) : r = .ok v := by
  cases r with
  | error e => cases h
  | ok a => simp only [Except.toOption, Option.some.injEq] at h; rw [h]

end Harper

namespace Harper.Md
open Harper

/-- inversion of one `←` -/
theorem bind_ok {α β : Type} {x : Except Panic α} {f : α → Except Panic β} {b : β}
    (h : (x >>= f) = .ok b) : ∃ a, x = .ok a ∧ f a = .ok b :=
  bind_ok_iff.mp h

theorem bind_eq {α β : Type} {x : Except Panic α} {a : α} {f : α → Except Panic β}
    {r : Except Panic β} (hx : x = .ok a) (hf : f a = r) : (x >>= f) = r := by
  subst hx; exact hf

theorem pure_ok {α : Type} {a b : α} (h : (pure a : Except Panic α) = .ok b) : a = b := by
  cases h; rfl

/-- partial correctness of a computation that may panic: if it returns, the result satisfies `P` -/
def Ret {α : Type} (P : α → Prop) (x : Except Panic α) : Prop := ∀ a, x = .ok a → P a

theorem Ret.bind {α β : Type} {P : β → Prop} {x : Except Panic α} {f : α → Except Panic β}
    (h : ∀ a, x = .ok a → Ret P (f a)) : Ret P (x >>= f) := fun b hb =>
  let ⟨a, ha, hf⟩ := bind_ok hb
  h a ha b hf

theorem Ret.pure {α : Type} {P : α → Prop} {a : α} (h : P a) : Ret P (pure a) := fun _ hb =>
  pure_ok hb ▸ h

theorem Ret.ite {α : Type} {P : α → Prop} {c : Prop} [Decidable c] {x y : Except Panic α}
    (hx : c → Ret P x) (hy : ¬c → Ret P y) : Ret P (if c then x else y) := by
  by_cases hc : c
  · rw [if_pos hc]; exact hx hc
  · rw [if_neg hc]; exact hy hc

end Harper.Md
