import Harper.Lemmas.Lex
import Harper.Lemmas.Span
/-! The parse loop: one turn (`parseLoop_step`), totality and tiling, independence of the fuel, translation, and where
its tokens come from. -/
namespace Harper

theorem lexToken_progress (cls : Cls) (ext : Ext) (pos : Nat) (src : List Char) (len : Nat)
    (hext : ExtOK ext len) (hlen : pos + src.length = len) (hne : src ≠ []) :
    ∃ k n, lexToken cls ext pos src = some (k, n) ∧ 1 ≤ n ∧ n ≤ src.length := by
  -- the catch-all is in the list, so something is found
  have hs : (lexToken cls ext pos src).isSome := by
    rw [lexToken, firstFound_eq, List.findSome?_isSome_iff]
    exact ⟨.lex_catch, by decide, rfl⟩
  obtain ⟨⟨k, n⟩, h⟩ := Option.isSome_iff_exists.mp hs
  obtain ⟨l, hl⟩ := lexToken_from_lexer h
  exact ⟨k, n, h, runLexer_ok cls ext pos src len hext hlen hne l k n hl⟩

theorem parseLoop_step (cls : Cls) (ext : Ext) (fuel cursor : Nat) {rest : List Char} (hne : rest ≠ []) {k : Kind}
    {n : Nat} (h : lexToken cls ext cursor rest = some (k, n)) :
    parseLoop cls ext (fuel + 1) cursor rest =
      (parseLoop cls ext fuel (cursor + n) (rest.drop n)).map (⟨⟨cursor, cursor + n⟩, k⟩ :: ·) := by
  cases rest with
  | nil => exact absurd rfl hne
  | cons c cs =>
    simp only [parseLoop, h]
    cases parseLoop cls ext fuel (cursor + n) ((c :: cs).drop n) <;> rfl

theorem length_drop_lt {α} (l : List α) {n k f : Nat} (hn : 1 ≤ n) (hn2 : n ≤ l.length) (h : l.length + k < f + 1) :
    (l.drop n).length + k < f := by
  rw [List.length_drop]; omega

theorem length_drop_cursor {α} (l : List α) {n k c N : Nat} (hn : n ≤ l.length) (h : c + (l.length + k) = N) :
    c + n + ((l.drop n).length + k) = N := by
  rw [List.length_drop]; omega

theorem parseLoop_tiles (cls : Cls) (ext : Ext) (len : Nat) (hext : ExtOK ext len)
    (fuel cursor : Nat) (rest : List Char)
    (hf : rest.length < fuel) (hlen : cursor + rest.length = len) :
    ∃ toks, parseLoop cls ext fuel cursor rest = .ok toks ∧ Tiles toks cursor len ∧
      toks.length ≤ rest.length := by
  induction fuel generalizing cursor rest with
  | zero => omega
  | succ fuel ih =>
    by_cases hne : rest = []
    · subst hne; exact ⟨[], rfl, by simpa [Tiles] using hlen, Nat.le_refl _⟩
    · obtain ⟨k, n, hl, h1, h2⟩ := lexToken_progress cls ext cursor rest len hext hlen hne
      obtain ⟨ts, hts, htile, hcount⟩ := ih (cursor + n) (rest.drop n)
        (length_drop_lt rest (k := 0) h1 h2 hf) (length_drop_cursor rest (k := 0) h2 hlen)
      rw [parseLoop_step cls ext fuel cursor hne hl, hts]
      refine ⟨_, rfl, ⟨rfl, by simp only; omega, htile⟩, ?_⟩
      rw [List.length_drop] at hcount
      simp only [List.length_cons]; omega

/-- the result of the parse loop does not depend on the fuel once there is enough of it -/
theorem parseLoop_fuel (cls : Cls) (ext : Ext) (len : Nat) (hext : ExtOK ext len) :
    ∀ (f1 f2 cursor : Nat) (rest : List Char), cursor + rest.length = len → rest.length < f1 →
      rest.length < f2 → parseLoop cls ext f1 cursor rest = parseLoop cls ext f2 cursor rest := by
  intro f1
  induction f1 with
  | zero => intro f2 cursor rest _ h; omega
  | succ f1 ih =>
    intro f2 cursor rest hlen h1 h2
    obtain _ | f2 := f2
    · exact absurd h2 (Nat.not_lt_zero _)
    by_cases hne : rest = []
    · subst hne; rfl
    · obtain ⟨k, n, hl, hn1, hn2⟩ := lexToken_progress cls ext cursor rest len hext hlen hne
      rw [parseLoop_step cls ext f1 cursor hne hl, parseLoop_step cls ext f2 cursor hne hl,
        ih f2 (cursor + n) (rest.drop n) (length_drop_cursor rest (k := 0) hn2 hlen) (length_drop_lt rest (k := 0) hn1 hn2 h1)
          (length_drop_lt rest (k := 0) hn1 hn2 h2)]

/-- move tokens `k` characters to the right -/
def shiftToks (k : Nat) (ts : List Tok) : List Tok := ts.map fun t => ⟨⟨t.span.start + k, t.span.stop + k⟩, t.kind⟩

theorem lexToken_shift (cls : Cls) (ext : Ext) (N c : Nat) (src : List Char) :
    lexToken cls ext (N + c) src = lexToken cls (fun i => ext (N + i)) c src := by
  rw [lexToken, lexToken, firstFound_eq, firstFound_eq]
  exact congrArg (List.findSome? · _) (funext fun l => by cases l <;> rfl)

theorem parseLoop_shift (cls : Cls) (ext : Ext) (N : Nat) :
    ∀ (fuel c : Nat) (rest : List Char),
      parseLoop cls ext fuel (N + c) rest =
        (parseLoop cls (fun i => ext (N + i)) fuel c rest).map (shiftToks N) := by
  intro fuel
  induction fuel with
  | zero => intro c rest; rfl
  | succ fuel ih =>
    intro c rest
    by_cases hne : rest = []
    · subst hne; rfl
    · cases hl : lexToken cls (fun i => ext (N + i)) c rest with
      | none =>
        obtain ⟨ch, cs, rfl⟩ := List.exists_cons_of_ne_nil hne
        simp only [parseLoop, lexToken_shift, hl]
        rfl
      | some kn =>
        rw [parseLoop_step cls ext fuel (N + c) hne ((lexToken_shift cls ext N c rest).trans hl),
          parseLoop_step cls _ fuel c hne hl, Nat.add_assoc, ih]
        cases parseLoop cls (fun i => ext (N + i)) fuel (c + kn.2) (rest.drop kn.2) with
        | error e => rfl
        | ok ts =>
          simp only [Except.map, shiftToks, List.map_cons, Nat.add_comm N]

theorem parseLoop_tokens (cls : Cls) (ext : Ext) (P : List Char) (fuel cursor : Nat) (rest : List Char)
    (toks : List Tok) (hsrc : P.drop cursor = rest) (h : parseLoop cls ext fuel cursor rest = .ok toks) :
    ∀ t ∈ toks, lexToken cls ext t.span.start (P.drop t.span.start) = some (t.kind, t.span.stop - t.span.start) ∧
      t.span.start ≤ t.span.stop ∧ P.drop t.span.start ≠ [] := by
  fun_induction parseLoop cls ext fuel cursor rest generalizing toks with
  | case1 => cases h
  | case2 => cases h; intro t ht; cases ht
  | case3 _ _ _ _ hl => rw [hl] at h; cases h
  | case4 fuel i c tail k n ts hl hp ih =>
    rw [hl] at h
    simp only [hp] at h
    cases h
    intro t ht
    rcases List.mem_cons.mp ht with rfl | ht
    · simp only [hsrc, show i + n - i = n by omega]
      exact ⟨hl, by omega, List.cons_ne_nil _ _⟩
    · exact ih ts (by rw [← hsrc, List.drop_drop]) hp t ht
  | case5 _ _ _ _ _ _ _ hl hp => rw [hl] at h; simp only [hp] at h; cases h

end Harper
