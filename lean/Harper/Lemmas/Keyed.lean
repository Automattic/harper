/-! Insertion-ordered lists with keys. Every model of `HashMap::insert` / `entry().or_insert` on such a list
(`DictIO.insert`, `Wasm.upsert`, `Stats.bump`) does the same thing to the list of keys (`KeyLaw`); what follows from
that alone — keys stay distinct, a batch only appends keys, the length grows exactly when a new key comes — is proved
here once. -/
namespace Harper

theorem nodup_concat {α} {l : List α} {a : α} (h : l.Nodup) (ha : a ∉ l) : (l ++ [a]).Nodup :=
  List.nodup_append.mpr ⟨h, List.pairwise_singleton _ a,
    fun _ hx _ hy e => ha (List.mem_singleton.mp hy ▸ e ▸ hx)⟩

theorem foldl_insert_fresh {α κ} (key : α → κ) (ins : List α → α → List α)
    (hins : ∀ m w, key w ∉ m.map key → ins m w = m ++ [w]) (ws m : List α)
    (h : ((m ++ ws).map key).Nodup) : ws.foldl ins m = m ++ ws := by
  induction ws generalizing m with
  | nil => rw [List.foldl_nil, List.append_nil]
  | cons w ws ih =>
    have hw : key w ∉ m.map key := by
      rw [List.map_append, List.map_cons, List.nodup_append] at h
      exact fun hm => h.2.2 _ hm _ List.mem_cons_self rfl
    rw [List.foldl_cons, hins m w hw, ih (m ++ [w]) (by rwa [List.append_assoc]), List.append_assoc,
      List.singleton_append]

/-- `ins` acts on keys like `HashMap::insert`: a known key keeps its slot, a new one goes to the end. What is
inserted need not be an entry (`Stats.bump` is given the key itself): `rkey` reads its key. -/
def KeyLaw {α β κ} (key : α → κ) (rkey : β → κ) (ins : List α → β → List α) : Prop :=
  ∀ m w, (rkey w ∈ m.map key → (ins m w).map key = m.map key) ∧
    (rkey w ∉ m.map key → (ins m w).map key = m.map key ++ [rkey w])

namespace KeyLaw
variable {α β κ : Type} {key : α → κ} {rkey : β → κ} {ins : List α → β → List α} (h : KeyLaw key rkey ins)
include h

theorem nodup {m : List α} (hm : (m.map key).Nodup) (w : β) : ((ins m w).map key).Nodup := by
  by_cases hk : rkey w ∈ m.map key
  · rwa [(h m w).1 hk]
  · rw [(h m w).2 hk]
    exact nodup_concat hm hk

theorem nodup_foldl (ws : List β) : ∀ {m : List α}, (m.map key).Nodup → ((ws.foldl ins m).map key).Nodup := by
  induction ws with
  | nil => exact id
  | cons w ws ih => exact fun hm => ih (h.nodup hm w)

/-- a batch only appends keys -/
theorem keys_foldl (ws : List β) : ∀ m, ∃ extra, (ws.foldl ins m).map key = m.map key ++ extra := by
  induction ws with
  | nil => exact fun m => ⟨[], (List.append_nil _).symm⟩
  | cons w ws ih =>
    intro m
    obtain ⟨ex, hex⟩ := ih (ins m w)
    rw [List.foldl_cons, hex]
    by_cases hk : rkey w ∈ m.map key
    · exact ⟨ex, by rw [(h m w).1 hk]⟩
    · exact ⟨rkey w :: ex, by rw [(h m w).2 hk, List.append_assoc, List.singleton_append]⟩

theorem mem_keys_foldl {ws : List β} {w : β} (hw : w ∈ ws) : ∀ m, rkey w ∈ (ws.foldl ins m).map key := by
  induction ws with
  | nil => cases hw
  | cons x xs ih =>
    intro m
    rcases List.mem_cons.mp hw with rfl | hw
    · obtain ⟨ex, hex⟩ := h.keys_foldl xs (ins m w)
      rw [List.foldl_cons, hex]
      apply List.mem_append_left
      by_cases hk : rkey w ∈ m.map key
      · rwa [(h m w).1 hk]
      · rw [(h m w).2 hk]; exact List.mem_append_right _ (List.mem_singleton.mpr rfl)
    · exact ih hw _

theorem length_foldl_ge (ws : List β) (m : List α) : m.length ≤ (ws.foldl ins m).length := by
  obtain ⟨ex, hex⟩ := h.keys_foldl ws m
  have := congrArg List.length hex
  simp only [List.length_map, List.length_append] at this
  omega

/-- the count does not grow only if no new key came -/
theorem keys_foldl_of_length_le (ws : List β) (m : List α) (hl : (ws.foldl ins m).length ≤ m.length) :
    (ws.foldl ins m).map key = m.map key := by
  obtain ⟨ex, hex⟩ := h.keys_foldl ws m
  have := congrArg List.length hex
  simp only [List.length_map, List.length_append] at this
  rw [hex, List.eq_nil_of_length_eq_zero (by omega : ex.length = 0), List.append_nil]

theorem length_foldl_lt {ws : List β} {w : β} (hw : w ∈ ws) {m : List α} (hnew : rkey w ∉ m.map key) :
    m.length < (ws.foldl ins m).length :=
  Nat.lt_of_not_le fun hl => hnew (h.keys_foldl_of_length_le ws m hl ▸ h.mem_keys_foldl hw m)

end KeyLaw
end Harper
