import Harper.Lemmas.Condense
import Harper.Lemmas.CondensePattern
import Harper.Lemmas.RulesPattern
/-! The three condense patterns (contraction, ellipsis, latin) are total, bounded and have monotone
match ends (`PatOK`), hence `condense_pattern` is a rewrite for them; `match_quotes`; composition: all that
`Document::parse` writes (`DocWrites`, `condenseAll_rewrites`), so that it preserves tiling and `Gap`;
`condenseAll_forall`: what holds of every output token, without a hypothesis on the input. -/
namespace Harper
open Harper.Leaves Harper.Rules

/-! ## the pattern combinators -/

theorem seqGo_step (src : List Char) (p : Matcher) (ps : List Matcher) (acc : Nat) (toks : List Tok)
    (n : Nat) (h : p src toks = .ok n) :
    seqGo src (p :: ps) acc toks = if n = 0 then .ok 0 else if n > toks.length then .error .sliceOOB
      else seqGo src ps (acc + n) (toks.drop n) := by
  simp only [seqGo, h]

theorem seqGo_step_bool (src : List Char) (p : Matcher) (ps : List Matcher) (acc : Nat) (t : Tok)
    (r : List Tok) (b : Bool) (h : p src (t :: r) = .ok (if b then 1 else 0)) :
    seqGo src (p :: ps) acc (t :: r) = if b then seqGo src ps (acc + 1) r else .ok 0 := by
  rw [seqGo_step src p ps acc _ _ h]
  cases b <;> simp

theorem seqGo_kindAtom (src : List Char) (p : Kind → Bool) (ps : List Matcher) (acc : Nat) (t : Tok) (r : List Tok) :
    seqGo src (kindAtom p :: ps) acc (t :: r) = if p t.kind then seqGo src ps (acc + 1) r else .ok 0 :=
  seqGo_step_bool src _ ps acc t r _ rfl

theorem seqGo_kindAtom_nil (src : List Char) (p : Kind → Bool) (ps : List Matcher) (acc : Nat) :
    seqGo src (kindAtom p :: ps) acc [] = .ok 0 := rfl

/-! ## the concrete patterns -/

theorem contractionPat_eq (src : List Char) (toks : List Tok) :
    contractionPat src toks = .ok (match toks with
      | a :: b :: c :: _ => if a.kind.isWord && b.kind.isApostrophe && c.kind.isWord then 3 else 0
      | _ => 0) := by
  unfold contractionPat seqPat
  match toks with
  | [] => rfl
  | [a] => rw [seqGo_kindAtom, seqGo_kindAtom_nil]; exact ite_self _
  | [a, b] =>
    rw [seqGo_kindAtom, seqGo_kindAtom, seqGo_kindAtom_nil]
    cases a.kind.isWord <;> cases b.kind.isApostrophe <;> rfl
  | a :: b :: c :: r =>
    rw [seqGo_kindAtom, seqGo_kindAtom, seqGo_kindAtom]
    show _ = Except.ok (if (a.kind.isWord && b.kind.isApostrophe && c.kind.isWord) = true then 3 else 0)
    cases a.kind.isWord <;> cases b.kind.isApostrophe <;> cases c.kind.isWord <;> rfl

theorem contractionPat_pos (src : List Char) (toks : List Tok) (n : Nat) (h : contractionPat src toks = .ok n)
    (hn : n > 0) : n = 3 := by
  rw [contractionPat_eq] at h
  injection h with h
  subst h
  match toks with
  | a :: b :: c :: _ =>
    have hn : (if (a.kind.isWord && b.kind.isApostrophe && c.kind.isWord) = true then 3 else 0) > 0 := hn
    by_cases hc : (a.kind.isWord && b.kind.isApostrophe && c.kind.isWord) = true
    · exact if_pos hc
    · rw [if_neg hc] at hn; cases hn
  | [] | [_] | [_, _] => cases hn

theorem contraction_patOK (src : List Char) : PatOK contractionPat src (fun _ => True) where
  tail := fun _ _ _ => trivial
  ok := fun v _ => ⟨_, contractionPat_eq src v, (seqPat_sat (E := Never) sub_any _ fun q hq => by
    simp only [List.mem_cons, List.not_mem_nil, or_false] at hq
    rcases hq with rfl | rfl | rfl <;> exact kindAtom_sat _).mc _ _ _ (contractionPat_eq src v)⟩
  mono := by
    intro u v n n' hu _ hn hpos hn' hpos'
    have h3 := contractionPat_pos _ _ _ hn hpos
    have h3' := contractionPat_pos _ _ _ hn' hpos'
    have := List.length_pos_iff.mpr hu
    omega

def periods (toks : List Tok) : Nat := countWhile (fun t => t.kind.isPeriod) toks

theorem periods_cons (t : Tok) (ts : List Tok) :
    periods (t :: ts) = if t.kind.isPeriod then periods ts + 1 else 0 := rfl

def headPeriod : List Tok → Bool
  | c :: _ => c.kind.isPeriod
  | [] => false

theorem seqGo_period (src : List Char) (acc : Nat) (r : List Tok) :
    seqGo src [kindAtom Kind.isPeriod] acc r = .ok (if headPeriod r then acc + 1 else 0) := by
  cases r with
  | nil => rfl
  | cons c r' =>
    rw [seqGo_kindAtom]
    show _ = Except.ok (if c.kind.isPeriod = true then acc + 1 else 0)
    cases c.kind.isPeriod <;> rfl

theorem periodSeq_eq (src : List Char) (toks : List Tok) :
    seqPat [kindAtom Kind.isPeriod] src toks = .ok (if headPeriod toks then 1 else 0) :=
  seqGo_period src 0 toks

theorem repGo_periods (src : List Char) (toks : List Tok) : ∀ (fuel cursor rep : Nat), toks.length < fuel →
    repGo (seqPat [kindAtom Kind.isPeriod]) 2 src fuel cursor rep toks =
      .ok (if rep + periods toks ≥ 2 then cursor + periods toks else 0) := by
  induction toks with
  | nil =>
    intro fuel cursor rep hf
    cases fuel with
    | zero => omega
    | succ fuel => simp [repGo, periodSeq_eq, headPeriod, periods, countWhile]
  | cons t ts ih =>
    intro fuel cursor rep hf
    cases fuel with
    | zero => omega
    | succ fuel =>
      simp only [repGo, periodSeq_eq, headPeriod, periods_cons]
      by_cases h : t.kind.isPeriod = true
      · simp only [h, if_true, if_neg (show ¬ (1 = 0) by omega), List.length_cons]
        rw [if_neg (by omega)]
        simp only [List.drop_succ_cons, List.drop_zero]
        rw [ih fuel (cursor + 1) (rep + 1) (by simp at hf; omega)]
        congr 1
        by_cases hc : rep + 1 + periods ts ≥ 2
        · rw [if_pos hc, if_pos (by omega)]; omega
        · rw [if_neg hc, if_neg (by omega)]
      · simp only [h, Bool.false_eq_true, if_false, if_true, Nat.add_zero]

theorem ellipsisPat_eq (src : List Char) (toks : List Tok) :
    ellipsisPat src toks = .ok (if periods toks ≥ 2 then periods toks else 0) := by
  unfold ellipsisPat repPat
  rw [repGo_periods src toks _ 0 0 (by omega)]
  simp

theorem ellipsis_patOK (src : List Char) : PatOK ellipsisPat src (fun _ => True) where
  tail := fun _ _ _ => trivial
  ok := by
    intro v _
    refine ⟨_, ellipsisPat_eq src v, ?_⟩
    have := countWhile_le (fun t : Tok => t.kind.isPeriod) v
    unfold periods
    split <;> omega
  mono := by
    intro u v n n' hu _ hn hpos hn' hpos'
    rw [ellipsisPat_eq] at hn hn'
    injection hn with hn
    injection hn' with hn'
    have := countWhile_append_le (fun t : Tok => t.kind.isPeriod) u v
    unfold periods at hn hn'
    split at hn <;> split at hn' <;> omega

/-- every token covers at least one character of the text -/
def InB (src : List Char) (toks : List Tok) : Prop :=
  ∀ t ∈ toks, t.span.start < t.span.stop ∧ t.span.stop ≤ src.length

def txt (src : List Char) (t : Tok) : List Char := (src.drop t.span.start).take (t.span.stop - t.span.start)

def inWordSet (ws : List (List Char)) (cs : List Char) : Bool :=
  ws.any (fun w => cs.length == w.length && eqIgnoreAsciiCase cs w)

def isEtc (src : List Char) (t : Tok) : Bool :=
  t.kind.isWord && inWordSet [['e', 't', 'c'], ['v', 's']] (txt src t)

def isCap (src : List Char) (w : List Char) (t : Tok) : Bool :=
  t.kind.isWord && (t.span.len == w.length && eqIgnoreAsciiCase (txt src t) w)

theorem wordSetAtom_eq (src : List Char) (ws : List (List Char)) (t : Tok) (r : List Tok)
    (h1 : t.span.start ≤ t.span.stop) (h2 : t.span.stop ≤ src.length) :
    wordSetAtom ws src (t :: r) = .ok (if t.kind.isWord && inWordSet ws (txt src t) then 1 else 0) := by
  simp only [wordSetAtom]
  cases hw : t.kind.isWord
  · simp
  · simp only [Bool.not_true, Bool.false_eq_true, if_false, Bool.true_and]
    rw [Span.getContent_of_le _ _ h1 h2]
    rfl

theorem anyCapAtom_eq (src : List Char) (w : List Char) (t : Tok) (r : List Tok)
    (h1 : t.span.start ≤ t.span.stop) (h2 : t.span.stop ≤ src.length) :
    anyCapAtom w src (t :: r) = .ok (if isCap src w t then 1 else 0) := by
  simp only [anyCapAtom, isCap]
  by_cases hw : t.kind.isWord = true
  · simp only [hw, Bool.not_true, Bool.false_eq_true, if_false, Bool.true_and]
    rw [if_neg (by omega)]
    by_cases hl : t.span.len = w.length
    · rw [if_neg (by simpa using hl), Span.getContent_of_le _ _ h1 h2]
      simp [hl, txt]
    · rw [if_pos (by simpa using hl)]
      simp [hl]
  · simp [hw]

def latinA : Matcher := seqPat [wordSetAtom [['e', 't', 'c'], ['v', 's']], kindAtom Kind.isPeriod]
def latinB : Matcher :=
  seqPat [anyCapAtom ['e', 't'], whitespaceAtom, anyCapAtom ['a', 'l'], kindAtom Kind.isPeriod]

theorem latinA_eq (src : List Char) (t : Tok) (r : List Tok) (h1 : t.span.start ≤ t.span.stop)
    (h2 : t.span.stop ≤ src.length) :
    latinA src (t :: r) = .ok (if isEtc src t && headPeriod r then 2 else 0) := by
  unfold latinA seqPat
  rw [seqGo_step_bool src _ _ 0 t r _ (wordSetAtom_eq src _ t r h1 h2), seqGo_period]
  unfold isEtc
  cases (t.kind.isWord && inWordSet [['e', 't', 'c'], ['v', 's']] (txt src t)) <;> simp

/-- `al` and the period after the whitespace -/
def alPeriod (src : List Char) : List Tok → Bool
  | a :: p :: _ => isCap src ['a', 'l'] a && p.kind.isPeriod
  | _ => false

abbrev wsCount (r : List Tok) : Nat := countWhile (fun t => t.kind.isWhitespace) r

theorem latinB_eq (src : List Char) (t : Tok) (r : List Tok) (hin : InBounds src.length (t :: r)) :
    latinB src (t :: r) =
      .ok (if isCap src ['e', 't'] t && (decide (wsCount r ≥ 1) && alPeriod src (r.drop (wsCount r)))
        then wsCount r + 3 else 0) := by
  have ht := hin t (by simp)
  unfold latinB seqPat
  rw [seqGo_step_bool src _ _ 0 t r _ (anyCapAtom_eq src _ t r ht.1 ht.2)]
  cases he : isCap src ['e', 't'] t
  · simp
  · simp only [if_true, Bool.true_and]
    rw [seqGo_step src whitespaceAtom _ _ r (wsCount r) rfl]
    by_cases hw : wsCount r = 0
    · rw [if_pos hw]; simp [hw]
    · rw [if_neg hw, if_neg (by have : wsCount r ≤ r.length := countWhile_le _ r; omega)]
      have hge : wsCount r ≥ 1 := by omega
      simp only [hge, decide_true, Bool.true_and]
      cases hd : r.drop (wsCount r) with
      | nil => simp [seqGo, anyCapAtom, alPeriod]
      | cons a rest =>
        have ha := hin a (by
          have : a ∈ r.drop (wsCount r) := by rw [hd]; simp
          exact List.mem_cons_of_mem _ (List.mem_of_mem_drop this))
        rw [seqGo_step_bool src _ _ _ a rest _ (anyCapAtom_eq src _ a rest ha.1 ha.2), seqGo_period]
        cases rest with
        | nil => cases hc : isCap src ['a', 'l'] a <;> simp [alPeriod, headPeriod]
        | cons p rest' =>
          cases hc : isCap src ['a', 'l'] a <;> cases hp : p.kind.isPeriod <;>
            simp [alPeriod, headPeriod, hp, hc]
          omega

def latinLen (src : List Char) : List Tok → Nat
  | [] => 0
  | t :: r =>
    let a := if isEtc src t && headPeriod r then 2 else 0
    let b := if isCap src ['e', 't'] t && (decide (wsCount r ≥ 1) && alPeriod src (r.drop (wsCount r)))
      then wsCount r + 3 else 0
    if b > a then b else a

theorem latinPat_eq_of_inBounds (src : List Char) (toks : List Tok) (hin : InBounds src.length toks) :
    latinPat src toks = .ok (latinLen src toks) := by
  have hdef : latinPat = eitherPat [latinA, latinB] := rfl
  rw [hdef]
  cases toks with
  | nil => simp [eitherPat, eitherGo, latinA, latinB, seqPat, seqGo, wordSetAtom, anyCapAtom, latinLen]
  | cons t r =>
    have ht := hin t (by simp)
    simp only [eitherPat, eitherGo, latinA_eq src t r ht.1 ht.2, latinB_eq src t r hin, latinLen]
    congr 1
    cases (isEtc src t && headPeriod r) <;> simp

theorem InB.tail {src : List Char} {t : Tok} {ts : List Tok} (h : InB src (t :: ts)) : InB src ts :=
  fun x hx => h x (List.mem_cons_of_mem _ hx)

theorem txt_length (src : List Char) (t : Tok) (h1 : t.span.start ≤ t.span.stop)
    (h2 : t.span.stop ≤ src.length) : (txt src t).length = t.span.stop - t.span.start := by
  simp [txt]; omega

theorem latinLen_pos {src : List Char} {l : List Tok} (h : latinLen src l > 0) :
    ∃ t r, l = t :: r ∧ t.kind.isWord = true ∧ latinLen src l ≥ 2 ∧
      (isEtc src t = true ∨ isCap src ['e', 't'] t = true) := by
  cases l with
  | nil => simp [latinLen] at h
  | cons t r =>
    refine ⟨t, r, rfl, ?_⟩
    simp only [latinLen] at h ⊢
    by_cases hb : (isCap src ['e', 't'] t && (decide (wsCount r ≥ 1) && alPeriod src (r.drop (wsCount r)))) = true
    · have hc : isCap src ['e', 't'] t = true := by simp at hb; exact hb.1
      refine ⟨by simp [isCap] at hc; exact hc.1, ?_, Or.inr hc⟩
      rw [if_pos hb]
      split <;> split <;> omega
    · rw [if_neg hb] at h ⊢
      by_cases ha : (isEtc src t && headPeriod r) = true
      · have hc : isEtc src t = true := by simp at ha; exact ha.1
        refine ⟨by simp [isEtc] at hc; exact hc.1, ?_, Or.inl hc⟩
        rw [if_pos ha]; simp
      · rw [if_neg ha] at h; simp at h

/-- a word reading `al` is none of `etc`, `vs`, `et`: no match starts on the `al` of another -/
theorem al_not_start (src : List Char) (a : Tok) (h1 : a.span.start ≤ a.span.stop)
    (h2 : a.span.stop ≤ src.length) (hal : isCap src ['a', 'l'] a = true) :
    isEtc src a = false ∧ isCap src ['e', 't'] a = false := by
  have hlen := txt_length src a h1 h2
  simp only [isCap, Bool.and_eq_true, beq_iff_eq, Span.len] at hal
  obtain ⟨hw, hl, he⟩ := hal
  simp only [List.length_cons, List.length_nil] at hl
  match htx : txt src a, hlen with
  | [c0, c1], _ =>
    rw [htx] at he
    simp only [eqIgnoreAsciiCase, Bool.and_eq_true, beq_iff_eq] at he
    have nv : lowerAscii 'a' ≠ lowerAscii 'v' := by decide
    have ne : lowerAscii 'a' ≠ lowerAscii 'e' := by decide
    constructor
    · simp only [isEtc, inWordSet, htx, List.any_cons, List.any_nil, eqIgnoreAsciiCase]
      simp [he.1, nv]
    · simp only [isCap, htx, eqIgnoreAsciiCase]
      simp [he.1, ne]
  | [], hlen => simp at hlen; omega
  | [_], hlen => simp at hlen; omega
  | _ :: _ :: _ :: _, hlen => simp at hlen; omega

theorem latinPat_mc : MC latinPat :=
  (eitherPat_sat (E := fun _ => True) _ fun _ hp => by
    simp only [List.mem_cons, List.not_mem_nil, or_false] at hp
    have hr : Reads Any fun _ => True := fun _ _ _ _ _ _ _ => trivial
    rcases hp with rfl | rfl <;> refine seqPat_sat sub_any _ fun q hq => ?_ <;>
      simp only [List.mem_cons, List.not_mem_nil, or_false] at hq
    · rcases hq with rfl | rfl
      · exact wordSetAtom_sat hr _
      · exact kindAtom_sat _
    · rcases hq with rfl | rfl | rfl | rfl
      · exact anyCapAtom_sat hr _
      · exact whitespaceAtom_sat
      · exact anyCapAtom_sat hr _
      · exact kindAtom_sat _).mc

theorem latin_patOK_of_inBounds (src : List Char) : PatOK latinPat src (InBounds src.length) where
  tail := fun _ _ h x hx => h x (List.mem_cons_of_mem _ hx)
  ok := fun v hv => ⟨_, latinPat_eq_of_inBounds src v hv, latinPat_mc _ _ _ (latinPat_eq_of_inBounds src v hv)⟩
  -- A match at `t :: u'` that ends beyond the next match start `v` would have to run its whitespace or its `al` over
  -- the head of `v`; but a match at `v` starts on a word reading `etc` / `vs` / `et` (`latinLen_pos`), which is
  -- neither whitespace (`isWord_not_isWhitespace`) nor `al` (`al_not_start`).
  mono := by
    intro u v n n' hu hP hn hpos hn' hpos'
    rw [latinPat_eq_of_inBounds src _ hP] at hn
    have hPv : InBounds src.length v := fun x hx => hP x (List.mem_append_right _ hx)
    rw [latinPat_eq_of_inBounds src _ hPv] at hn'
    injection hn with hn
    injection hn' with hn'
    subst hn; subst hn'
    obtain ⟨tv, rv, hv, hwv, hge2, hstart⟩ := latinLen_pos hpos'
    cases u with
    | nil => exact absurd rfl hu
    | cons t u' =>
      generalize hN' : latinLen src v = N' at hge2 hpos' ⊢
      simp only [List.cons_append, latinLen, List.length_cons] at hpos ⊢
      by_cases hb : (isCap src ['e', 't'] t && (decide (wsCount (u' ++ v) ≥ 1) &&
          alPeriod src ((u' ++ v).drop (wsCount (u' ++ v))))) = true
      · rw [if_pos hb]
        simp only [Bool.and_eq_true, decide_eq_true_eq] at hb
        obtain ⟨_, hw1, hal⟩ := hb
        by_cases hlen : u'.length ≥ wsCount (u' ++ v) + 1
        · have hA : (if (isEtc src t && headPeriod (u' ++ v)) = true then 2 else 0) ≤ 2 := by split <;> omega
          generalize (if (isEtc src t && headPeriod (u' ++ v)) = true then 2 else 0) = A at hA ⊢
          split <;> omega
        · exfalso
          have hdrop : (u' ++ v).drop u'.length = v := by simp
          by_cases hlt : u'.length < wsCount (u' ++ v)
          · obtain ⟨x, rest, hx, hws⟩ := countWhile_drop (fun t : Tok => t.kind.isWhitespace) (u' ++ v) _ hlt
            rw [hdrop, hv] at hx
            injection hx with hx _
            subst hx
            rw [isWord_not_isWhitespace hwv] at hws
            cases hws
          · have heq : u'.length = wsCount (u' ++ v) := by omega
            rw [← heq, hdrop, hv] at hal
            match rv, hal with
            | p :: rest, hal =>
              simp only [alPeriod, Bool.and_eq_true] at hal
              have htv := hPv tv (by rw [hv]; simp)
              have := al_not_start src tv htv.1 htv.2 hal.1
              rcases hstart with h | h
              · rw [this.1] at h; cases h
              · rw [this.2] at h; cases h
            | [], hal => simp [alPeriod] at hal
      · rw [if_neg hb] at hpos ⊢
        have hA : (if (isEtc src t && headPeriod (u' ++ v)) = true then 2 else 0) ≤ 2 := by split <;> omega
        generalize (if (isEtc src t && headPeriod (u' ++ v)) = true then 2 else 0) = A at hA hpos ⊢
        split <;> omega

theorem InB.inBounds {src : List Char} {toks : List Tok} (h : InB src toks) : InBounds src.length toks :=
  fun t ht => ⟨Nat.le_of_lt (h t ht).1, (h t ht).2⟩

theorem latinPat_eq (src : List Char) (toks : List Tok) (hin : InB src toks) :
    latinPat src toks = .ok (latinLen src toks) := latinPat_eq_of_inBounds src toks hin.inBounds

theorem latin_patOK (src : List Char) : PatOK latinPat src (InB src) :=
  (latin_patOK_of_inBounds src).of_imp (fun _ h => h.inBounds) (fun _ _ h => h.tail)

/-! ## the pattern passes -/

theorem Tiles.inB {src : List Char} {toks : List Tok} {p q : Nat} (h : Tiles toks p q) (hq : q ≤ src.length) :
    InB src toks :=
  fun t ht => ⟨h.pos t ht, Nat.le_trans (h.gap.mem t ht).2.2 hq⟩

/-- of the first token of a contraction or of a Latin abbreviation: it is a word -/
abbrev IsWordTok (t : Tok) : Prop := t.kind.isWord = true

theorem contraction_head (src : List Char) (v : List Tok) (n : Nat) (h : contractionPat src v = .ok n) (hn : 0 < n) :
    ∀ t, v.head? = some t → t.kind.isWord = true := by
  rw [contractionPat_eq] at h
  match v, h with
  | a :: b :: c :: r, h =>
    intro t ht
    cases ht
    by_cases hc : (a.kind.isWord && b.kind.isApostrophe && c.kind.isWord) = true
    · simp only [Bool.and_eq_true] at hc; exact hc.1.1
    · have h : (if (a.kind.isWord && b.kind.isApostrophe && c.kind.isWord) = true then 3 else 0) = n :=
        Except.ok.inj h
      rw [if_neg hc] at h; omega
  | [], h | [_], h | [_, _], h => cases h; cases hn

theorem latin_head (src : List Char) (v : List Tok) (hv : InBounds src.length v) (n : Nat) (h : latinPat src v = .ok n)
    (hn : 0 < n) : ∀ t, v.head? = some t → t.kind.isWord = true := by
  rw [latinPat_eq_of_inBounds src v hv] at h
  cases h
  obtain ⟨_, _, rfl, hw, _, _⟩ := latinLen_pos hn
  intro t ht
  cases ht
  exact hw

/-- `condense_contractions` looks at token kinds only: no token vector makes it panic -/
theorem condenseContractions_rewrites (src : List Char) (toks : List Tok) :
    ∃ out, condenseContractions src toks = .ok out ∧ Rewrites (PatW IsWordTok id) toks out :=
  condensePattern_rewrites id (contraction_patOK src) toks trivial fun _ n t hm hn ht =>
    contraction_head src _ n hm hn t ht

theorem condenseEllipsis_rewrites (src : List Char) (toks : List Tok) :
    ∃ out, condenseEllipsis src toks = .ok out ∧ Rewrites (PatW (fun _ => True) fun _ => .punct .Ellipsis) toks out :=
  condensePattern_rewrites _ (ellipsis_patOK src) toks trivial fun _ _ _ _ _ _ => trivial

theorem condenseLatin_rewrites (src : List Char) (toks : List Tok) (hin : InBounds src.length toks) :
    ∃ out, condenseLatin src toks = .ok out ∧ Rewrites (PatW IsWordTok id) toks out :=
  condensePattern_rewrites id (latin_patOK_of_inBounds src) toks hin fun _ n t hm hn ht =>
    latin_head src _ (fun x hx => hin x (List.mem_of_mem_drop hx)) n hm hn t ht

/-! ## `match_quotes` -/

/-- a quote token is given a twin -/
def TwinK (k k' : Kind) : Prop := ∃ tw j, k = .quote tw ∧ k' = .quote (some j)

theorem setTwins_rewrites (tab : List (Nat × Nat)) (toks : List Tok) : ∀ i, Rewrites (Rekind TwinK) toks (setTwins tab i toks) := by
  induction toks with
  | nil => exact fun _ => .refl _
  | cons t ts ih =>
    intro i
    refine .trans (.cons t (ih (i + 1))) ?_
    simp only [setTwins]
    split
    · rename_i tw j hk _
      exact .write (blk := [t]) _ (.mk t _ ⟨tw, j, hk, rfl⟩)
    · exact .refl _

theorem matchQuotes_rewrites (toks : List Tok) : Rewrites (Rekind TwinK) toks (matchQuotes toks) :=
  setTwins_rewrites _ toks 0

/-! ## the passes in stages -/

def passes123 (t0 : List Tok) : List Tok := newlinesToBreaks (condenseNewlines (condenseSpaces t0))

/-- `condense_contractions` … `condense_latin`, in the order of `Document::parse` -/
def passes48 (src : List Char) (t3 : List Tok) : Except Panic (List Tok) :=
  match condenseContractions src t3 with
  | .error e => .error e
  | .ok t4 =>
    match numberSuffixes src (dottedInitialisms t4) with
    | .error e => .error e
    | .ok t6 =>
      match condenseEllipsis src t6 with
      | .error e => .error e
      | .ok t7 => condenseLatin src t7

/-- `Document::parse` up to (not including) `match_quotes` -/
def prePasses (src : List Char) (t0 : List Tok) : Except Panic (List Tok) := passes48 src (passes123 t0)

theorem passes48_ok_of {src : List Char} {t3 t4 t6 t7 t8 : List Tok} (h4 : condenseContractions src t3 = .ok t4)
    (h6 : numberSuffixes src (dottedInitialisms t4) = .ok t6) (h7 : condenseEllipsis src t6 = .ok t7)
    (h8 : condenseLatin src t7 = .ok t8) : passes48 src t3 = .ok t8 := by
  simp only [passes48, h4, h6, h7, h8]

theorem passes48_ok {src : List Char} {t3 t8 : List Tok} (h : passes48 src t3 = .ok t8) :
    ∃ t4 t6 t7, condenseContractions src t3 = .ok t4 ∧ numberSuffixes src (dottedInitialisms t4) = .ok t6 ∧
      condenseEllipsis src t6 = .ok t7 ∧ condenseLatin src t7 = .ok t8 := by
  unfold passes48 at h
  cases h4 : condenseContractions src t3 with
  | error e => rw [h4] at h; cases h
  | ok t4 =>
    rw [h4] at h
    simp only at h
    cases h6 : numberSuffixes src (dottedInitialisms t4) with
    | error e => rw [h6] at h; cases h
    | ok t6 =>
      rw [h6] at h
      simp only at h
      cases h7 : condenseEllipsis src t6 with
      | error e => rw [h7] at h; cases h
      | ok t7 =>
        rw [h7] at h
        exact ⟨t4, t6, t7, rfl, h6, h7, h⟩

theorem condenseAll_eq (src : List Char) (t0 : List Tok) :
    condenseAll src t0 = (prePasses src t0).map matchQuotes := by
  unfold condenseAll prePasses passes48 passes123
  dsimp only
  cases condenseContractions src (newlinesToBreaks (condenseNewlines (condenseSpaces t0))) with
  | error e => rfl
  | ok t4 =>
    simp only
    cases numberSuffixes src (dottedInitialisms t4) with
    | error e => rfl
    | ok t6 =>
      simp only
      cases condenseEllipsis src t6 with
      | error e => rfl
      | ok t7 =>
        simp only
        cases condenseLatin src t7 <;> rfl

/-! ## everything `Document::parse` writes -/

/-- the writes of the passes before `match_quotes`; `wd`: what is known of the first token of a contraction or a Latin
abbreviation -/
inductive Writes (wd : Tok → Prop) (src : List Char) (blk : List Tok) (t : Tok) : Prop
  | spaces (h : RunW spacesCfg blk t)
  | newlines (h : RunW newlinesCfg blk t)
  | breaks (h : Rekind BreakK blk t)
  | word (h : PatW wd id blk t)
  | init (h : InitW blk t)
  | suffix (h : SufW src blk t)
  | ellipsis (h : PatW (fun _ => True) (fun _ => .punct .Ellipsis) blk t)

/-- the writes of all passes -/
def DocWrites (wd : Tok → Prop) (src : List Char) (blk : List Tok) (t : Tok) : Prop :=
  Writes wd src blk t ∨ Rekind TwinK blk t

theorem Tiles.writes {wd : Tok → Prop} {src : List Char} : Closed (Writes wd src) Tiles :=
  Tiles.closed fun _ _ _ _ _ hW h => by
    cases hW with
    | spaces hW | newlines hW => exact Tiles.merge2.write _ _ _ _ _ hW.merge2 h
    | init hW | suffix hW => exact Tiles.merge2.write _ _ _ _ _ hW.merge2 h
    | breaks hW => exact Tiles.rekind.write _ _ _ _ _ hW h
    | word hW | ellipsis hW => exact Tiles.patW.write _ _ _ _ _ hW h

theorem Tiles.docWrites {wd : Tok → Prop} {src : List Char} : Closed (DocWrites wd src) Tiles :=
  Tiles.closed fun _ _ _ _ _ hW h => hW.elim (fun hW => Tiles.writes.write _ _ _ _ _ hW h) (fun hW => Tiles.rekind.write _ _ _ _ _ hW h)

theorem Gap.writes {wd : Tok → Prop} {src : List Char} : Closed (Writes wd src) Gap :=
  Gap.closed fun _ _ _ _ _ hW h => by
    cases hW with
    | spaces hW | newlines hW => exact Gap.merge2.write _ _ _ _ _ hW.merge2 h
    | init hW | suffix hW => exact Gap.merge2.write _ _ _ _ _ hW.merge2 h
    | breaks hW => exact Gap.rekind.write _ _ _ _ _ hW h
    | word hW | ellipsis hW => exact Gap.patW.write _ _ _ _ _ hW h

theorem Gap.docWrites {wd : Tok → Prop} {src : List Char} : Closed (DocWrites wd src) Gap :=
  Gap.closed fun _ _ _ _ _ hW h => hW.elim (fun hW => Gap.writes.write _ _ _ _ _ hW h) (fun hW => Gap.rekind.write _ _ _ _ _ hW h)

/- Inside this section the passes are used through their lemmas only. They are kept opaque, so that inspecting a
goal `Tiles (pass …) a b` does not evaluate the pass as far as it goes. -/
section
attribute [local irreducible] condenseSpaces condenseNewlines newlinesToBreaks dottedInitialisms matchQuotes

theorem passes123_rewrites {wd : Tok → Prop} {src : List Char} (t0 : List Tok) :
    Rewrites (Writes wd src) t0 (passes123 t0) :=
  .trans (.trans ((condenseSpaces_rewrites t0).mono fun _ _ => .spaces)
    ((condenseNewlines_rewrites _).mono fun _ _ => .newlines)) ((newlinesToBreaks_rewrites _).mono fun _ _ => .breaks)

/-- on tokens in text order inside the text `Document::parse` does not panic, stage by stage -/
theorem passes48_rewrites {src : List Char} {t3 : List Tok} {p q : Nat} (h : Gap t3 p q) (hq : q ≤ src.length) :
    ∃ t4 t6 t7 t8, condenseContractions src t3 = .ok t4 ∧ numberSuffixes src (dottedInitialisms t4) = .ok t6 ∧
      condenseEllipsis src t6 = .ok t7 ∧ condenseLatin src t7 = .ok t8 ∧
      Rewrites (Writes IsWordTok src) t3 (dottedInitialisms t4) ∧ Rewrites (Writes IsWordTok src) (dottedInitialisms t4) t6 ∧
      Rewrites (Writes IsWordTok src) t6 t7 ∧ Rewrites (Writes IsWordTok src) t7 t8 := by
  obtain ⟨t4, e4, w4⟩ := condenseContractions_rewrites src t3
  have r5 : Rewrites (Writes IsWordTok src) t3 (dottedInitialisms t4) :=
    .trans (w4.mono fun _ _ => .word) ((dottedInitialisms_rewrites t4).mono fun _ _ => .init)
  have g5 := r5.keeps Gap.writes p q h
  obtain ⟨t6, e6⟩ := numberSuffixes_ok src _ (g5.inBounds hq)
  have r6 : Rewrites (Writes IsWordTok src) (dottedInitialisms t4) t6 := (numberSuffixes_rewrites e6).mono fun _ _ => .suffix
  obtain ⟨t7, e7, w7⟩ := condenseEllipsis_rewrites src t6
  have r7 : Rewrites (Writes IsWordTok src) t6 t7 := w7.mono fun _ _ => .ellipsis
  have g7 := r7.keeps Gap.writes p q (r6.keeps Gap.writes p q g5)
  obtain ⟨t8, e8, w8⟩ := condenseLatin_rewrites src t7 (g7.inBounds hq)
  exact ⟨t4, t6, t7, t8, e4, e6, e7, e8, r5, r6, r7, w8.mono fun _ _ => .word⟩

theorem prePasses_rewrites {src : List Char} {t0 : List Tok} {p q : Nat} (h : Gap t0 p q) (hq : q ≤ src.length) :
    ∃ t8, prePasses src t0 = .ok t8 ∧ Rewrites (Writes IsWordTok src) t0 t8 := by
  have r3 : Rewrites (Writes IsWordTok src) t0 (passes123 t0) := passes123_rewrites t0
  obtain ⟨t4, t6, t7, t8, e4, e6, e7, e8, r5, r6, r7, r8⟩ := passes48_rewrites (r3.keeps Gap.writes p q h) hq
  exact ⟨t8, passes48_ok_of e4 e6 e7 e8, .trans (.trans (.trans (.trans r3 r5) r6) r7) r8⟩

/-- **all passes**: on tokens in text order inside the text `Document::parse` returns, and what it returns arises from
what it was given by the writes listed in `Writes` -/
theorem condenseAll_rewrites {src : List Char} {t0 : List Tok} {p q : Nat} (h : Gap t0 p q) (hq : q ≤ src.length) :
    ∃ out, condenseAll src t0 = .ok out ∧ Rewrites (DocWrites IsWordTok src) t0 out := by
  obtain ⟨t8, e8, r8⟩ := prePasses_rewrites h hq
  exact ⟨_, by rw [condenseAll_eq, e8]; rfl, .trans (r8.mono fun _ _ => .inl) ((matchQuotes_rewrites t8).mono fun _ _ => .inr)⟩

/-- without any hypothesis on the tokens: whatever the tokens have and a written token inherits from its block, the
tokens `Document::parse` returns have, if it returns -/
theorem prePasses_forall {src : List Char} {Ψ : Tok → Prop}
    (hΨ : ∀ blk t, Writes (fun _ => True) src blk t → (∀ u ∈ blk, Ψ u) → Ψ t) {t0 t8 : List Tok}
    (h : prePasses src t0 = .ok t8) (hin : ∀ t ∈ t0, Ψ t) : ∀ t ∈ t8, Ψ t := by
  obtain ⟨t4, t6, t7, e4, e6, e7, e8⟩ := passes48_ok h
  have h4 := condensePattern_forall _ _ (fun _ _ hW => hΨ _ _ (.word hW)) e4 ((passes123_rewrites t0).forall hΨ hin)
  have h6 := (numberSuffixes_rewrites e6).forall (fun _ _ hW => hΨ _ _ (.suffix hW))
    ((dottedInitialisms_rewrites t4).forall (fun _ _ hW => hΨ _ _ (.init hW)) h4)
  exact condensePattern_forall _ _ (fun _ _ hW => hΨ _ _ (.word hW)) e8
    (condensePattern_forall _ _ (fun _ _ hW => hΨ _ _ (.ellipsis hW)) e7 h6)

theorem condenseAll_forall {src : List Char} {Ψ : Tok → Prop}
    (hΨ : ∀ blk t, DocWrites (fun _ => True) src blk t → (∀ u ∈ blk, Ψ u) → Ψ t) {t0 out : List Tok}
    (h : condenseAll src t0 = .ok out) (hin : ∀ t ∈ t0, Ψ t) : ∀ t ∈ out, Ψ t := by
  rw [condenseAll_eq] at h
  obtain ⟨t8, h8, rfl⟩ := Except.map_eq_ok h
  exact (matchQuotes_rewrites t8).forall (fun _ _ hW => hΨ _ _ (.inr hW))
    (prePasses_forall (fun _ _ hW => hΨ _ _ (.inl hW)) h8 hin)

end

/-- a property of spans that survives "start of one, end of another" and "minimum and maximum of a slice" -/
theorem DocWrites.span {wd : Tok → Prop} {src : List Char} (P : Span → Prop)
    (hmerge : ∀ s c : Span, P s → P c → P ⟨s.start, c.stop⟩)
    (hspan : ∀ slice sp, (∀ t ∈ slice, P t.span) → spanOf slice = some sp → P sp) {blk : List Tok} {t : Tok}
    (hW : DocWrites wd src blk t) (h : ∀ u ∈ blk, P u.span) : P t.span := by
  have hm : ∀ adj, ∀ s c : Span, P s → P c → (adj = true → s.stop = c.start) → P ⟨s.start, c.stop⟩ :=
    fun _ s c hs hc _ => hmerge s c hs hc
  rcases hW with hW | hW
  · cases hW with
    | spaces hW | newlines hW => exact hW.merge2.span P (hm _) h
    | init hW | suffix hW => exact hW.merge2.span P (hm _) h
    | breaks hW => exact hW.span P h
    | word hW | ellipsis hW => exact hW.span P hspan h
  · exact hW.span P h

end Harper
