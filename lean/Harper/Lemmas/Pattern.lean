import Harper.Model.Pattern
/-!
# Lemmas about the pattern framework model (`Harper/Model/Pattern.lean`)

`Contract` is the (unwritten) contract of `Pattern::matches`: the returned length never exceeds
the number of tokens handed in. Combinators preserve it; leaves have to keep it.
-/
namespace Harper.Pat

/-! ### the contract -/

mutual
/-- every arbitrary leaf (`fn f`) inside the pattern returns at most the length of its input -/
def Contract : Pat → Prop
  | .leaf _ => True
  | .fn f => ∀ toks, f toks ≤ toks.length
  | .any => True
  | .whitespace => True
  | .seq ps => ContractL ps
  | .rep p _ => Contract p
  | .either ps => ContractL ps
  | .all ps => ContractL ps
  | .invert p => Contract p
  | .consumes p => Contract p
def ContractL : PatList → Prop
  | .nil => True
  | .cons p ps => Contract p ∧ ContractL ps
end

/-- a matcher that never panics, never hangs and stays inside its slice -/
def Safe (m : List Nat → Except Panic Nat) : Prop :=
  ∀ s, ∃ n, m s = .ok n ∧ n ≤ s.length

/-- a matcher that never runs out of fuel -/
def NoHang (m : List Nat → Except Panic Nat) : Prop :=
  ∀ s, m s ≠ .error .outOfFuel

/-! ### slices, whitespace -/

theorem sliceFrom_ok {toks : List Nat} {c : Nat} (h : c ≤ toks.length) :
    sliceFrom toks c = .ok (toks.drop c) := by
  unfold sliceFrom
  rw [if_neg (by omega)]

theorem sliceFrom_oob {toks : List Nat} {c : Nat} (h : toks.length < c) :
    sliceFrom toks c = .error .sliceOOB := by
  unfold sliceFrom
  rw [if_pos h]

theorem sliceFrom_ne_outOfFuel (toks : List Nat) (c : Nat) :
    sliceFrom toks c ≠ .error .outOfFuel := by
  unfold sliceFrom
  split <;> simp

theorem wsLen_le (toks : List Nat) : wsLen toks ≤ toks.length := by
  induction toks with
  | nil => exact Nat.le_refl _
  | cons t ts ih =>
    unfold wsLen
    by_cases h : isWs t = true
    · rw [if_pos h]; exact Nat.succ_le_succ ih
    · rw [if_neg h]; exact Nat.zero_le _

theorem bit_le_succ {c : Prop} [Decidable c] (n : Nat) : (if c then 1 else 0) ≤ n + 1 := by
  by_cases h : c
  · rw [if_pos h]; exact Nat.succ_le_succ (Nat.zero_le _)
  · rw [if_neg h]; exact Nat.zero_le _

theorem ite_gt_le {a b k : Nat} (ha : a ≤ k) (hb : b ≤ k) : (if a > b then a else b) ≤ k := by
  by_cases h : a > b
  · rw [if_pos h]; exact ha
  · rw [if_neg h]; exact hb

/-! ### `RepeatingPattern`'s loop -/

/-- With a safe inner matcher the loop never panics, never runs out of fuel once
`fuel > len - cursor` (every iteration that continues consumes at least one token), and returns
a length inside the slice. -/
theorem repLoop_safe (m : List Nat → Except Panic Nat) (hm : Safe m) (req : Nat)
    (toks : List Nat) :
    ∀ fuel c r, c ≤ toks.length → toks.length < c + fuel →
      ∃ n, repLoop m req toks fuel c r = .ok n ∧ n ≤ toks.length := by
  intro fuel
  induction fuel with
  | zero => intro c r hc h; exact absurd h (Nat.not_lt.mpr hc)
  | succ fuel ih =>
    intro c r hc hf
    obtain ⟨n, hn, hle⟩ := hm (toks.drop c)
    rw [List.length_drop] at hle
    unfold repLoop
    rw [sliceFrom_ok hc]
    dsimp only
    rw [hn]
    dsimp only
    by_cases h0 : n = 0
    · rw [if_pos h0]
      by_cases hr : r ≥ req
      · rw [if_pos hr]; exact ⟨c, rfl, hc⟩
      · rw [if_neg hr]; exact ⟨0, rfl, Nat.zero_le _⟩
    · rw [if_neg h0]
      exact ih (c + n) (r + 1) (by omega) (by omega)

/-- Whatever the inner matcher returns (contract or not), the loop does not hang: it returns,
or it runs into the slice panic after at most `len + 2` iterations. -/
theorem repLoop_noHang (m : List Nat → Except Panic Nat) (hm : NoHang m) (req : Nat)
    (toks : List Nat) :
    ∀ fuel c r, 0 < fuel → toks.length + 2 ≤ c + fuel →
      repLoop m req toks fuel c r ≠ .error .outOfFuel := by
  intro fuel
  induction fuel with
  | zero => intro c r h; exact absurd h (Nat.lt_irrefl 0)
  | succ fuel ih =>
    intro c r _ hf
    unfold repLoop
    by_cases hc : c ≤ toks.length
    · have := hm (toks.drop c)
      rw [sliceFrom_ok hc]
      dsimp only
      revert this
      cases m (toks.drop c) with
      | error e => exact id
      | ok n =>
        intro _
        dsimp only
        by_cases h0 : n = 0
        · rw [if_pos h0, ← apply_ite Except.ok]; exact fun h => nomatch h
        · rw [if_neg h0]
          exact ih (c + n) (r + 1) (by omega) (by omega)
    · rw [sliceFrom_oob (Nat.lt_of_not_le hc)]
      exact fun h => nomatch h

/-! ### `matches` is safe under the contract (mutual structural induction) -/

mutual
theorem matchLen_safe : (p : Pat) → Contract p → Safe (matchLen p)
  | .leaf k, _, toks => by
    cases toks with
    | nil => exact ⟨0, rfl, Nat.le_refl _⟩
    | cons t ts => exact ⟨if t = k then 1 else 0, rfl, bit_le_succ _⟩
  | .fn f, h, toks => ⟨f toks, rfl, h toks⟩
  | .any, _, toks => by
    cases toks with
    | nil => exact ⟨0, rfl, Nat.le_refl _⟩
    | cons t ts => exact ⟨1, rfl, Nat.succ_le_succ (Nat.zero_le _)⟩
  | .whitespace, _, toks => ⟨wsLen toks, rfl, wsLen_le toks⟩
  | .seq ps, h, toks => seqLoop_safe ps h toks 0 (Nat.zero_le _)
  | .rep p n, h, toks =>
    repLoop_safe (matchLen p) (matchLen_safe p h) n toks (toks.length + 2) 0 0 (Nat.zero_le _)
      (by omega)
  | .either ps, h, toks => eitherLoop_safe ps h toks 0 (Nat.zero_le _)
  | .all ps, h, toks => allLoop_safe ps h toks 0 (Nat.zero_le _)
  | .invert p, h, toks => by
    cases toks with
    | nil => exact ⟨0, rfl, Nat.le_refl _⟩
    | cons t ts =>
      obtain ⟨n, hn, _⟩ := matchLen_safe p h (t :: ts)
      rw [matchLen, List.isEmpty_cons, if_neg Bool.false_ne_true, hn]
      refine ⟨_, rfl, ?_⟩
      by_cases h0 : n ≠ 0
      · rw [if_pos h0]; exact Nat.zero_le _
      · rw [if_neg h0]; exact Nat.succ_le_succ (Nat.zero_le _)
  | .consumes p, h, toks => by
    obtain ⟨n, hn, hle⟩ := matchLen_safe p h toks
    rw [matchLen, hn]
    refine ⟨_, rfl, ?_⟩
    by_cases hc : n = toks.length
    · rw [if_pos hc]; exact hle
    · rw [if_neg hc]; exact Nat.zero_le _
theorem seqLoop_safe : (ps : PatList) → ContractL ps → ∀ (toks : List Nat) (c : Nat),
    c ≤ toks.length → ∃ n, seqLoop ps toks c = .ok n ∧ n ≤ toks.length
  | .nil, _, toks, c, hc => ⟨c, rfl, hc⟩
  | .cons p ps, h, toks, c, hc => by
    obtain ⟨n, hn, hle⟩ := matchLen_safe p h.1 (toks.drop c)
    rw [seqLoop, sliceFrom_ok hc]
    dsimp only
    rw [hn]
    dsimp only
    rw [List.length_drop] at hle
    by_cases h0 : n = 0
    · rw [if_pos h0]; exact ⟨0, rfl, Nat.zero_le _⟩
    · rw [if_neg h0]
      exact seqLoop_safe ps h.2 toks (c + n) (by omega)
theorem eitherLoop_safe : (ps : PatList) → ContractL ps → ∀ (toks : List Nat) (l : Nat),
    l ≤ toks.length → ∃ n, eitherLoop ps toks l = .ok n ∧ n ≤ toks.length
  | .nil, _, toks, l, hl => ⟨l, rfl, hl⟩
  | .cons p ps, h, toks, l, hl => by
    obtain ⟨n, hn, hle⟩ := matchLen_safe p h.1 toks
    rw [eitherLoop, hn]
    exact eitherLoop_safe ps h.2 toks _ (ite_gt_le hle hl)
theorem allLoop_safe : (ps : PatList) → ContractL ps → ∀ (toks : List Nat) (mx : Nat),
    mx ≤ toks.length → ∃ n, allLoop ps toks mx = .ok n ∧ n ≤ toks.length
  | .nil, _, toks, mx, hl => ⟨mx, rfl, hl⟩
  | .cons p ps, h, toks, mx, hl => by
    obtain ⟨n, hn, hle⟩ := matchLen_safe p h.1 toks
    rw [allLoop, hn]
    dsimp only
    by_cases h0 : n = 0
    · rw [if_pos h0]; exact ⟨0, rfl, Nat.zero_le _⟩
    · rw [if_neg h0]
      exact allLoop_safe ps h.2 toks _ (ite_gt_le hle hl)
end

/-! ### no combinator can hang, contract or not -/

mutual
theorem matchLen_noHang : (p : Pat) → NoHang (matchLen p)
  | .leaf k => fun toks h => by cases toks <;> cases h
  | .fn f => fun toks h => by cases h
  | .any => fun toks h => by cases h
  | .whitespace => fun toks h => by cases h
  | .seq ps => fun toks => seqLoop_noHang ps toks 0
  | .rep p n => fun toks =>
    repLoop_noHang (matchLen p) (matchLen_noHang p) n toks _ 0 0 (Nat.zero_lt_succ _) (Nat.le_of_eq (Nat.zero_add _).symm)
  | .either ps => fun toks => eitherLoop_noHang ps toks 0
  | .all ps => fun toks => allLoop_noHang ps toks 0
  | .invert p => fun toks => by
    cases toks with
    | nil => exact fun h => nomatch h
    | cons t ts =>
      have := matchLen_noHang p (t :: ts)
      rw [matchLen, List.isEmpty_cons, if_neg Bool.false_ne_true]
      revert this
      cases matchLen p (t :: ts) with
      | error e => exact id
      | ok n => exact fun _ h => nomatch h
  | .consumes p => fun toks => by
    have := matchLen_noHang p toks
    rw [matchLen]
    revert this
    cases matchLen p toks with
    | error e => exact id
    | ok n => exact fun _ h => nomatch h
theorem seqLoop_noHang : (ps : PatList) → ∀ (toks : List Nat) (c : Nat),
    seqLoop ps toks c ≠ .error .outOfFuel
  | .nil, toks, c => fun h => nomatch h
  | .cons p ps, toks, c => by
    have := sliceFrom_ne_outOfFuel toks c
    rw [seqLoop]
    revert this
    cases sliceFrom toks c with
    | error e => exact fun h1 h2 => h1 (by cases h2; rfl)
    | ok s =>
      intro _
      dsimp only
      have := matchLen_noHang p s
      revert this
      cases matchLen p s with
      | error e => exact id
      | ok n =>
        intro _
        dsimp only
        by_cases h0 : n = 0
        · rw [if_pos h0]; exact fun h => nomatch h
        · rw [if_neg h0]; exact seqLoop_noHang ps toks (c + n)
theorem eitherLoop_noHang : (ps : PatList) → ∀ (toks : List Nat) (l : Nat),
    eitherLoop ps toks l ≠ .error .outOfFuel
  | .nil, toks, l => fun h => nomatch h
  | .cons p ps, toks, l => by
    have := matchLen_noHang p toks
    rw [eitherLoop]
    revert this
    cases matchLen p toks with
    | error e => exact id
    | ok n => exact fun _ => eitherLoop_noHang ps toks _
theorem allLoop_noHang : (ps : PatList) → ∀ (toks : List Nat) (mx : Nat),
    allLoop ps toks mx ≠ .error .outOfFuel
  | .nil, toks, mx => fun h => nomatch h
  | .cons p ps, toks, mx => by
    have := matchLen_noHang p toks
    rw [allLoop]
    revert this
    cases matchLen p toks with
    | error e => exact id
    | ok n =>
      intro _
      dsimp only
      by_cases h0 : n = 0
      · rw [if_pos h0]; exact fun h => nomatch h
      · rw [if_neg h0]; exact allLoop_noHang ps toks _
end

/-! ### `run_on_chunk` -/

/-- sorted by start and pairwise disjoint: each match ends before the next begins -/
def Disjoint (ms : List (Nat × Nat)) : Prop := ms.Pairwise (fun a b => a.1 + a.2 ≤ b.1)

/-- matches in a chunk of `len` tokens, one after the other from the cursor `c` on: each is non-empty, begins at or after
the end of the one before it, and ends inside the chunk -/
def Chain (len : Nat) : Nat → List (Nat × Nat) → Prop
  | _, [] => True
  | c, m :: ms => c ≤ m.1 ∧ 1 ≤ m.2 ∧ m.1 + m.2 ≤ len ∧ Chain len (m.1 + m.2) ms

theorem Chain.mono {len c c' : Nat} (h : c' ≤ c) : ∀ {ms}, Chain len c ms → Chain len c' ms
  | [], _ => trivial
  | _ :: _, hc => ⟨Nat.le_trans h hc.1, hc.2⟩

theorem Chain.bounds {len : Nat} : ∀ {c ms}, Chain len c ms → ∀ m ∈ ms, c ≤ m.1 ∧ 1 ≤ m.2 ∧ m.1 + m.2 ≤ len
  | _, [], _, _, hm => nomatch hm
  | c, a :: ms, hc, m, hm => by
    rcases List.mem_cons.mp hm with rfl | hm
    · exact ⟨hc.1, hc.2.1, hc.2.2.1⟩
    · have := hc.2.2.2.bounds m hm
      exact ⟨Nat.le_trans hc.1 (Nat.le_trans (Nat.le_add_right _ _) this.1), this.2⟩

theorem Chain.disjoint {len : Nat} : ∀ {c ms}, Chain len c ms → Disjoint ms
  | _, [], _ => List.Pairwise.nil
  | _, _ :: _, hc => List.pairwise_cons.mpr ⟨fun m hm => (hc.2.2.2.bounds m hm).1, hc.2.2.2.disjoint⟩

theorem Chain.append_shift {len len' off : Nat} {rest : List (Nat × Nat)} (hr : Chain len' (off + len) rest)
    (hl : off + len ≤ len') : ∀ {c ms}, c ≤ len → Chain len c ms →
      Chain len' (c + off) (ms.map (fun m => (m.1 + off, m.2)) ++ rest)
  | c, [], hcl, _ => hr.mono (by omega)
  | c, m :: ms, _, hc => by
    have h3 := hc.2.2.1
    refine ⟨Nat.add_le_add_right hc.1 off, hc.2.1, by dsimp only; omega, ?_⟩
    have := Chain.append_shift hr hl h3 hc.2.2.2
    rw [Nat.add_right_comm] at this
    exact this

theorem runLoop_safe (p : Pat) (hp : Contract p) (chunk : List Nat) :
    ∀ fuel c, chunk.length ≤ c + fuel → ∃ ms, runLoop p chunk fuel c = .ok ms ∧ Chain chunk.length c ms := by
  intro fuel
  induction fuel with
  | zero => intro c h; exact ⟨[], if_pos h, trivial⟩
  | succ fuel ih =>
    intro c h
    unfold runLoop
    by_cases hc : c ≥ chunk.length
    · rw [if_pos hc]; exact ⟨[], rfl, trivial⟩
    · obtain ⟨n, hn, hle⟩ := matchLen_safe p hp (chunk.drop c)
      rw [List.length_drop] at hle
      rw [if_neg hc, sliceFrom_ok (Nat.le_of_lt (Nat.lt_of_not_le hc))]
      dsimp only
      rw [hn]
      dsimp only
      by_cases h0 : n = 0
      · rw [if_neg (fun h => h h0)]
        obtain ⟨ms, hms, hch⟩ := ih (c + 1) (by omega)
        exact ⟨ms, hms, hch.mono (Nat.le_succ c)⟩
      · have hcn : c + n ≤ chunk.length := by omega
        rw [if_pos h0, if_neg (Nat.not_lt.mpr hcn)]
        obtain ⟨ms, hms, hch⟩ := ih (c + n) (by omega)
        rw [hms]
        exact ⟨(c, n) :: ms, rfl, Nat.le_refl c, Nat.pos_of_ne_zero h0, hcn, hch⟩

/-- the loop of `run_on_chunk` cannot spin: every iteration advances the cursor, so
`chunk.length - cursor` iterations are enough — for *any* pattern. -/
theorem runLoop_noHang (p : Pat) (chunk : List Nat) :
    ∀ fuel c, chunk.length ≤ c + fuel → runLoop p chunk fuel c ≠ .error .outOfFuel := by
  intro fuel
  induction fuel with
  | zero =>
    intro c h
    rw [show runLoop p chunk 0 c = .ok [] from if_pos h]
    exact fun h => nomatch h
  | succ fuel ih =>
    intro c h
    unfold runLoop
    by_cases hc : c ≥ chunk.length
    · rw [if_pos hc]; exact fun h => nomatch h
    · have := matchLen_noHang p (chunk.drop c)
      rw [if_neg hc, sliceFrom_ok (Nat.le_of_lt (Nat.lt_of_not_le hc))]
      dsimp only
      revert this
      cases matchLen p (chunk.drop c) with
      | error e => exact fun h1 h2 => h1 (by cases h2; rfl)
      | ok n =>
        intro _
        dsimp only
        by_cases h0 : n = 0
        · rw [if_neg (fun h => h h0)]
          exact ih (c + 1) (by omega)
        · rw [if_pos h0]
          by_cases hoob : c + n > chunk.length
          · rw [if_pos hoob]; exact fun h => nomatch h
          · have := ih (c + n) (by omega)
            rw [if_neg hoob]
            revert this
            cases runLoop p chunk fuel (c + n) with
            | error e => exact id
            | ok ms => exact fun _ h => nomatch h

/-! ### `find_all_matches` -/

theorem collectMatches_safe (p : Pat) (hp : Contract p) :
    ∀ (toks : List Nat) (i : Nat),
      ∃ found, collectMatches p i toks = .ok found ∧
        (∀ m ∈ found, i ≤ m.1 ∧ 1 ≤ m.2 ∧ m.1 + m.2 ≤ i + toks.length) ∧
        found.Pairwise (fun a b => a.1 < b.1) := by
  intro toks
  induction toks with
  | nil => intro i; exact ⟨[], rfl, fun _ h => absurd h List.not_mem_nil, List.Pairwise.nil⟩
  | cons t ts ih =>
    intro i
    obtain ⟨n, hn, hle⟩ := matchLen_safe p hp (t :: ts)
    obtain ⟨rest, hr, hb, hs⟩ := ih (i + 1)
    have hb' : ∀ m ∈ rest, i < m.1 ∧ 1 ≤ m.2 ∧ m.1 + m.2 ≤ i + (t :: ts).length := fun m hm => by
      have := hb m hm
      rw [List.length_cons]; omega
    unfold collectMatches
    rw [hn]
    dsimp only
    rw [hr]
    dsimp only
    by_cases h0 : n > 0
    · rw [if_pos h0]
      refine ⟨_, rfl, fun m hm => ?_, List.pairwise_cons.mpr ⟨fun m hm => (hb' m hm).1, hs⟩⟩
      rcases List.mem_cons.mp hm with rfl | hm
      · exact ⟨Nat.le_refl i, h0, Nat.add_le_add_left hle i⟩
      · exact ⟨Nat.le_of_lt (hb' m hm).1, (hb' m hm).2⟩
    · rw [if_neg h0]
      exact ⟨rest, rfl, fun m hm => ⟨Nat.le_of_lt (hb' m hm).1, (hb' m hm).2⟩, hs⟩

theorem collectMatches_noHang (p : Pat) : ∀ (toks : List Nat) (i : Nat), collectMatches p i toks ≠ .error .outOfFuel
  | [], _ => fun h => nomatch h
  | t :: ts, i => by
    have h1 := matchLen_noHang p (t :: ts)
    have h2 := collectMatches_noHang p ts (i + 1)
    unfold collectMatches
    revert h1
    cases matchLen p (t :: ts) with
    | error e => exact fun h1 h2 => h1 (by cases h2; rfl)
    | ok n =>
      intro _
      dsimp only
      revert h2
      cases collectMatches p (i + 1) ts with
      | error e => exact id
      | ok rest => exact fun _ h => nomatch h

theorem removeIndices_sublist {α} (xs : List α) : ∀ (i : Nat) (q : List Nat),
    (removeIndices i q xs).Sublist xs := by
  induction xs with
  | nil => intro i q; cases q <;> simp [removeIndices]
  | cons x xs ih =>
    intro i q
    cases q with
    | nil => simp only [removeIndices]; exact (ih (i + 1) []).cons_cons x
    | cons r q =>
      simp only [removeIndices]
      split
      · exact (ih (i + 1) q).cons x
      · exact (ih (i + 1) (r :: q)).cons_cons x

/-- when every queued index lies after the running index, the current element is kept -/
theorem removeIndices_keep {α} (x : α) (xs : List α) (i : Nat) (q : List Nat)
    (h : ∀ r ∈ q, i < r) :
    removeIndices i q (x :: xs) = x :: removeIndices (i + 1) q xs := by
  cases q with
  | nil => simp [removeIndices]
  | cons r q =>
    have : i ≠ r := by have := h r List.mem_cons_self; omega
    simp [removeIndices, this]

theorem adjOverlapIdx_gt : ∀ (l : List (Nat × Nat)) (i : Nat), ∀ r ∈ adjOverlapIdx i l, i < r := by
  intro l
  induction l with
  | nil => intro i r h; simp [adjOverlapIdx] at h
  | cons a l ih =>
    intro i r h
    cases l with
    | nil => simp [adjOverlapIdx] at h
    | cons b rest =>
      unfold adjOverlapIdx at h
      split at h
      · rcases List.mem_cons.mp h with rfl | h
        · omega
        · have := ih (i + 1) r h; omega
      · have := ih (i + 1) r h; omega

/-- What the index queue + `remove_indices` of `find_all_matches` compute, as one recursion:
an element is dropped iff it overlaps its **predecessor in the unfiltered list** (`prev` is
updated even when the element is dropped). -/
def dropAdj (prev : Nat × Nat) : List (Nat × Nat) → List (Nat × Nat)
  | [] => []
  | b :: rest => if overlaps prev b then dropAdj b rest else b :: dropAdj b rest

theorem removeIndices_adj : ∀ (rest : List (Nat × Nat)) (a : Nat × Nat) (i : Nat),
    removeIndices (i + 1) (adjOverlapIdx i (a :: rest)) rest = dropAdj a rest := by
  intro rest
  induction rest with
  | nil => intro a i; simp [removeIndices, dropAdj]
  | cons b rest ih =>
    intro a i
    unfold adjOverlapIdx dropAdj
    by_cases ho : overlaps a b = true
    · simp only [ho, if_true, removeIndices]
      exact ih b (i + 1)
    · have ho' : overlaps a b = false := by simpa using ho
      simp only [ho', Bool.false_eq_true, if_false]
      rw [removeIndices_keep b rest (i + 1) _ (adjOverlapIdx_gt (b :: rest) (i + 1))]
      rw [ih b (i + 1)]

/-- `find_all_matches` = collect, then `dropAdj` behind the first match -/
theorem findAllMatches_eq (p : Pat) (toks : List Nat) :
    findAllMatches p toks =
      match collectMatches p 0 toks with
      | .error e => .error e
      | .ok [] => .ok []
      | .ok (a :: rest) => .ok (a :: dropAdj a rest) := by
  unfold findAllMatches
  cases collectMatches p 0 toks with
  | error e => rfl
  | ok found =>
    match found with
    | [] => simp
    | [a] => simp [dropAdj]
    | a :: b :: rest =>
      simp only [List.length_cons]
      rw [if_neg (by omega)]
      rw [removeIndices_keep a (b :: rest) 0 _ (adjOverlapIdx_gt (a :: b :: rest) 0)]
      rw [removeIndices_adj (b :: rest) a 0]

theorem dropAdj_sublist : ∀ (l : List (Nat × Nat)) (a : Nat × Nat), (dropAdj a l).Sublist l := by
  intro l
  induction l with
  | nil => intro a; simp [dropAdj]
  | cons b rest ih =>
    intro a
    unfold dropAdj
    split
    · exact (ih b).cons b
    · exact (ih b).cons_cons b

/-- If match ends are monotone in the unfiltered list (e.g. all matches have one length), every
survivor starts at or after the end of *everything* before it. -/
theorem dropAdj_disjoint : ∀ (l : List (Nat × Nat)) (a : Nat × Nat) (bound : Nat),
    a.1 + a.2 = bound →
    (a :: l).Pairwise (fun x y => x.1 < y.1) →
    (a :: l).Pairwise (fun x y => x.1 + x.2 ≤ y.1 + y.2) →
    (∀ m ∈ dropAdj a l, bound ≤ m.1) ∧ Disjoint (dropAdj a l) := by
  intro l
  induction l with
  | nil => intro a bound _ _ _; exact ⟨fun _ h => absurd h List.not_mem_nil, List.Pairwise.nil⟩
  | cons b rest ih =>
    intro a bound heq hs he
    have hs' := List.pairwise_cons.mp hs
    have he' := List.pairwise_cons.mp he
    have hab := hs'.1 b List.mem_cons_self
    have hab' := he'.1 b List.mem_cons_self
    obtain ⟨hm, hd⟩ := ih b (b.1 + b.2) rfl hs'.2 he'.2
    unfold dropAdj
    by_cases ho : overlaps a b = true
    · rw [if_pos ho]
      refine ⟨?_, hd⟩
      intro m hmm
      have := hm m hmm
      omega
    · rw [if_neg ho]
      have hno : bound ≤ b.1 := by
        unfold overlaps at ho
        simp at ho
        have := ho (by omega)
        omega
      refine ⟨?_, ?_⟩
      · intro m hmm
        rcases List.mem_cons.mp hmm with rfl | hmm
        · exact hno
        · have := hm m hmm
          have hb2 : b.1 < m.1 := by
            have := (List.pairwise_cons.mp hs'.2).1 m ((dropAdj_sublist rest b).subset hmm)
            exact this
          omega
      · unfold Disjoint
        rw [List.pairwise_cons]
        exact ⟨fun m hmm => hm m hmm, hd⟩

/-! ### chunk iterators -/

theorem chunksTail_cons_ne_nil (term : Nat → Bool) (u : Nat) (us : List Nat) : chunksTail term (u :: us) ≠ [] := by
  unfold chunksTail
  by_cases hu : term u = true
  · rw [if_pos hu]; exact List.cons_ne_nil _ _
  · rw [if_neg hu]; cases chunksTail term us <;> exact List.cons_ne_nil _ _

/-- how `chunksTail` builds its pieces, token by token from the right: a terminator opens a piece of its own; any other
token opens the last piece or joins the piece in front -/
theorem chunksTail_induction {term : Nat → Bool} {motive : List Nat → List (List Nat) → Prop}
    (nil : motive [] [])
    (close : ∀ t ts, term t = true → motive ts (chunksTail term ts) → motive (t :: ts) ([t] :: chunksTail term ts))
    (last : ∀ t, term t = false → motive [t] [[t]])
    (grow : ∀ t ts c cs, term t = false → chunksTail term ts = c :: cs → motive ts (c :: cs) →
      motive (t :: ts) ((t :: c) :: cs)) :
    ∀ toks, motive toks (chunksTail term toks) := by
  intro toks
  induction toks with
  | nil => exact nil
  | cons t ts ih =>
    unfold chunksTail
    cases ht : term t with
    | true => rw [if_pos rfl]; exact close t ts ht ih
    | false =>
      rw [if_neg Bool.false_ne_true]
      cases hc : chunksTail term ts with
      | nil =>
        cases ts with
        | nil => exact last t ht
        | cons u us => exact absurd hc (chunksTail_cons_ne_nil term u us)
      | cons c cs => rw [hc] at ih; exact grow t ts c cs ht hc ih

theorem chunksTail_flatten (term : Nat → Bool) (toks : List Nat) :
    (chunksTail term toks).flatten = toks :=
  chunksTail_induction (motive := fun toks r => r.flatten = toks) rfl
    (fun t ts _ ih => by rw [List.flatten_cons, ih]; rfl) (fun _ _ => rfl)
    (fun t ts c cs _ _ ih => by rw [List.flatten_cons, List.cons_append, ← List.flatten_cons, ih]) toks

theorem chunksTail_ne (term : Nat → Bool) (toks : List Nat) :
    ∀ c ∈ chunksTail term toks, c ≠ [] :=
  chunksTail_induction (motive := fun _ r => ∀ c ∈ r, c ≠ []) (fun _ h => nomatch h)
    (fun t ts _ ih c hc => by
      rcases List.mem_cons.mp hc with rfl | hc
      · exact List.cons_ne_nil _ _
      · exact ih c hc)
    (fun t _ c hc => by rw [List.mem_singleton.mp hc]; exact List.cons_ne_nil _ _)
    (fun t ts c cs _ _ ih c' hc' => by
      rcases List.mem_cons.mp hc' with rfl | hc'
      · exact List.cons_ne_nil _ _
      · exact ih c' (List.mem_cons_of_mem _ hc')) toks

theorem chunksTail_length (term : Nat → Bool) (toks : List Nat) :
    (chunksTail term toks).length ≤ toks.length :=
  chunksTail_induction (motive := fun toks r => r.length ≤ toks.length) (Nat.le_refl _)
    (fun _ _ _ ih => Nat.succ_le_succ ih) (fun _ _ => Nat.le_refl _)
    (fun _ _ _ _ _ _ ih => Nat.le_trans ih (Nat.le_succ _)) toks

/-- a terminator can only be the last token of a chunk -/
theorem chunksTail_inner (term : Nat → Bool) (toks : List Nat) :
    ∀ c ∈ chunksTail term toks, c.dropLast.any term = false :=
  chunksTail_induction (motive := fun _ r => ∀ c ∈ r, c.dropLast.any term = false) (fun _ h => nomatch h)
    (fun t ts _ ih c hc => by
      rcases List.mem_cons.mp hc with rfl | hc
      · rfl
      · exact ih c hc)
    (fun t _ c hc => by rw [List.mem_singleton.mp hc]; rfl)
    (fun t ts c cs ht hts ih c' hc' => by
      rcases List.mem_cons.mp hc' with rfl | hc'
      · cases c with
        | nil => exact absurd rfl (chunksTail_ne term ts [] (by rw [hts]; exact List.mem_cons_self))
        | cons x xs => rw [List.dropLast_cons_cons, List.any_cons, ht, ih (x :: xs) List.mem_cons_self]; rfl
      · exact ih c' (List.mem_cons_of_mem _ hc')) toks

/-- every chunk but the last ends in a terminator -/
theorem chunksTail_ends (term : Nat → Bool) (toks : List Nat) :
    ∀ pre c post, chunksTail term toks = pre ++ c :: post → post ≠ [] →
      ∃ t, c.getLast? = some t ∧ term t = true :=
  chunksTail_induction
    (motive := fun _ r => ∀ pre c post, r = pre ++ c :: post → post ≠ [] → ∃ t, c.getLast? = some t ∧ term t = true)
    (fun pre c post h => by cases pre <;> cases h)
    (fun t ts ht ih pre c post h hpost => by
      cases pre with
      | nil => exact ⟨t, by rw [← (List.cons.inj h).1]; rfl, ht⟩
      | cons p pre => exact ih pre c post (List.cons.inj h).2 hpost)
    (fun t _ pre c post h hpost => by
      cases pre with
      | nil => exact absurd (List.cons.inj h).2.symm hpost
      | cons p pre => have := (List.cons.inj h).2; cases pre <;> cases this)
    (fun t ts c0 cs _ _ ih pre c post h hpost => by
      cases pre with
      | nil =>
        obtain ⟨t', ht', htt⟩ := ih [] c0 post (by rw [(List.cons.inj h).2]; rfl) hpost
        refine ⟨t', ?_, htt⟩
        rw [← (List.cons.inj h).1]
        cases c0 with
        | nil => cases ht'
        | cons x xs => rw [List.getLast?_cons_cons]; exact ht'
      | cons p pre => exact ih (c0 :: pre) c post (by rw [(List.cons.inj h).2]; rfl) hpost) toks

/-! ### the blanket `Linter::lint` of a `PatternLinter` -/

theorem lintChunks_safe (p : Pat) (hp : Contract p) :
    ∀ (cs : List (List Nat)) (off : Nat),
      ∃ ms, lintChunks p off cs = .ok ms ∧ Chain (off + cs.flatten.length) off ms := by
  intro cs
  induction cs with
  | nil => intro off; exact ⟨[], rfl, trivial⟩
  | cons c cs ih =>
    intro off
    obtain ⟨ms, hms, hch⟩ := runLoop_safe p hp c c.length 0 (Nat.le_of_eq (Nat.zero_add _).symm)
    obtain ⟨rest, hr, hrch⟩ := ih (off + c.length)
    unfold lintChunks runOnChunk
    rw [hms]
    dsimp only
    rw [hr]
    refine ⟨_, rfl, ?_⟩
    rw [List.flatten_cons, List.length_append, ← Nat.add_assoc]
    have := Chain.append_shift hrch (Nat.le_add_right _ _) (Nat.zero_le _) hch
    rw [Nat.zero_add] at this
    exact this

theorem lintChunks_noHang (p : Pat) : ∀ (cs : List (List Nat)) (off : Nat), lintChunks p off cs ≠ .error .outOfFuel
  | [], _ => fun h => nomatch h
  | c :: cs, off => by
    have h1 := runLoop_noHang p c c.length 0 (Nat.le_of_eq (Nat.zero_add _).symm)
    have h2 := lintChunks_noHang p cs (off + c.length)
    unfold lintChunks runOnChunk
    revert h1
    cases runLoop p c c.length 0 with
    | error e => exact id
    | ok ms =>
      intro _
      dsimp only
      revert h2
      cases lintChunks p (off + c.length) cs with
      | error e => exact id
      | ok rest => exact fun _ h => nomatch h

end Harper.Pat
