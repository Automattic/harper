import Harper.Model.MergeRules
import Harper.Lemmas.PatternRules
/-!
# `merge_linters!`: `collect ++ remove_overlaps` over several local children

1. `remove_overlaps` on `RuleLint`s without indices: `removeOverlapsRL ls = sweepRL 0 (isortRL ls)` — the stable insertion sort
   by `(start, longest first)` and the sweep, directly on the lints (`removeOverlapsRL` itself tags every lint with its
   position, runs `Harper.removeOverlaps` = sort + `sweepIdx` + `remove_indices` as coded, and looks the survivors up again).
2. **The interleaving lemma** (`removeOverlapsRL_split`, `removeOverlapsRL_interleave`, `…_interleave_shift`): when the candidates
   fall into two classes such that every lint of the first starts strictly before and ends at or before the start of every lint of
   the second, `remove_overlaps` of ANY interleaving of the two classes is `remove_overlaps` of the first class followed by
   `remove_overlaps` of the second. STRICTLY before: a zero-width lint of the first class AT the boundary sorts after a longer lint
   of the second class that starts there (longest first) and is then swallowed by it (`Props/C12f.lean` has the witness).
3. `mergeLinters_join` / `_join_ok`: the merged rule on a joined text is the join of its runs on the parts, up to WHICH panic is
   reported.
4. Where a lint of ANY pattern rule lies (`Sel.eval_start`, `runOnChunkGo_mem`, `PRule.rule_leftIn`): on tokens that end at or
   before `k` it starts strictly before `k` — the strictness the interleaving lemma asks for.
5. `FineE env r`: what the generic theorems need of a child when its own computations are total only for the dictionary at hand
   (`DictOK env`: `get_merged_word`'s `unwrap`) or only on what the pattern matched (ShouldContract's `panic!`); `Fine r → FineE env r`.
6. The nine children are `FineE`.
-/
namespace Harper.MergeRules
open Harper Harper.Chunks Harper.Rules Harper.Leaves Harper.PatternRules

/-! ## 1. `remove_overlaps` on the lints themselves -/

/-- the sort key order `(start, !0 - end)` on `RuleLint`s -/
def leRL (a b : RuleLint) : Bool :=
  a.span.start < b.span.start || (a.span.start == b.span.start && b.span.stop ≤ a.span.stop)

def insertSortedRL (x : RuleLint) : List RuleLint → List RuleLint
  | [] => [x]
  | y :: ys => if leRL x y then x :: y :: ys else y :: insertSortedRL x ys

def isortRL : List RuleLint → List RuleLint
  | [] => []
  | x :: xs => insertSortedRL x (isortRL xs)

/-- the sweep: what is kept -/
def sweepRL (cur : Nat) : List RuleLint → List RuleLint
  | [] => []
  | l :: ls => if l.span.start < cur then sweepRL cur ls else l :: sweepRL l.span.stop ls

/-- `u` finds, for every tagged lint of `T`, a `RuleLint` with the same span -/
def Untags (u : Lint → Option RuleLint) (T : List Lint) : Prop :=
  ∀ l ∈ T, ∃ c, u l = some c ∧ c.span.start = l.s ∧ c.span.stop = l.e

/-! the three are instances of `Lemmas/SortSweep.lean` -/

theorem insertSortedRL_eq : insertSortedRL = insertBy leRL := by
  funext x l
  induction l with
  | nil => rfl
  | cons y ys ih => rw [insertSortedRL, insertBy, ih]

theorem isortRL_eq : isortRL = isortBy (leBy (·.span.start) (·.span.stop)) := by
  funext l
  induction l with
  | nil => rfl
  | cons x xs ih => rw [isortRL, isortBy, ih, insertSortedRL_eq]; rfl

theorem sweepRL_eq (cur : Nat) (ls : List RuleLint) :
    sweepRL cur ls = (sweepBy (·.span.start) (·.span.stop) cur ls).1 := by
  induction ls generalizing cur with
  | nil => rfl
  | cons x xs ih => rw [sweepRL, sweepBy, ih, ih, apply_ite Prod.fst]

theorem Untags.spanMap {u : Lint → Option RuleLint} {T : List Lint} (h : Untags u T) :
    SpanMap Lint.s Lint.e (fun c : RuleLint => c.span.start) (·.span.stop) 0 u T := h

theorem insertSorted_filterMap (u : Lint → Option RuleLint) (x : Lint) (cx : RuleLint)
    (hx : u x = some cx ∧ cx.span.start = x.s ∧ cx.span.stop = x.e) :
    ∀ ys : List Lint, Untags u ys → (insertSorted x ys).filterMap u = insertSortedRL cx (ys.filterMap u) := by
  intro ys h
  have hu : Untags u (x :: ys) := fun l hl => (List.mem_cons.mp hl).elim (fun e => e ▸ ⟨cx, hx⟩) (h l)
  rw [insertSorted_eq, insertSortedRL_eq]
  exact insertBy_filterMap _ _ u hx.1 ys fun y hy =>
    let ⟨cy, hy', _⟩ := h y hy
    ⟨cy, hy', hu.spanMap.le_eq List.mem_cons_self (List.mem_cons_of_mem _ hy) hx.1 hy'⟩

theorem isort_filterMap (u : Lint → Option RuleLint) : ∀ T : List Lint, Untags u T →
    (isort T).filterMap u = isortRL (T.filterMap u) := by
  intro T h
  rw [isort_eq, isortRL_eq]; exact isortBy_filterMap T h.spanMap

theorem sweep_filterMap (u : Lint → Option RuleLint) : ∀ (T : List Lint), Untags u T → ∀ cur,
    (sweep cur T).1.filterMap u = sweepRL cur (T.filterMap u) := by
  intro T h cur
  rw [sweep_eq, sweepRL_eq]; exact sweepBy_filterMap T h.spanMap cur

/-- **`remove_overlaps` on rule lints is: stable sort by (start, longest first), then the sweep** -/
theorem removeOverlapsRL_eq_sweepRL (ls : List RuleLint) : removeOverlapsRL ls = sweepRL 0 (isortRL ls) := by
  rw [removeOverlapsRL_eq, sweepRL_eq, isortRL_eq]; rfl

/-! ## 2. the interleaving lemma -/

/-- `a` sorts before everything in `Y`: it is inserted into the part before `Y` -/
theorem insertSortedRL_append_left (a : RuleLint) (X Y : List RuleLint) (h : ∀ y ∈ Y, leRL a y = true) :
    insertSortedRL a (X ++ Y) = insertSortedRL a X ++ Y := by
  rw [insertSortedRL_eq]; exact insertBy_append_left _ a X h

/-- the stable sort of any interleaving of two classes, the first strictly before the second, is the sorted first class
followed by the sorted second class -/
theorem isortRL_split (p : RuleLint → Bool) : ∀ (L : List RuleLint),
    (∀ a ∈ L, ∀ b ∈ L, p a = true → p b = false → a.span.start < b.span.start) →
    isortRL L = isortRL (L.filter p) ++ isortRL (L.filter fun x => !p x) := by
  intro L h
  rw [isortRL_eq]
  refine isortBy_split _ p L fun a ha b hb pa pb => ?_
  have := h a ha b hb pa pb
  rw [leBy_iff, ← Bool.not_eq_true, leBy_iff]; omega

/-- the sweep over a list whose first part ends before its second part starts: the running end never reaches across -/
theorem sweepRL_append_sep (X Y : List RuleLint) (h : ∀ x ∈ X, ∀ y ∈ Y, x.span.stop ≤ y.span.start) :
    ∀ cur, (∀ y ∈ Y, cur ≤ y.span.start) → sweepRL cur (X ++ Y) = sweepRL cur X ++ sweepRL 0 Y := by
  intro cur hc
  rw [sweepRL_eq, sweepRL_eq, sweepRL_eq]; exact sweepBy_append_sep X Y h cur hc

/-- **the interleaving lemma.** `L` = any interleaving of the lints with `p` and the lints without; every lint with `p` starts
strictly before, and ends at or before, the start of every lint without. Then `remove_overlaps` treats the two classes apart. -/
theorem removeOverlapsRL_split (p : RuleLint → Bool) (L : List RuleLint)
    (h : ∀ a ∈ L, ∀ b ∈ L, p a = true → p b = false → a.span.start < b.span.start ∧ a.span.stop ≤ b.span.start) :
    removeOverlapsRL L = removeOverlapsRL (L.filter p) ++ removeOverlapsRL (L.filter fun x => !p x) := by
  rw [removeOverlapsRL_eq, removeOverlapsRL_eq, removeOverlapsRL_eq]; exact removeOverlapsBy_split p L h

/-- the lints of child `i` on the left part (`p.1`) and on the right part (`p.2`), child after child -/
def interleave (ps : List (List RuleLint × List RuleLint)) : List RuleLint := ps.flatMap fun p => p.1 ++ p.2

theorem filter_interleave (q : RuleLint → Bool) : ∀ (ps : List (List RuleLint × List RuleLint)),
    (∀ p ∈ ps, ∀ a ∈ p.1, q a = true) → (∀ p ∈ ps, ∀ b ∈ p.2, q b = false) →
    (interleave ps).filter q = ps.flatMap (·.1) ∧ (interleave ps).filter (fun x => !q x) = ps.flatMap (·.2)
  | [], _, _ => ⟨rfl, rfl⟩
  | p :: ps, hA, hB => by
    have ih := filter_interleave q ps (fun r hr => hA r (List.mem_cons_of_mem _ hr)) (fun r hr => hB r (List.mem_cons_of_mem _ hr))
    have h1 : p.1.filter q = p.1 := List.filter_eq_self.mpr (hA p (by simp))
    have h2 : p.2.filter q = [] := List.filter_eq_nil_iff.mpr (fun b hb => by simp [hB p (by simp) b hb])
    have h3 : p.1.filter (fun x => !q x) = [] := List.filter_eq_nil_iff.mpr (fun a ha => by simp [hA p (by simp) a ha])
    have h4 : p.2.filter (fun x => !q x) = p.2 := List.filter_eq_self.mpr (fun b hb => by simp [hB p (by simp) b hb])
    simp only [interleave, List.flatMap_cons, List.filter_append, h1, h2, h3, h4, List.append_nil, List.nil_append] at ih ⊢
    exact ⟨by rw [ih.1], by rw [ih.2]⟩

/-- **`remove_overlaps (a₁ ++ b₁ ++ … ++ aₙ ++ bₙ) = remove_overlaps (a₁ ++ … ++ aₙ) ++ remove_overlaps (b₁ ++ … ++ bₙ)`** when every
`a` starts before `k` and ends at or before it, and every `b` starts at or after `k` -/
theorem removeOverlapsRL_interleave (k : Nat) (ps : List (List RuleLint × List RuleLint))
    (hA : ∀ p ∈ ps, ∀ a ∈ p.1, a.span.start < k ∧ a.span.stop ≤ k) (hB : ∀ p ∈ ps, ∀ b ∈ p.2, k ≤ b.span.start) :
    removeOverlapsRL (interleave ps) = removeOverlapsRL (ps.flatMap (·.1)) ++ removeOverlapsRL (ps.flatMap (·.2)) := by
  have hf := filter_interleave (fun l => decide (l.span.start < k)) ps
    (fun p hp a ha => by simpa using (hA p hp a ha).1) (fun p hp b hb => by have := hB p hp b hb; simp; omega)
  rw [removeOverlapsRL_split (fun l => decide (l.span.start < k)) (interleave ps), hf.1, hf.2]
  intro a ha b hb pa pb
  simp only [decide_eq_true_eq, decide_eq_false_iff_not] at pa pb
  -- `a` is one of the left lints (it starts before `k`), `b` one of the right ones
  simp only [interleave, List.mem_flatMap, List.mem_append] at ha hb
  obtain ⟨p, hp, ha⟩ := ha
  obtain ⟨q, hq, hb⟩ := hb
  have hae : a.span.stop ≤ k := by
    rcases ha with ha | ha
    · exact (hA p hp a ha).2
    · have := hB p hp a ha; omega
  omega

theorem flatMap_shiftRLs (k : Nat) (ps : List (List RuleLint × List RuleLint)) :
    (ps.map fun p => (p.1, shiftRLs k p.2)).flatMap (·.2) = shiftRLs k (ps.flatMap (·.2)) := by
  induction ps with
  | nil => rfl
  | cons p ps ih => simp only [List.map_cons, List.flatMap_cons, ih, shiftRLs_append]

theorem flatMap_fst_map (k : Nat) (ps : List (List RuleLint × List RuleLint)) :
    (ps.map fun p => (p.1, shiftRLs k p.2)).flatMap (·.1) = ps.flatMap (·.1) := by
  induction ps with
  | nil => rfl
  | cons p ps ih => simp only [List.map_cons, List.flatMap_cons, ih]

theorem removeOverlapsRL_shift (k : Nat) (B : List RuleLint) : removeOverlapsRL (shiftRLs k B) = shiftRLs k (removeOverlapsRL B) := by
  have := removeOverlapsRL_append k [] B all_nil
  have e : removeOverlapsRL [] = [] := rfl
  rwa [List.nil_append, e, List.nil_append] at this

/-- the form `merge_linters!` needs: the right-hand lints are those of the second text moved by `k` -/
theorem removeOverlapsRL_interleave_shift (k : Nat) (ps : List (List RuleLint × List RuleLint))
    (hA : ∀ p ∈ ps, ∀ a ∈ p.1, a.span.start < k ∧ a.span.stop ≤ k) :
    removeOverlapsRL (ps.flatMap fun p => p.1 ++ shiftRLs k p.2) =
      removeOverlapsRL (ps.flatMap (·.1)) ++ shiftRLs k (removeOverlapsRL (ps.flatMap (·.2))) := by
  have e : (ps.flatMap fun p => p.1 ++ shiftRLs k p.2) = interleave (ps.map fun p => (p.1, shiftRLs k p.2)) := by
    simp only [interleave, List.flatMap_map]
  rw [e, removeOverlapsRL_interleave k, flatMap_fst_map, flatMap_shiftRLs, removeOverlapsRL_shift]
  · intro p hp a ha
    obtain ⟨q, hq, rfl⟩ := List.mem_map.mp hp
    exact hA q hq a ha
  · intro p hp b hb
    obtain ⟨q, hq, rfl⟩ := List.mem_map.mp hp
    simp only [shiftRLs, List.mem_map] at hb
    obtain ⟨b0, _, rfl⟩ := hb
    simp [shiftRL]

/-! ## 3. `merge_linters!` over two joined texts -/

/-- equal — or both panic (possibly with a different panic) -/
def SameOrBothPanic {α} (x y : Except Panic α) : Prop := x = y ∨ ∃ e e', x = .error e ∧ y = .error e'

theorem SameOrBothPanic.rfl' {α} (x : Except Panic α) : SameOrBothPanic x x := Or.inl rfl

theorem SameOrBothPanic.eq_of_ok {α} {x y : Except Panic α} (h : SameOrBothPanic x y) {b : α} (hy : y = .ok b) : x = .ok b := by
  rcases h with h | ⟨e, e', _, h2⟩
  · rw [h, hy]
  · rw [hy] at h2; cases h2

/-- the candidates of the whole, child after child, when every child's run on the whole is the join of its runs on the parts:
if both parts return, the whole returns the interleaving; if a part panics, so does the whole -/
theorem collectE_interleave (k : Nat) (f g h : PieceRule → Except Panic (List RuleLint)) : ∀ (rs : List PieceRule),
    (∀ r ∈ rs, f r = joinE k (g r) (h r)) →
    (∀ A B, collectE g rs = .ok A → collectE h rs = .ok B →
      ∃ ps : List (List RuleLint × List RuleLint), collectE f rs = .ok (ps.flatMap fun p => p.1 ++ shiftRLs k p.2) ∧
        A = ps.flatMap (·.1) ∧ B = ps.flatMap (·.2) ∧ ∀ p ∈ ps, ∃ r ∈ rs, g r = .ok p.1) ∧
    ((∃ e, collectE g rs = .error e) ∨ (∃ e, collectE h rs = .error e) → ∃ e, collectE f rs = .error e)
  | [], _ => ⟨fun A B hA hB => ⟨[], rfl, by cases hA; rfl, by cases hB; rfl, by simp⟩, fun hx => by
      rcases hx with ⟨e, he⟩ | ⟨e, he⟩ <;> cases he⟩
  | r :: rs, hj => by
    have ih := collectE_interleave k f g h rs (fun x hx => hj x (List.mem_cons_of_mem _ hx))
    have hr := hj r (by simp)
    simp only [collectE, hr]
    cases hg : g r with
    | error e =>
      simp only [joinE]
      exact ⟨fun A B hA _ => (by cases hA), fun _ => ⟨e, rfl⟩⟩
    | ok a =>
      cases hh : h r with
      | error e =>
        simp only [joinE]
        exact ⟨fun A B _ hB => (by cases hB), fun _ => ⟨e, rfl⟩⟩
      | ok b =>
        simp only [joinE]
        cases hgs : collectE g rs with
        | error e =>
          obtain ⟨e', he'⟩ := ih.2 (Or.inl ⟨e, hgs⟩)
          simp only [he']
          exact ⟨fun A B hA _ => (by cases hA), fun _ => ⟨e', rfl⟩⟩
        | ok A' =>
          cases hhs : collectE h rs with
          | error e =>
            obtain ⟨e', he'⟩ := ih.2 (Or.inr ⟨e, hhs⟩)
            simp only [he']
            exact ⟨fun A B _ hB => (by cases hB), fun _ => ⟨e', rfl⟩⟩
          | ok B' =>
            obtain ⟨ps, e1, e2, e3, e4⟩ := ih.1 A' B' hgs hhs
            simp only [e1]
            refine ⟨fun A B hA hB => ?_, fun hx => (by rcases hx with ⟨e, he⟩ | ⟨e, he⟩ <;> cases he)⟩
            cases hA; cases hB
            refine ⟨(a, b) :: ps, by simp, by simp [e2], by simp [e3], ?_⟩
            intro p hp
            rcases List.mem_cons.mp hp with rfl | hp
            · exact ⟨r, by simp, hg⟩
            · obtain ⟨r', hr', hgr⟩ := e4 p hp
              exact ⟨r', List.mem_cons_of_mem _ hr', hgr⟩

/-- **`merge_linters!` on a joined text.** Every child satisfies `r(whole) = joinE k (r(left)) (r(right))` and reports on the left
part only lints that start before `k` and end at or before it. Then the merged rule on the whole returns its lints on the left
part followed by its lints on the right part moved by `k`; it panics iff it panics on one of the parts (which panic is reported
may differ: the whole runs the first child on BOTH parts before the second child runs at all). -/
theorem mergeLinters_join (k : Nat) (rs : List PieceRule) (srcW srcL srcR : List Char) (W L R : List Tok)
    (hj : ∀ r ∈ rs, r srcW W = joinE k (r srcL L) (r srcR R))
    (hl : ∀ r ∈ rs, ∀ ls, r srcL L = .ok ls → ∀ l ∈ ls, l.span.start < k ∧ l.span.stop ≤ k) :
    SameOrBothPanic (mergeLinters rs srcW W) (joinE k (mergeLinters rs srcL L) (mergeLinters rs srcR R)) := by
  have hc := collectE_interleave k (fun r => r srcW W) (fun r => r srcL L) (fun r => r srcR R) rs hj
  simp only [mergeLinters]
  cases hA : collectE (fun (r : PieceRule) => r srcL L) rs with
  | error e =>
    obtain ⟨e', he'⟩ := hc.2 (Or.inl ⟨e, hA⟩)
    exact Or.inr ⟨e', e, by simp [he', Except.map], by simp [Except.map, joinE]⟩
  | ok A =>
    cases hB : collectE (fun (r : PieceRule) => r srcR R) rs with
    | error e =>
      obtain ⟨e', he'⟩ := hc.2 (Or.inr ⟨e, hB⟩)
      exact Or.inr ⟨e', e, by simp [he', Except.map], by simp [Except.map, joinE]⟩
    | ok B =>
      obtain ⟨ps, e1, e2, e3, e4⟩ := hc.1 A B hA hB
      left
      simp only [e1, Except.map, joinE, e2, e3]
      rw [removeOverlapsRL_interleave_shift k ps]
      intro p hp a ha
      obtain ⟨r, hr, hgr⟩ := e4 p hp
      exact hl r hr p.1 hgr a ha

/-- when the parts return (e.g. total children), the statement is an equation -/
theorem mergeLinters_join_ok (k : Nat) (rs : List PieceRule) (srcW srcL srcR : List Char) (W L R : List Tok)
    (hj : ∀ r ∈ rs, r srcW W = joinE k (r srcL L) (r srcR R))
    (hl : ∀ r ∈ rs, ∀ ls, r srcL L = .ok ls → ∀ l ∈ ls, l.span.start < k ∧ l.span.stop ≤ k)
    (hokL : ∀ r ∈ rs, ∃ ls, r srcL L = .ok ls) (hokR : ∀ r ∈ rs, ∃ ls, r srcR R = .ok ls) :
    mergeLinters rs srcW W = joinE k (mergeLinters rs srcL L) (mergeLinters rs srcR R) := by
  rcases mergeLinters_join k rs srcW srcL srcR W L R hj hl with h | ⟨e, e', _, h2⟩
  · exact h
  · exfalso
    obtain ⟨a, ea, _⟩ := collectE_ok (fun _ => True) (fun (r : PieceRule) => r srcL L) rs
      (fun r hr => (hokL r hr).imp fun ls h => ⟨h, fun _ _ => trivial⟩)
    obtain ⟨b, eb, _⟩ := collectE_ok (fun _ => True) (fun (r : PieceRule) => r srcR R) rs
      (fun r hr => (hokR r hr).imp fun ls h => ⟨h, fun _ _ => trivial⟩)
    simp only [mergeLinters, ea, eb, Except.map, joinE] at h2
    cases h2

/-! ## 4. where a lint of a pattern rule lies: not beyond its tokens, and it starts where one of them starts or before -/

theorem Sel.eval_start (s : Sel) (l : List Tok) (sp : Span) (e : s.eval l = .ok (some sp)) : ∃ t ∈ l, sp.start ≤ t.span.start := by
  rcases Sel.eval_cases s l sp e with ⟨t, ht, rfl⟩ | ⟨sub, hsub, hs⟩
  · exact ⟨t, ht, Nat.le_refl _⟩
  · cases sub with
    | nil => cases hs
    | cons t rest => exact ⟨t, hsub t List.mem_cons_self, (spanOf_covers hs t List.mem_cons_self).1⟩

/-- every lint of `run_on_chunk` comes from `match_to_lint` on some tokens of the chunk -/
theorem runOnChunkGo_mem (m : Matcher) (f : List Char → List Tok → Except Panic (List RuleLint)) (src : List Char) :
    ∀ (ts : List Tok) (skip : Nat) (ls : List RuleLint), runOnChunkGo m f src skip ts = .ok ls → ∀ x ∈ ls,
      ∃ sub a, (∀ t ∈ sub, t ∈ ts) ∧ f src sub = .ok a ∧ x ∈ a
  | [], skip, ls, h, x, hx => by
    cases skip <;> (simp only [runOnChunkGo] at h; cases h; cases hx)
  | t :: ts, skip + 1, ls, h, x, hx => by
    simp only [runOnChunkGo] at h
    obtain ⟨sub, a, h1, h2, h3⟩ := runOnChunkGo_mem m f src ts skip ls h x hx
    exact ⟨sub, a, fun u hu => List.mem_cons_of_mem _ (h1 u hu), h2, h3⟩
  | t :: ts, 0, ls, h, x, hx => by
    simp only [runOnChunkGo] at h
    cases hm : m src (t :: ts) with
    | error e => rw [hm] at h; cases h
    | ok n =>
      rw [hm] at h
      simp only [] at h
      split at h
      · obtain ⟨sub, a, h1, h2, h3⟩ := runOnChunkGo_mem m f src ts 0 ls h x hx
        exact ⟨sub, a, fun u hu => List.mem_cons_of_mem _ (h1 u hu), h2, h3⟩
      · split at h
        · cases h
        · cases hf : f src ((t :: ts).take n) with
          | error e => rw [hf] at h; cases h
          | ok l =>
            rw [hf] at h
            simp only [] at h
            cases hr : runOnChunkGo m f src (n - 1) ts with
            | error e => rw [hr] at h; cases h
            | ok r =>
              rw [hr] at h
              simp only [Except.ok.injEq] at h
              subst h
              rcases List.mem_append.mp hx with hx | hx
              · exact ⟨_, l, fun u hu => List.mem_of_mem_take hu, hf, hx⟩
              · obtain ⟨sub, a, h1, h2, h3⟩ := runOnChunkGo_mem m f src ts (n - 1) r hr x hx
                exact ⟨sub, a, fun u hu => List.mem_cons_of_mem _ (h1 u hu), h2, h3⟩

/-- **a pattern rule's lints on a text whose tokens are non-empty and end at or before `k` start strictly before `k` and end at
or before it** — whatever the tree and the spec are: the span is a selection of matched tokens -/
theorem PRule.rule_leftIn (env : Env) (r : PRule) (src : List Char) (toks : List Tok) (k : Nat)
    (hin : ∀ t ∈ toks, tokOK t = true ∧ t.span.stop ≤ k) (ls : List RuleLint) (h : r.rule env src toks = .ok ls) :
    ∀ l ∈ ls, l.span.start < k ∧ l.span.stop ≤ k := by
  intro x hx
  obtain ⟨chunk, hch, a, ha, hxa⟩ := collectE_mem _ _ _ h x hx
  obtain ⟨sub, b, hsub, hb, hxb⟩ := runOnChunkGo_mem _ _ src chunk 0 a ha x hxa
  have hsel := Spec.run_span env r.spec src sub b hb x hxb
  have hmem : ∀ t ∈ sub, t ∈ toks := fun t ht => split_mem _ _ chunk hch t (hsub t ht)
  have hp : InP k sub := inP_of_tokOK fun t ht => hin t (hmem t ht)
  have h2 := Sel.eval_in r.spec.span k sub hp x.span hsel
  obtain ⟨t, ht, hst⟩ := Sel.eval_start r.spec.span sub x.span hsel
  have h3 := hin t (hmem t ht)
  have := tokOK_nonempty h3.1
  exact ⟨by omega, h2.2⟩

/-! ## 5. rules whose own computations are total only for the dictionary at hand, or only on what the pattern matched -/

/-- the two locality laws of `CustomGood`, without totality -/
structure CustomLoc (f : CustomFn) : Prop where
  shift : ∀ env (P D : List Char) (l : List Tok) (j : Nat), f env (P ++ D) (l.map (shTok P.length j)) = f env D l
  left : ∀ env (P D : List Char) (l : List Tok), InP P.length l → f env (P ++ D) l = f env P l

def StepLoc : Step → Prop
  | .custom _ f => CustomLoc f
  | _ => True

def SpecLoc (s : Spec) : Prop := (∀ x ∈ s.before, StepLoc x) ∧ (∀ x ∈ s.after, StepLoc x)

theorem stepLoc_of_good (x : Step) (h : x.Good) : StepLoc x := by
  cases x with
  | custom need f => exact ⟨(show CustomGood need f from h).shift, (show CustomGood need f from h).left⟩
  | _ => trivial

theorem specLoc_of_good (s : Spec) (h : s.Good) : SpecLoc s :=
  ⟨fun x hx => stepLoc_of_good x (h.1 x hx), fun x hx => stepLoc_of_good x (h.2 x hx)⟩

theorem local_of_fine {r : PRule} (hr : Fine r) : r.pat.Loc ∧ SpecLoc r.spec := ⟨hr.loc, specLoc_of_good _ hr.good⟩

theorem StepLoc.shift {s : Step} (hg : StepLoc s) (env : Env) (P D : List Char) (l : List Tok) (j : Nat) :
    ∀ need f, s = .custom need f → f env (P ++ D) (l.map (shTok P.length j)) = f env D l :=
  fun need f e => by subst e; exact CustomLoc.shift hg env P D l j

theorem StepLoc.left {s : Step} (hg : StepLoc s) (env : Env) (P D : List Char) (l : List Tok) (h : InP P.length l) :
    ∀ need f, s = .custom need f → f env (P ++ D) l = f env P l :=
  fun need f e => by subst e; exact CustomLoc.left hg env P D l h

/-- `Spec.run_shift` under the locality laws alone -/
theorem Spec.run_shiftL (env : Env) (s : Spec) (hg : SpecLoc s) (P D : List Char) (l : List Tok) (j : Nat) :
    s.run env (P ++ D) (l.map (shTok P.length j)) = (s.run env D l).map (shiftRLs P.length) :=
  Spec.run_shift_of env s P D l j
    (runSteps_congr env _ _ _ _ _ fun x hx vars => Step.run_shift env P D l j vars x ((hg.1 x hx).shift env P D l j))
    (runSteps_congr env _ _ _ _ _ fun x hx vars => Step.run_shift env P D l j vars x ((hg.2 x hx).shift env P D l j))

/-- `Spec.run_left` under the locality laws alone -/
theorem Spec.run_leftL (env : Env) (s : Spec) (hg : SpecLoc s) (P D : List Char) (l : List Tok)
    (h : ∀ t ∈ l, tokOK t = true ∧ t.span.stop ≤ P.length) : s.run env (P ++ D) l = s.run env P l :=
  Spec.run_left_of env s P D l (inP_of_tokOK h)
    (runSteps_congr env _ _ _ _ _ fun x hx vars => Step.run_left env P D l (inP_of_tokOK h) vars x ((hg.1 x hx).left env P D l (inP_of_tokOK h)))
    (runSteps_congr env _ _ _ _ _ fun x hx vars => Step.run_left env P D l (inP_of_tokOK h) vars x ((hg.2 x hx).left env P D l (inP_of_tokOK h)))

/-- the rule's own computation returns on these tokens -/
def StepOk (env : Env) (src : List Char) (l : List Tok) : Step → Prop
  | .custom _ f => ∃ o, f env src l = .ok o
  | _ => True

theorem StepOk.returns {env : Env} {src : List Char} {l : List Tok} {s : Step} (hk : StepOk env src l s) : s.Returns env src l :=
  fun need f e _ => by subst e; exact hk

/-- what the generic theorems ask of a child, relative to the `Env` at hand: the tree's side conditions (`DictOK env` for a
`SplitCompoundWord`) on in-text tokens; tree and spec local; and `match_to_lint` returns an in-range lint on every real match -/
structure FineE (env : Env) (r : PRule) : Prop where
  side : r.pat.Side env InText
  loc : r.pat.Loc
  sloc : SpecLoc r.spec
  total : ∀ src full n, InText src full → r.pat.matcher env src full = .ok n → n ≠ 0 → n ≤ full.length →
    ∃ ls, r.spec.run env src (full.take n) = .ok ls ∧ ∀ x ∈ ls, LintOK src.length x

/-- every `Fine` rule is `FineE` for every `Env` -/
theorem FineE.of_fine (env : Env) (r : PRule) (hr : Fine r) : FineE env r :=
  ⟨side_of_plain env _ _ hr.plain, hr.loc, specLoc_of_good _ hr.good, hr.total env⟩

/-- how the children below are shown `FineE`: the index expressions fit every length the tree can match, and the own
computations return on every real match -/
theorem fineE_of (env : Env) (r : PRule) (side : r.pat.Side env InText) (loc : r.pat.Loc) (sloc : SpecLoc r.spec)
    (fits : ∀ n, r.pat.minLen ≤ n → (∀ k, r.pat.maxLen = some k → n ≤ k) → r.spec.Fits n)
    (stepok : ∀ src full n, InText src full → r.pat.matcher env src full = .ok n → n ≠ 0 → n ≤ full.length → r.pat.minLen ≤ n →
      (∀ x ∈ r.spec.before, StepOk env src (full.take n) x) ∧ (∀ x ∈ r.spec.after, StepOk env src (full.take n) x)) : FineE env r :=
  ⟨side, loc, sloc, fun src full n hfull hm hn hnl => PRule.run_on_match env r fits src full n hfull hm hn hnl fun _ hmin =>
    ⟨fun x hx => ((stepok src full n hfull hm hn hnl hmin).1 x hx).returns,
      fun x hx => ((stepok src full n hfull hm hn hnl hmin).2 x hx).returns⟩⟩

/-- `run_on_chunk` of a `FineE` child on in-text tokens (any order, zero-width ones included): no panic, every lint in the text -/
theorem PRule.piece_okE (env : Env) (r : PRule) (hr : FineE env r) (src : List Char) (chunk : List Tok) (h : InText src chunk) :
    ∃ ls, r.piece env src chunk = .ok ls ∧ ∀ l ∈ ls, LintOK src.length l :=
  runOnChunkGo_okh' inText_hyp _ (matcher_okh inText_hyp env _ hr.side) _ src
    (fun full n hfull hm hn hnl => hr.total src full n hfull hm hn hnl) chunk h 0

/-- the child alone over a document: no panic, every lint in the text -/
theorem PRule.rule_okE (env : Env) (r : PRule) (hr : FineE env r) (src : List Char) (toks : List Tok) (h : InText src toks) :
    ∃ ls, r.rule env src toks = .ok ls ∧ ∀ l ∈ ls, LintOK src.length l :=
  overPieces_okh inText_hyp _ _ src toks h (fun piece hpc => PRule.piece_okE env r hr src piece hpc)

/-- `run_on_chunk` of a child whose tree and spec are local is chunk-local -/
theorem PRule.xlocalEL (env : Env) (r : PRule) (hloc : r.pat.Loc) (hs : SpecLoc r.spec) : XLocalE (r.piece env) where
  nil := fun _ => rfl
  left := by
    intro P D piece h
    exact runOnChunkGo_leftL _ (matcher_loc env _ hloc) _ P D (fun l hl => Spec.run_leftL env r.spec hs P D l hl) piece h 0
  right := by
    intro P D piece j _
    exact runOnChunkGo_rightL _ (matcher_loc env _ hloc) _ P D j (fun l => Spec.run_shiftL env r.spec hs P D l j) piece 0

/-! ## 6. the nine children -/

/-! ### their own computations -/

theorem onText_loc (i : Nat) (g : Env → List Char → Verdict) : CustomLoc (onText i g) := ⟨onText_shift i g, onText_left i g⟩

theorem onTexts_loc (i j : Nat) (g : Env → List Char → List Char → Verdict) : CustomLoc (onTexts i j g) :=
  ⟨onTexts_shift i j g, onTexts_left i j g⟩

theorem toHopCorrect_eq : toHopCorrect = onText 0 (lookupVerdict toHopTable toLower) := rfl

theorem toHopCorrect_good : CustomGood 1 toHopCorrect := toHopCorrect_eq ▸ onText_good 0 _ (lookupVerdict_returns _ _)

theorem toHopCorrect_yields (n : Nat) : CustomYields n 1 toHopCorrect := toHopCorrect_eq ▸ onText_yields 0 _ 1 (lookupVerdict_yields _ _) n

theorem letsGuard_eq : letsGuard = onText 0 fun _ cs => .ok (if cs == c!"let's" || cs == c!"Let's" then none else some []) := rfl

theorem letsGuard_good : CustomGood 1 letsGuard := letsGuard_eq ▸ onText_good 0 _ fun _ _ => returns_ok _

theorem letsGuard_yields (n : Nat) : CustomYields n 0 letsGuard :=
  letsGuard_eq ▸ onText_yields 0 _ 0 (fun _ _ => ite_ind (P := fun o => Verdict.Yields 0 (.ok o)) (yields_none 0) (yields_some [])) n

theorem contractForms_eq : contractForms = onText 0 fun env cs =>
    match contractTable.lookup (toLower env (toLowerCow env cs)) with
    | none => .error .assertFail
    | some forms => .ok (some forms) := rfl

theorem contractForms_loc : CustomLoc contractForms := contractForms_eq ▸ onText_loc 0 _

/-- the two forms of `mistake_to_correct`: every entry of the table has two -/
theorem contractForms_yields (n : Nat) : CustomYields n 2 contractForms :=
  contractForms_eq ▸ onText_yields 0 _ 2 (fun env cs vs h => by
    cases hk : contractTable.lookup (toLower env (toLowerCow env cs)) with
    | none => rw [hk] at h; cases h
    | some forms =>
      rw [hk] at h
      cases h
      exact (show ∀ x ∈ contractTable, x.2.length = 2 by decide) _ (mem_of_lookup hk)) n

/-- `get_merged_word` once the two texts are there -/
def mergedVerdict (bit : Nat) (env : Env) (ca cb : List Char) : Verdict :=
  if flagBit (env.wordFlags (ca ++ cb)) 15 && flagBit (env.wordFlags (ca ++ cb)) bit then
    match env.canonical (ca ++ cb) with
    | none => .error .unwrapNone
    | some c => .ok (some [c])
  else .ok none

theorem mergedWord_eq (i j bit : Nat) : mergedWord i j bit = onTexts i j (mergedVerdict bit) := rfl

theorem mergedWord_loc (i j bit : Nat) : CustomLoc (mergedWord i j bit) := onTexts_loc i j _

/-- `get_merged_word` returns when the dictionary has a canonical capitalisation of every word it knows -/
theorem mergedWord_ok (env : Env) (hd : DictOK env) (i j bit : Nat) (src : List Char) (l : List Tok) (h : InText src l)
    (hi : i < l.length) (hj : j < l.length) : ∃ o, mergedWord i j bit env src l = .ok o := by
  rw [mergedWord_eq, onTexts_eq i j _ env src l h hi hj]
  unfold mergedVerdict
  by_cases hf : (flagBit (env.wordFlags (textOf src l[i].span ++ textOf src l[j].span)) 15 &&
      flagBit (env.wordFlags (textOf src l[i].span ++ textOf src l[j].span)) bit) = true
  · rw [if_pos hf]
    simp only [Bool.and_eq_true] at hf
    cases hc : env.canonical (textOf src l[i].span ++ textOf src l[j].span) with
    | none => exact absurd hc (hd _ hf.1)
    | some c => exact ⟨_, rfl⟩
  · rw [if_neg hf]; exact ⟨_, rfl⟩

theorem mergedWord_yields (i j bit n : Nat) : CustomYields n 1 (mergedWord i j bit) :=
  mergedWord_eq i j bit ▸ onTexts_yields i j (mergedVerdict bit) 1 (fun env ca cb => by
    unfold mergedVerdict
    refine ite_ind ?_ (yields_none 1)
    cases env.canonical (ca ++ cb) with
    | none => exact yields_error 1 _
    | some c => exact yields_some [c]) n

/-! ### ShouldContract's `panic!` arm is unreachable -/

/-- `char::to_lowercase` of every character whose ASCII lower case is one of `y o u r w e` (those six letters and their
capitals) is that one letter. True of Unicode; the harness monitors it for every ASCII letter of every text. -/
def ContractLowerOK (env : Env) : Prop := ∀ c, lowerAscii c ∈ c!"yourwe" → env.lower c = [lowerAscii c]

theorem eqIgnoreAsciiCase_map : ∀ (cs w : List Char), cs.length = w.length → eqIgnoreAsciiCase cs w = true →
    cs.map lowerAscii = w.map lowerAscii
  | [], [], _, _ => rfl
  | a :: as, b :: bs, hl, h => by
    simp only [eqIgnoreAsciiCase, Bool.and_eq_true, beq_iff_eq] at h
    simp only [List.map_cons, h.1, eqIgnoreAsciiCase_map as bs (by simpa using hl) h.2]
  | [], _ :: _, hl, _ => by simp at hl
  | _ :: _, [], hl, _ => by simp at hl

theorem toLower_eq_map (env : Env) : ∀ cs : List Char, (∀ c ∈ cs, env.lower c = [lowerAscii c]) → toLower env cs = cs.map lowerAscii
  | [], _ => rfl
  | c :: cs, h => by
    have ih := toLower_eq_map env cs (fun d hd => h d (List.mem_cons_of_mem _ hd))
    simp only [toLower] at ih ⊢
    simp only [List.flatMap_cons, h c (by simp), ih, List.map_cons, List.singleton_append]

/-- what `mistake.to_lower().to_string()` followed by `.to_lowercase()` yields for a word that is `your` / `were` up to ASCII case -/
theorem contractKey (env : Env) (hl : ContractLowerOK env) (cs W : List Char) (hW : W = c!"your" ∨ W = c!"were")
    (hm : cs.map lowerAscii = W) : toLower env (toLowerCow env cs) = W := by
  have hsub : ∀ d ∈ W, d ∈ c!"yourwe" := by rcases hW with rfl | rfl <;> decide
  have hself : ∀ d ∈ W, lowerAscii d ∈ c!"yourwe" := by rcases hW with rfl | rfl <;> decide
  have hfix : W.map lowerAscii = W := by rcases hW with rfl | rfl <;> decide
  have h1 : ∀ c ∈ cs, env.lower c = [lowerAscii c] := by
    intro c hc
    apply hl c
    apply hsub
    rw [← hm]
    exact List.mem_map_of_mem hc
  have h2 : toLower env cs = W := by rw [toLower_eq_map env cs h1, hm]
  have h3 : toLower env W = W := by rw [toLower_eq_map env W (fun d hd => hl d (hself d hd)), hfix]
  unfold toLowerCow
  split
  · exact h2
  · have : cs.flatMap env.lower = W := h2
    rw [this, h3]

theorem seqPat_head (p : Matcher) (ps : List Matcher) (src : List Char) (full : List Tok) (n : Nat)
    (h : seqPat (p :: ps) src full = .ok n) (hn : n ≠ 0) : ∃ k, p src full = .ok k ∧ k ≠ 0 := by
  simp only [seqPat, seqGo] at h
  cases hp : p src full with
  | error e => rw [hp] at h; cases h
  | ok k =>
    rw [hp] at h
    simp only [] at h
    split at h
    · simp only [Except.ok.injEq] at h; exact absurd h.symm hn
    · exact ⟨k, rfl, by assumption⟩

theorem wordSet_first (ws : List (List Char)) (src : List Char) (t : Tok) (rest : List Tok) (k : Nat)
    (h : wordSetAtom ws src (t :: rest) = .ok k) (hk : k ≠ 0) (ht : TokIn src t) :
    ∃ w ∈ ws, (textOf src t.span).length = w.length ∧ eqIgnoreAsciiCase (textOf src t.span) w = true := by
  simp only [wordSetAtom, getContent_textOf src t ht] at h
  split at h
  · simp only [Except.ok.injEq] at h; exact absurd h.symm hk
  · simp only [Except.ok.injEq] at h
    split at h
    · rename_i hany
      obtain ⟨w, hw, hb⟩ := List.any_eq_true.mp hany
      simp only [Bool.and_eq_true, beq_iff_eq] at hb
      exact ⟨w, hw, hb.1, hb.2⟩
    · exact absurd h.symm hk

/-- **on everything the pattern of ShouldContract matches, `mistake_to_correct` does not fall through** -/
theorem contractForms_ok_on_match (env : Env) (hl : ContractLowerOK env) (src : List Char) (full : List Tok) (n : Nat)
    (hin : InText src full) (hm : patShouldContract.matcher env src full = .ok n) (hn : n ≠ 0) (hnl : n ≤ full.length) :
    ∃ forms, contractForms env src (full.take n) = .ok (some forms) := by
  have hm' : seqPat (wordSetAtom [c!"your", c!"were"] ::
      [whitespaceAtom, (Leaf.kind .determiner false).matcher env, whitespaceAtom, (Leaf.kind .adjective false).matcher env]) src full = .ok n := hm
  obtain ⟨k, hk, hk0⟩ := seqPat_head _ _ src full n hm' hn
  cases full with
  | nil => simp at hnl; exact absurd hnl hn
  | cons t rest =>
    have ht := hin t (by simp)
    obtain ⟨w, hw, hlen, heq⟩ := wordSet_first _ src t rest k hk hk0 ht
    have hmap := eqIgnoreAsciiCase_map _ w hlen heq
    have hW : w.map lowerAscii = c!"your" ∨ w.map lowerAscii = c!"were" := by
      simp only [List.mem_cons, List.mem_nil_iff, or_false] at hw
      rcases hw with rfl | rfl
      · left; decide
      · right; decide
    have hkey := contractKey env hl (textOf src t.span) (w.map lowerAscii) hW hmap
    have h0 : ((t :: rest).take n)[0]? = some t := by
      cases n with
      | zero => exact absurd rfl hn
      | succ m => simp
    simp only [contractForms, h0, getContent_textOf src t ht, hkey]
    rcases hW with e | e <;> rw [e] <;> exact ⟨_, rfl⟩

/-! ### `Fine` / `FineE` -/

theorem fineToHop : Fine toHop :=
  fine_of_check _ [1] [] ⟨good_single _ _ toHopCorrect_good, good_of_noCustom _ rfl⟩ ⟨toHopCorrect_yields, trivial⟩
    (h := by decide +kernel)

theorem fineToHope : Fine toHope := fine_of_check _ (h := by decide +kernel)

theorem fineAvoidContraction : Fine avoidContraction := fine_of_check _ (h := by decide +kernel)

theorem fineLetUsRedundancy : Fine letUsRedundancy := fine_of_check _ (h := by decide +kernel)

theorem fineNoContractionWithVerb : Fine noContractionWithVerb := fine_of_check _ (h := by decide +kernel)

/-! the index expressions and the variables of the four children whose own computations are total only relative to the `Env`
(`Spec.Fits` needs no hypothesis on it) -/

/-- `.var 0`, `.var 1`: the two forms `mistake_to_correct` hands on -/
theorem shouldContract_fits (n : Nat) (hmin : shouldContract.pat.minLen ≤ n) : shouldContract.spec.Fits n :=
  Spec.fits_of_need shouldContract.spec _ [2] [] (fun _ => rfl) ⟨contractForms_yields, trivial⟩ trivial (by decide +kernel) n (Nat.le_trans (by decide +kernel) hmin)

/-- `orig` (`.var 0`) is bound by the `.bind`, `word` (`.var 1`) by `get_merged_word` -/
theorem generalCompoundNouns_fits (n : Nat) (hmin : generalCompoundNouns.pat.minLen ≤ n) : generalCompoundNouns.spec.Fits n :=
  Spec.fits_of_need generalCompoundNouns.spec _ [] [1] (fun _ => rfl) trivial ⟨mergedWord_yields 2 4 20, trivial⟩ (by decide +kernel) n (Nat.le_trans (by decide +kernel) hmin)

theorem impliedInstantiatedCompoundNouns_fits (n : Nat) (hmin : impliedInstantiatedCompoundNouns.pat.minLen ≤ n) : impliedInstantiatedCompoundNouns.spec.Fits n :=
  Spec.fits_of_need impliedInstantiatedCompoundNouns.spec _ [] [1] (fun _ => rfl) trivial ⟨mergedWord_yields 0 2 21, trivial⟩ (by decide +kernel) n (Nat.le_trans (by decide +kernel) hmin)

/-- `letsGuard` binds nothing, so `get_merged_word`'s text is `.var 0` -/
theorem impliedOwnershipCompoundNouns_fits (n : Nat) (hmin : impliedOwnershipCompoundNouns.pat.minLen ≤ n) : impliedOwnershipCompoundNouns.spec.Fits n :=
  Spec.fits_of_need impliedOwnershipCompoundNouns.spec _ [0] [1] (fun _ => rfl) ⟨letsGuard_yields, trivial⟩ ⟨mergedWord_yields 2 4 8, trivial⟩ (by decide +kernel) n (Nat.le_trans (by decide +kernel) hmin)

theorem shouldContract_local : shouldContract.pat.Loc ∧ SpecLoc shouldContract.spec :=
  ⟨by decide +kernel, all_cons contractForms_loc all_nil, all_nil⟩

theorem generalCompoundNouns_local : generalCompoundNouns.pat.Loc ∧ SpecLoc generalCompoundNouns.spec :=
  ⟨by decide +kernel, all_nil, all_cons trivial (all_cons (mergedWord_loc 2 4 20) all_nil)⟩

theorem impliedInstantiatedCompoundNouns_local :
    impliedInstantiatedCompoundNouns.pat.Loc ∧ SpecLoc impliedInstantiatedCompoundNouns.spec :=
  ⟨by decide +kernel, all_nil, all_cons trivial (all_cons (mergedWord_loc 0 2 21) (all_cons trivial all_nil))⟩

theorem impliedOwnershipCompoundNouns_local : impliedOwnershipCompoundNouns.pat.Loc ∧ SpecLoc impliedOwnershipCompoundNouns.spec :=
  ⟨by decide +kernel, all_cons (letsGuard_eq ▸ onText_loc 0 _) all_nil,
    all_cons (mergedWord_loc 2 4 8) all_nil⟩

/-- ShouldContract, for an `Env` whose `to_lowercase` is right on the twelve letters: the `panic!` is never reached -/
theorem fineE_shouldContract (env : Env) (hl : ContractLowerOK env) : FineE env shouldContract :=
  fineE_of env _ (side_of_plain env _ _ (by decide +kernel)) shouldContract_local.1 shouldContract_local.2
    (fun n hmin _ => shouldContract_fits n hmin) fun src full n hin hm hn hnl _ =>
      ⟨all_cons (let ⟨_, e⟩ := contractForms_ok_on_match env hl src full n hin hm hn hnl; ⟨_, e⟩) all_nil, all_nil⟩

theorem mergedWord_ok_take (env : Env) (hd : DictOK env) (i j bit need : Nat) (src : List Char) (full : List Tok) (n : Nat)
    (hin : InText src full) (hnl : n ≤ full.length) (hi : i < n) (hj : j < n) :
    StepOk env src (full.take n) (.custom need (mergedWord i j bit)) :=
  mergedWord_ok env hd i j bit src _ (inText_hyp.sub src _ _ (List.take_sublist n full) hin)
    (by rw [List.length_take, Nat.min_eq_left hnl]; exact hi) (by rw [List.length_take, Nat.min_eq_left hnl]; exact hj)

theorem fineE_generalCompoundNouns (env : Env) (hd : DictOK env) : FineE env generalCompoundNouns :=
  fineE_of env _
    (by simp [generalCompoundNouns, patGeneralCompoundNouns, allOf, seqOf, ws, RPats.ofList, RPat.Side, RPats.Side, Leaf.Side, hd])
    generalCompoundNouns_local.1 generalCompoundNouns_local.2 (fun n hmin _ => generalCompoundNouns_fits n hmin)
    fun src full n hin _ _ hnl hmin =>
      have h5 : 5 ≤ n := hmin
      ⟨all_nil, all_cons trivial (all_cons (mergedWord_ok_take env hd 2 4 20 _ src full n hin hnl (by omega) (by omega)) all_nil)⟩

theorem fineE_impliedInstantiatedCompoundNouns (env : Env) (hd : DictOK env) : FineE env impliedInstantiatedCompoundNouns :=
  fineE_of env _
    (by simp [impliedInstantiatedCompoundNouns, patImpliedInstantiatedCompoundNouns, seqOf, ws, RPats.ofList, RPat.Side, RPats.Side,
      Leaf.Side, hd])
    impliedInstantiatedCompoundNouns_local.1 impliedInstantiatedCompoundNouns_local.2
    (fun n hmin _ => impliedInstantiatedCompoundNouns_fits n hmin) fun src full n hin _ _ hnl hmin =>
      have h5 : 5 ≤ n := hmin
      ⟨all_nil, all_cons trivial (all_cons (mergedWord_ok_take env hd 0 2 21 _ src full n hin hnl (by omega) (by omega))
        (all_cons trivial all_nil))⟩

theorem fineE_impliedOwnershipCompoundNouns (env : Env) (hd : DictOK env) : FineE env impliedOwnershipCompoundNouns :=
  fineE_of env _
    (by simp [impliedOwnershipCompoundNouns, patImpliedOwnershipCompoundNouns, seqOf, ws, kp, RPats.ofList, RPat.Side, RPats.Side,
      Leaf.Side, hd])
    impliedOwnershipCompoundNouns_local.1 impliedOwnershipCompoundNouns_local.2
    (fun n hmin _ => impliedOwnershipCompoundNouns_fits n hmin) fun src full n hin _ _ hnl hmin =>
      have h5 : 5 ≤ n := hmin
      ⟨all_cons (letsGuard_good.ok env src _ (inText_hyp.sub src _ _ (List.take_sublist n full) hin)
          (by rw [List.length_take, Nat.min_eq_left hnl]; omega)) all_nil,
        all_cons (mergedWord_ok_take env hd 2 4 8 _ src full n hin hnl (by omega) (by omega)) all_nil⟩

/-! ### the children of each merged rule -/

theorem hopHope_children (env : Env) : ∀ c ∈ hopHopeChildren, FineE env c :=
  all_cons (FineE.of_fine env _ fineToHop) (all_cons (FineE.of_fine env _ fineToHope) all_nil)

theorem letsConfusion_children (env : Env) : ∀ c ∈ letsConfusionChildren, FineE env c :=
  all_cons (FineE.of_fine env _ fineLetUsRedundancy) (all_cons (FineE.of_fine env _ fineNoContractionWithVerb) all_nil)

theorem pronounContraction_children (env : Env) (hl : ContractLowerOK env) : ∀ c ∈ pronounContractionChildren, FineE env c :=
  all_cons (fineE_shouldContract env hl) (all_cons (FineE.of_fine env _ fineAvoidContraction) all_nil)

theorem compoundNouns_children (env : Env) (hd : DictOK env) : ∀ c ∈ compoundNounsChildren, FineE env c :=
  all_cons (fineE_generalCompoundNouns env hd) (all_cons (fineE_impliedInstantiatedCompoundNouns env hd)
    (all_cons (fineE_impliedOwnershipCompoundNouns env hd) all_nil))

/-- every child's spec fits every length its tree can match: index expressions in range, every `.var` bound — for every `Env`,
no hypothesis -/
theorem allChildren_fits : ∀ x ∈ allChildren, ∀ n, x.2.pat.minLen ≤ n → (∀ k, x.2.pat.maxLen = some k → n ≤ k) → x.2.spec.Fits n :=
  all_cons fineToHop.fits <| all_cons fineToHope.fits <| all_cons (fun n hmin _ => shouldContract_fits n hmin) <|
  all_cons fineAvoidContraction.fits <| all_cons fineLetUsRedundancy.fits <| all_cons fineNoContractionWithVerb.fits <|
  all_cons (fun n hmin _ => generalCompoundNouns_fits n hmin) <|
  all_cons (fun n hmin _ => impliedInstantiatedCompoundNouns_fits n hmin) <|
  all_cons (fun n hmin _ => impliedOwnershipCompoundNouns_fits n hmin) all_nil

end Harper.MergeRules
