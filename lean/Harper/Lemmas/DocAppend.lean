import Harper.Lemmas.CondensePats
import Harper.Lemmas.LexAppend
import Harper.Lemmas.LexShape
import Harper.Lemmas.Chunks
/-! `document_append_tokens'`: no condensing pass of `Document::parse` merges across a paragraph break;
every pass commutes with moving the tokens (and the text under them); `lintDoc`, `lintGroupDoc`: a rule (group) run
on `document`. -/
namespace Harper
open Harper.Chunks Harper.Rules Harper.Leaves

/-! ## shifting -/

def shiftTok (k : Nat) (t : Tok) : Tok := ⟨⟨t.span.start + k, t.span.stop + k⟩, t.kind⟩

theorem shiftToks_eq_map (k : Nat) (ts : List Tok) : shiftToks k ts = ts.map (shiftTok k) := rfl

def shiftFlagged (k : Nat) (l : List (Tok × Bool)) : List (Tok × Bool) := l.map fun p => (shiftTok k p.1, p.2)

def shiftMode (k : Nat) : RunMode → RunMode
  | .scan => .scan
  | .absorb s n held => .absorb ⟨s.start + k, s.stop + k⟩ n (shiftFlagged k held)

/-! ### the steps of the `condense_spaces` / `condense_newlines` loop -/

/-- the token a run is closed with -/
def runTok (cfg : RunCfg) (s : Span) (n : Nat) : Tok × Bool := (⟨s, cfg.mkKind n⟩, false)

/-- the run that started at `s` does not go on with `c`: `c` is not adjacent, or is not of the kind -/
def RunStops (cfg : RunCfg) (s : Span) (c : Tok) : Prop :=
  (cfg.adj && s.stop != c.span.start) = true ∨ cfg.sel c.kind = none

theorem runGo_scan_take {cfg : RunCfg} {t : Tok} {n : Nat} (h : cfg.sel t.kind = some n) (rest : List Tok) :
    runGo cfg .scan (t :: rest) = runGo cfg (.absorb t.span n []) rest := by
  simp only [runGo, h]

theorem runGo_scan_skip {cfg : RunCfg} {t : Tok} (h : cfg.sel t.kind = none) (rest : List Tok) :
    runGo cfg .scan (t :: rest) = (t, false) :: runGo cfg .scan rest := by
  simp only [runGo, h]

theorem runGo_absorb_nil (cfg : RunCfg) (s : Span) (n : Nat) (held : List (Tok × Bool)) :
    runGo cfg (.absorb s n held) [] = runTok cfg s n :: held.reverse := rfl

theorem runGo_absorb_stops {cfg : RunCfg} {s : Span} {c : Tok} (h : RunStops cfg s c) (n : Nat)
    (held : List (Tok × Bool)) (r : List Tok) :
    runGo cfg (.absorb s n held) (c :: r) = runTok cfg s n :: (held.reverse ++ (c, false) :: runGo cfg .scan r) := by
  by_cases hg : (cfg.adj && s.stop != c.span.start) = true
  · simp only [runGo, hg, if_true, runTok]
  · rcases h with h | h
    · exact absurd h hg
    · simp only [runGo, hg, h, runTok]; rfl

theorem runGo_absorb_take {cfg : RunCfg} {s : Span} {c : Tok} {m : Nat}
    (hg : (cfg.adj && s.stop != c.span.start) = false) (h : cfg.sel c.kind = some m) (n : Nat)
    (held : List (Tok × Bool)) (r : List Tok) :
    runGo cfg (.absorb s n held) (c :: r) =
      runGo cfg (.absorb ⟨s.start, c.span.stop⟩ (n + m) ((c, true) :: held)) r := by
  simp only [runGo, hg, h, Bool.false_eq_true, if_false]

theorem runStops_or_take (cfg : RunCfg) (s : Span) (c : Tok) :
    RunStops cfg s c ∨ ((cfg.adj && s.stop != c.span.start) = false ∧ ∃ m, cfg.sel c.kind = some m) := by
  cases hg : (cfg.adj && s.stop != c.span.start) with
  | true => exact Or.inl (Or.inl hg)
  | false =>
    cases hs : cfg.sel c.kind with
    | none => exact Or.inl (Or.inr hs)
    | some m => exact Or.inr ⟨rfl, m, rfl⟩

theorem unflag_shiftFlagged (k : Nat) (l : List (Tok × Bool)) :
    unflag (shiftFlagged k l) = shiftToks k (unflag l) := by
  induction l with
  | nil => rfl
  | cons p l ih =>
    obtain ⟨t, b⟩ := p
    cases b
    · simp only [shiftFlagged, List.map_cons, unflag_cons_false] at ih ⊢
      rw [ih]; rfl
    · simp only [shiftFlagged, List.map_cons, unflag_cons_true] at ih ⊢
      exact ih

theorem runStops_shift (cfg : RunCfg) (k : Nat) (s : Span) (c : Tok) :
    (cfg.adj && (s.stop + k != (shiftTok k c).span.start)) = (cfg.adj && s.stop != c.span.start) := by
  congr 1
  by_cases h : s.stop = c.span.start
  · rw [h]; simp [shiftTok]
  · have h2 : s.stop + k ≠ c.span.start + k := by omega
    rw [bne_iff_ne.mpr h]; exact bne_iff_ne.mpr h2

theorem shiftFlagged_cons (k : Nat) (t : Tok) (b : Bool) (l : List (Tok × Bool)) :
    shiftFlagged k ((t, b) :: l) = (shiftTok k t, b) :: shiftFlagged k l := rfl

theorem shiftFlagged_append (k : Nat) (l₁ l₂ : List (Tok × Bool)) :
    shiftFlagged k (l₁ ++ l₂) = shiftFlagged k l₁ ++ shiftFlagged k l₂ := List.map_append

theorem shiftFlagged_reverse (k : Nat) (l : List (Tok × Bool)) :
    shiftFlagged k l.reverse = (shiftFlagged k l).reverse := List.map_reverse

theorem shiftFlagged_runTok (cfg : RunCfg) (k : Nat) (s : Span) (n : Nat) (l : List (Tok × Bool)) :
    shiftFlagged k (runTok cfg s n :: l) = runTok cfg ⟨s.start + k, s.stop + k⟩ n :: shiftFlagged k l := rfl

theorem runGo_shift (cfg : RunCfg) (k : Nat) (toks : List Tok) (mode : RunMode) :
    runGo cfg (shiftMode k mode) (shiftToks k toks) = shiftFlagged k (runGo cfg mode toks) := by
  rw [shiftToks_eq_map]
  induction toks generalizing mode with
  | nil =>
    cases mode with
    | scan => rfl
    | absorb s n held =>
      rw [shiftMode, List.map_nil, runGo_absorb_nil, runGo_absorb_nil, shiftFlagged_runTok, shiftFlagged_reverse]
  | cons c r ih =>
    rw [List.map_cons]
    cases mode with
    | scan =>
      cases hs : cfg.sel c.kind with
      | none =>
        rw [runGo_scan_skip hs, shiftFlagged_cons, ← ih .scan]
        exact runGo_scan_skip (t := shiftTok k c) hs _
      | some n =>
        rw [runGo_scan_take hs, ← ih]
        exact runGo_scan_take (t := shiftTok k c) hs _
    | absorb s n held =>
      rw [shiftMode]
      rcases runStops_or_take cfg s c with h | ⟨hg, m, hs⟩
      · have h' : RunStops cfg ⟨s.start + k, s.stop + k⟩ (shiftTok k c) := by
          rcases h with h | h
          · exact Or.inl (by rw [runStops_shift]; exact h)
          · exact Or.inr h
        rw [runGo_absorb_stops h, runGo_absorb_stops h', shiftFlagged_runTok, shiftFlagged_append, shiftFlagged_reverse,
          shiftFlagged_cons, ← ih .scan]
        rfl
      · have hg' : (cfg.adj && (s.stop + k != (shiftTok k c).span.start)) = false := by rw [runStops_shift]; exact hg
        rw [runGo_absorb_take hg hs, ← ih]
        exact runGo_absorb_take (s := ⟨s.start + k, s.stop + k⟩) (c := shiftTok k c) hg' hs _ _ _

theorem condenseRun_shift (cfg : RunCfg) (k : Nat) (toks : List Tok) :
    dropFlagged (runGo cfg .scan (shiftToks k toks)) = shiftToks k (dropFlagged (runGo cfg .scan toks)) := by
  rw [dropFlagged_eq, dropFlagged_eq, ← unflag_shiftFlagged, ← runGo_shift]; rfl

theorem condenseSpaces_shift (k : Nat) (toks : List Tok) :
    condenseSpaces (shiftToks k toks) = shiftToks k (condenseSpaces toks) := condenseRun_shift spacesCfg k toks

theorem condenseNewlines_shift (k : Nat) (toks : List Tok) :
    condenseNewlines (shiftToks k toks) = shiftToks k (condenseNewlines toks) := condenseRun_shift newlinesCfg k toks

theorem newlinesToBreaks_shift (k : Nat) (toks : List Tok) :
    newlinesToBreaks (shiftToks k toks) = shiftToks k (newlinesToBreaks toks) := by
  simp [newlinesToBreaks, shiftToks]

theorem Tiles.shift {toks : List Tok} {p q : Nat} (k : Nat) (h : Tiles toks p q) :
    Tiles (shiftToks k toks) (p + k) (q + k) := by
  induction toks generalizing p with
  | nil => simp only [Tiles] at h; subst h; rfl
  | cons a ts ih =>
    obtain ⟨h1, h2, hr⟩ := h
    refine ⟨by simp [h1], by simp; omega, ?_⟩
    exact ih hr

/-! ## `condense_spaces` / `condense_newlines` at a barrier -/

/-- the next token does not continue a run -/
def HeadNotSel (cfg : RunCfg) (Y : List Tok) : Prop := ∀ c r, Y = c :: r → cfg.sel c.kind = none

theorem runGo_split (cfg : RunCfg) (Y : List Tok) (hY : HeadNotSel cfg Y) (A : List Tok) (mode : RunMode) :
    runGo cfg mode (A ++ Y) = runGo cfg mode A ++ runGo cfg .scan Y := by
  induction A generalizing mode with
  | nil =>
    cases mode with
    | scan => rfl
    | absorb s n held =>
      cases Y with
      | nil => simp [runGo_absorb_nil]; rfl
      | cons c r =>
        have hc := hY c r rfl
        rw [List.nil_append, runGo_absorb_stops (Or.inr hc), runGo_scan_skip hc, runGo_absorb_nil]; rfl
  | cons a A ih =>
    rw [List.cons_append]
    cases mode with
    | scan =>
      cases hs : cfg.sel a.kind with
      | none => rw [runGo_scan_skip hs, runGo_scan_skip hs, ih]; rfl
      | some n => rw [runGo_scan_take hs, runGo_scan_take hs, ih]
    | absorb s n held =>
      rcases runStops_or_take cfg s a with h | ⟨hg, m, hs⟩
      · rw [runGo_absorb_stops h, runGo_absorb_stops h, ih]; simp
      · rw [runGo_absorb_take hg hs, runGo_absorb_take hg hs, ih]

theorem runGo_barrier (cfg : RunCfg) (brk : Tok) (hb : cfg.sel brk.kind = none) (Y : List Tok)
    (X : List Tok) (mode : RunMode) :
    runGo cfg mode (X ++ brk :: Y) = runGo cfg mode X ++ (brk, false) :: runGo cfg .scan Y := by
  rw [runGo_split cfg (brk :: Y) (fun c r h => by cases h; exact hb) X mode, runGo_scan_skip hb]

theorem spaces_sel_none {k : Kind} (h : k.isSpace = false) : spacesCfg.sel k = none := by
  cases k with
  | space n => cases h
  | _ => rfl

theorem newlines_sel_none {k : Kind} (h : k.isNewline = false) : newlinesCfg.sel k = none := by
  cases k with
  | newline n => cases h
  | _ => rfl

/-- `condense_spaces` never merges across a token that is not a blank -/
theorem condenseSpaces_barrier (X Y : List Tok) (brk : Tok) (hb : brk.kind.isSpace = false) :
    condenseSpaces (X ++ brk :: Y) = condenseSpaces X ++ brk :: condenseSpaces Y := by
  unfold condenseSpaces
  simp only [dropFlagged_eq]
  rw [runGo_barrier spacesCfg brk (spaces_sel_none hb) Y X .scan]
  simp

theorem condenseSpaces_barrier_end (X : List Tok) (brk : Tok) (hb : brk.kind.isSpace = false) :
    condenseSpaces (X ++ [brk]) = condenseSpaces X ++ [brk] :=
  condenseSpaces_barrier X [] brk hb

theorem condenseNewlines_split (A Y : List Tok) (hY : ∀ c r, Y = c :: r → c.kind.isNewline = false) :
    condenseNewlines (A ++ Y) = condenseNewlines A ++ condenseNewlines Y := by
  unfold condenseNewlines
  simp only [dropFlagged_eq]
  have : HeadNotSel newlinesCfg Y := fun c r h => newlines_sel_none (hY c r h)
  rw [runGo_split newlinesCfg Y this A .scan]
  simp

/-- ends in a `Newline(k)` token with `k ≥ 2` -/
def EndsBreak (l : List Tok) : Prop := ∃ Y b k, l = Y ++ [b] ∧ b.kind = .newline k ∧ k ≥ 2

theorem condenseNewlines_last (X : List Tok) (brk : Tok) (k : Nat) (hk : brk.kind = .newline k) (h2 : k ≥ 2) :
    EndsBreak (condenseNewlines (X ++ [brk])) := by
  have hr := condenseNewlines_rewrites (X ++ [brk])
  -- the last token takes in newline tokens only, and counts them
  have hl := hr.last (Ψ := fun u => ∃ k, u.kind = .newline k ∧ k ≥ 2)
    (fun _ _ h hb => by
      obtain ⟨a, b, n, m, _, hb', _⟩ := h
      obtain ⟨k, e, hk⟩ := hb b rfl
      have := newlinesCfg_exact _ _ hb'
      rw [e] at this
      cases this
      exact ⟨n + m, rfl, by omega⟩)
    (fun u hu => by rw [List.getLast?_concat] at hu; cases hu; exact ⟨k, hk, h2⟩)
  have hne : condenseNewlines (X ++ [brk]) ≠ [] := fun e => by simpa using hr.eq_nil e
  obtain ⟨k', e, hk'⟩ := hl _ (List.getLast?_eq_some_getLast hne)
  exact ⟨_, _, k', (List.dropLast_concat_getLast hne).symm, e, hk'⟩

theorem condenseSpaces_head (B : List Tok) (h : ∀ c r, B = c :: r → c.kind.isNewline = false) :
    ∀ c r, condenseSpaces B = c :: r → c.kind.isNewline = false := fun c r hc =>
  (condenseSpaces_rewrites B).head (Ψ := fun u => u.kind.isNewline = false) (fun _ h => nomatch h)
    (fun _ _ h _ => by cases h; rfl)
    (fun u hu => by
      cases B with
      | nil => cases hu
      | cons b r => cases hu; exact h _ _ rfl)
    c (by rw [hc]; rfl)

theorem shiftToks_head_kind (k : Nat) (B : List Tok) (p : Kind → Bool) (h : ∀ c r, B = c :: r → p c.kind = false) :
    ∀ c r, shiftToks k B = c :: r → p c.kind = false := by
  intro c r hc
  cases B with
  | nil => simp [shiftToks] at hc
  | cons b rest =>
    simp only [shiftToks, List.map_cons, List.cons.injEq] at hc
    rw [← hc.1]; exact h b rest rfl

theorem newlinesToBreaks_append (A B : List Tok) :
    newlinesToBreaks (A ++ B) = newlinesToBreaks A ++ newlinesToBreaks B := by
  simp [newlinesToBreaks]

theorem newlinesToBreaks_break {b : Tok} {k : Nat} (hb : b.kind = .newline k) (hk : k ≥ 2) :
    newlinesToBreaks [b] = [⟨b.span, .paragraphBreak⟩] := by
  simp [newlinesToBreaks, hb, breakKind, hk]

/-- after `newlines_to_breaks` the vector ends in a `ParagraphBreak` token -/
theorem newlinesToBreaks_endsBreak (l : List Tok) (h : EndsBreak l) :
    ∃ Y pb, newlinesToBreaks l = Y ++ [pb] ∧ pb.kind = .paragraphBreak := by
  obtain ⟨Y, b, k, rfl, hb, hk⟩ := h
  exact ⟨newlinesToBreaks Y, ⟨b.span, .paragraphBreak⟩, by rw [newlinesToBreaks_append, newlinesToBreaks_break hb hk], rfl⟩

/-! ## `condense_dotted_initialisms`: equations of the loop, barrier, shifting -/

/-- the token an initialism is closed with -/
def closing (st : Tok) (e : Nat) : Tok × Bool := (⟨⟨st.span.start, e⟩, st.kind⟩, false)

theorem initGo_idle_hit {a b : Tok} (h : isInitialismChunk a b = true) (rest : List Tok) :
    initGo .idle (a :: b :: rest) = initGo (.inside a b.span.stop [(b, true)]) rest := by
  simp only [initGo, h, if_true]

theorem initGo_idle_miss {a b : Tok} (h : isInitialismChunk a b = false) (rest : List Tok) :
    initGo .idle (a :: b :: rest) = (a, false) :: initGo .idle (b :: rest) := by
  simp only [initGo, h, Bool.false_eq_true, if_false]

theorem initGo_idle_nil : initGo .idle [] = [] := rfl

theorem initGo_idle_single (a : Tok) : initGo .idle [a] = [(a, false)] := rfl

theorem initGo_inside_hit {a b : Tok} (h : isInitialismChunk a b = true) (st : Tok) (e : Nat)
    (held : List (Tok × Bool)) (rest : List Tok) :
    initGo (.inside st e held) (a :: b :: rest) =
      initGo (.inside st b.span.stop ((b, true) :: (a, true) :: held)) rest := by
  simp only [initGo, h, if_true]

theorem initGo_inside_miss {a b : Tok} (h : isInitialismChunk a b = false) (st : Tok) (e : Nat)
    (held : List (Tok × Bool)) (rest : List Tok) :
    initGo (.inside st e held) (a :: b :: rest) =
      closing st e :: (held.reverse ++ (a, false) :: initGo .idle (b :: rest)) := by
  simp only [initGo, h, Bool.false_eq_true, if_false, closing]

theorem initGo_inside_nil (st : Tok) (e : Nat) (held : List (Tok × Bool)) :
    initGo (.inside st e held) [] = closing st e :: held.reverse := by
  simp only [initGo, closing, List.map_nil, List.append_nil]

theorem initGo_inside_single (st : Tok) (e : Nat) (held : List (Tok × Bool)) (a : Tok) :
    initGo (.inside st e held) [a] = closing st e :: (held.reverse ++ [(a, false)]) := by
  simp only [initGo, closing, List.map_cons, List.map_nil]

theorem chunk_barrier_right (a pb : Tok) (hp : pb.kind.isPeriod = false) : isInitialismChunk a pb = false := by
  simp [isInitialismChunk, hp]

theorem chunk_barrier_left (pb b : Tok) (hw : pb.kind.isWord = false) : isInitialismChunk pb b = false := by
  simp [isInitialismChunk, hw]

/-- a token that is neither a word nor a period is in no initialism: the loop closes before it and starts afresh
after it -/
theorem initGo_barrier (pb : Tok) (hw : pb.kind.isWord = false) (hp : pb.kind.isPeriod = false) (Y : List Tok)
    (X : List Tok) : ∀ mode, initGo mode (X ++ pb :: Y) = initGo mode X ++ (pb, false) :: initGo .idle Y := by
  have h0 : ∀ mode, initGo mode (pb :: Y) = initGo mode [] ++ (pb, false) :: initGo .idle Y := by
    intro mode
    cases Y with
    | nil => cases mode <;> simp [initGo_idle_single, initGo_idle_nil, initGo_inside_single, initGo_inside_nil]
    | cons y r =>
      have hm := chunk_barrier_left pb y hw
      cases mode <;> simp [initGo_idle_miss hm, initGo_idle_nil, initGo_inside_miss hm, initGo_inside_nil]
  induction X using List.twoStepInduction with
  | nil => exact h0
  | single a =>
    intro mode
    have hm := chunk_barrier_right a pb hp
    cases mode <;>
      simp [initGo_idle_miss hm, initGo_inside_miss hm, h0, initGo_idle_nil, initGo_idle_single, initGo_inside_single]
  | cons₂ a b X' ih1 ih2 =>
    intro mode
    simp only [List.cons_append] at ih2 ⊢
    cases hch : isInitialismChunk a b with
    | true => cases mode <;> simp only [initGo_idle_hit hch, initGo_inside_hit hch, ih1]
    | false =>
      cases mode <;>
        simp only [initGo_idle_miss hch, initGo_inside_miss hch, ih2, List.cons_append, List.append_assoc]

theorem dottedInitialisms_barrier (X Y : List Tok) (pb : Tok) (hw : pb.kind.isWord = false)
    (hp : pb.kind.isPeriod = false) :
    dottedInitialisms (X ++ pb :: Y) = dottedInitialisms X ++ pb :: dottedInitialisms Y := by
  unfold dottedInitialisms
  simp only [dropFlagged_eq]
  rw [initGo_barrier pb hw hp Y X .idle]
  simp

theorem dottedInitialisms_barrier_end (X : List Tok) (pb : Tok) (hw : pb.kind.isWord = false)
    (hp : pb.kind.isPeriod = false) : dottedInitialisms (X ++ [pb]) = dottedInitialisms X ++ [pb] :=
  dottedInitialisms_barrier X [] pb hw hp

def shiftInitMode (k : Nat) : InitMode → InitMode
  | .idle => .idle
  | .inside st e held => .inside (shiftTok k st) (e + k) (shiftFlagged k held)

theorem chunk_shift (k : Nat) (a b : Tok) :
    isInitialismChunk (shiftTok k a) (shiftTok k b) = isInitialismChunk a b := by
  simp only [isInitialismChunk, shiftTok, Span.len]
  congr 2
  have : a.span.stop + k - (a.span.start + k) = a.span.stop - a.span.start := by omega
  rw [this]

theorem shiftFlagged_closing (k : Nat) (st : Tok) (e : Nat) (l : List (Tok × Bool)) :
    shiftFlagged k (closing st e :: l) = closing (shiftTok k st) (e + k) :: shiftFlagged k l := rfl

theorem initGo_shift (k : Nat) (toks : List Tok) : ∀ mode,
    initGo (shiftInitMode k mode) (shiftToks k toks) = shiftFlagged k (initGo mode toks) := by
  rw [shiftToks_eq_map]
  induction toks using List.twoStepInduction with
  | nil =>
    intro mode
    cases mode with
    | idle => rfl
    | inside st e held =>
      simp only [shiftInitMode, List.map_nil, initGo_inside_nil, shiftFlagged_closing, shiftFlagged_reverse]
  | single a =>
    intro mode
    cases mode with
    | idle => rfl
    | inside st e held =>
      simp only [shiftInitMode, List.map_cons, List.map_nil, initGo_inside_single, shiftFlagged_closing,
        shiftFlagged_append, shiftFlagged_reverse]
      rfl
  | cons₂ a b rest ih1 ih2 =>
    intro mode
    simp only [List.map_cons] at ih2 ⊢
    cases hch : isInitialismChunk a b with
    | true =>
      have hch' : isInitialismChunk (shiftTok k a) (shiftTok k b) = true := by rw [chunk_shift, hch]
      cases mode with
      | idle => rw [initGo_idle_hit hch, ← ih1]; exact initGo_idle_hit hch' _
      | inside st e held => rw [initGo_inside_hit hch, ← ih1]; exact initGo_inside_hit hch' _ _ _ _
    | false =>
      have hch' : isInitialismChunk (shiftTok k a) (shiftTok k b) = false := by rw [chunk_shift, hch]
      cases mode with
      | idle => rw [initGo_idle_miss hch, shiftFlagged_cons, ← ih2 .idle]; exact initGo_idle_miss hch' _
      | inside st e held =>
        rw [initGo_inside_miss hch, shiftFlagged_closing, shiftFlagged_append, shiftFlagged_reverse, shiftFlagged_cons,
          ← ih2 .idle]
        exact initGo_inside_miss hch' _ _ _ _

theorem dottedInitialisms_shift (k : Nat) (toks : List Tok) :
    dottedInitialisms (shiftToks k toks) = shiftToks k (dottedInitialisms toks) := by
  unfold dottedInitialisms
  rw [dropFlagged_eq, dropFlagged_eq, ← unflag_shiftFlagged]
  have := initGo_shift k toks .idle
  simp only [shiftInitMode] at this
  rw [this]

/-! ## `condense_number_suffixes`, structurally -/

theorem suffixHit_barrier_right (src : List Char) (a pb : Tok) (hw : pb.kind.isWord = false) :
    suffixHit src a pb = .ok none := by simp [suffixHit, hw]

theorem suffixHit_barrier_left (src : List Char) (pb b : Tok) (hn : pb.kind.isNumber = false) :
    suffixHit src pb b = .ok none := by simp [suffixHit, hn]

theorem NS_barrier (src : List Char) (pb : Tok) (hw : pb.kind.isWord = false) (hn : pb.kind.isNumber = false)
    (Y y : List Tok) (hy : NS src Y = .ok y) (X : List Tok) :
    ∀ x, NS src X = .ok x → NS src (X ++ pb :: Y) = .ok (x ++ pb :: y) := by
  have hpbY : NS src (pb :: Y) = .ok (pb :: y) := by
    cases Y with
    | nil => rw [NS_nil] at hy; cases hy; exact NS_single src pb
    | cons y0 r => rw [NS_cons_none src pb y0 r (suffixHit_barrier_left src pb y0 hn), hy]; rfl
  induction X using List.twoStepInduction with
  | nil => intro x hx; rw [NS_nil] at hx; cases hx; exact hpbY
  | single a =>
    intro x hx
    rw [NS_single] at hx; cases hx
    rw [List.singleton_append, NS_cons_none src a pb Y (suffixHit_barrier_right src a pb hw), hpbY]; rfl
  | cons₂ a b X' ih1 ih2 =>
    intro x hx
    simp only [List.cons_append] at ih2 ⊢
    cases hh : suffixHit src a b with
    | error e => rw [NS_cons_err src a b X' e hh] at hx; cases hx
    | ok hit =>
      cases hit with
      | none =>
        rw [NS_cons_none src a b X' hh] at hx
        obtain ⟨x', hx', rfl⟩ := Except.map_eq_ok hx
        rw [NS_cons_none src a b _ hh, ih2 x' hx']; rfl
      | some s =>
        rw [NS_cons_some src a b X' s hh] at hx
        obtain ⟨x', hx', rfl⟩ := Except.map_eq_ok hx
        rw [NS_cons_some src a b _ s hh, ih1 x' hx']; rfl

theorem suffixHit_shift (P D : List Char) (a b : Tok) :
    suffixHit (P ++ D) (shiftTok P.length a) (shiftTok P.length b) = suffixHit D a b := by
  have hg : (⟨b.span.start + P.length, b.span.stop + P.length⟩ : Span).getContent (P ++ D) = _ :=
    Span.getContent_append_right P D b.span
  unfold suffixHit
  simp only [shiftTok, Span.len, hg, gt_iff_lt, Nat.add_lt_add_iff_right, Nat.add_sub_add_right]
  rfl

theorem NS_shift (P D : List Char) (toks : List Tok) :
    NS (P ++ D) (shiftToks P.length toks) = (NS D toks).map (shiftToks P.length) := by
  rw [shiftToks_eq_map]
  induction toks using List.twoStepInduction with
  | nil => rw [List.map_nil, NS_nil, NS_nil]; rfl
  | single a => rw [List.map_cons, List.map_nil, NS_single, NS_single]; rfl
  | cons₂ a b rest ihr ihb =>
    have hs := suffixHit_shift P D a b
    simp only [List.map_cons] at ihb ⊢
    cases hh : suffixHit D a b with
    | error e =>
      rw [hh] at hs
      rw [NS_cons_err _ _ _ _ e hs, NS_cons_err _ _ _ _ e hh]; rfl
    | ok hit =>
      rw [hh] at hs
      cases hit with
      | none =>
        rw [NS_cons_none _ _ _ _ hs, NS_cons_none _ _ _ _ hh, ihb]
        cases NS D (b :: rest) <;> rfl
      | some s =>
        rw [NS_cons_some _ _ _ _ s hs, NS_cons_some _ _ _ _ s hh, ihr]
        cases NS D rest <;> rfl

/-! ## `match_quotes` -/

def NoQuotes (A : List Tok) : Prop := ∀ t ∈ A, t.kind.isQuote = false

/-- quote tokens carry no twin yet (as the lexer produces them) -/
def Fresh (B : List Tok) : Prop := ∀ t ∈ B, ∀ x, t.kind ≠ .quote (some x)

theorem quoteIdx_noQuotes (A B : List Tok) (i : Nat) (h : NoQuotes A) :
    quoteIdx i (A ++ B) = quoteIdx (i + A.length) B := by
  induction A generalizing i with
  | nil => simp
  | cons a A ih =>
    have ha : a.kind.isQuote = false := h a (by simp)
    simp only [List.cons_append, quoteIdx, ha, Bool.false_eq_true, if_false, List.length_cons]
    rw [ih (i + 1) (fun t ht => h t (List.mem_cons_of_mem _ ht))]
    congr 1; omega

theorem quoteIdx_shiftToks (k i : Nat) (B : List Tok) : quoteIdx i (shiftToks k B) = quoteIdx i B := by
  induction B generalizing i with
  | nil => rfl
  | cons b B ih => simp only [shiftToks, List.map_cons, quoteIdx] at ih ⊢; rw [ih]

theorem quoteIdx_add (i j : Nat) (B : List Tok) : quoteIdx (i + j) B = (quoteIdx i B).map (· + j) := by
  induction B generalizing i with
  | nil => rfl
  | cons b B ih =>
    simp only [quoteIdx]
    rw [show i + j + 1 = (i + 1) + j by omega, ih]
    split <;> simp

def shiftPair (j : Nat) (p : Nat × Nat) : Nat × Nat := (p.1 + j, p.2 + j)

theorem twinTable_map (j : Nat) (l : List Nat) : twinTable (l.map (· + j)) = (twinTable l).map (shiftPair j) := by
  match l with
  | [] => rfl
  | [a] => rfl
  | a :: b :: r =>
    simp only [List.map_cons, twinTable]
    rw [twinTable_map j r]
    rfl

theorem lookup_shift (j i : Nat) (tab : List (Nat × Nat)) :
    (tab.map (shiftPair j)).lookup (i + j) = (tab.lookup i).map (· + j) := by
  induction tab with
  | nil => rfl
  | cons p tab ih =>
    obtain ⟨a, b⟩ := p
    simp only [List.map_cons, shiftPair, List.lookup_cons]
    by_cases h : i = a
    · subst h; simp
    · have h1 : (i + j == a + j) = false := by simp; omega
      have h2 : (i == a) = false := by simp [h]
      rw [h1, h2]
      exact ih

/-- what `match_quotes` does to the token at index `i` -/
def twinOf (tab : List (Nat × Nat)) (i : Nat) (t : Tok) : Tok :=
  match t.kind, tab.lookup i with
  | .quote _, some j => ⟨t.span, .quote (some j)⟩
  | _, _ => t

theorem setTwins_cons (tab : List (Nat × Nat)) (i : Nat) (t : Tok) (ts : List Tok) :
    setTwins tab i (t :: ts) = twinOf tab i t :: setTwins tab (i + 1) ts := rfl

theorem twinOf_of_not_quote (tab : List (Nat × Nat)) (i : Nat) {t : Tok} (h : t.kind.isQuote = false) :
    twinOf tab i t = t := by
  unfold twinOf
  split
  · rename_i hk _; rw [hk] at h; cases h
  · rfl

theorem setTwins_append (tab : List (Nat × Nat)) (i : Nat) (A B : List Tok) :
    setTwins tab i (A ++ B) = setTwins tab i A ++ setTwins tab (i + A.length) B := by
  induction A generalizing i with
  | nil => rfl
  | cons a A ih =>
    rw [List.cons_append, setTwins_cons, setTwins_cons, ih, List.length_cons, List.cons_append,
      show i + 1 + A.length = i + (A.length + 1) by omega]

theorem setTwins_noQuotes (tab : List (Nat × Nat)) (i : Nat) (A : List Tok) (h : NoQuotes A) :
    setTwins tab i A = A := by
  induction A generalizing i with
  | nil => rfl
  | cons a A ih =>
    rw [setTwins_cons, twinOf_of_not_quote tab i (h a List.mem_cons_self),
      ih (i + 1) (fun t ht => h t (List.mem_cons_of_mem _ ht))]

theorem shiftTwin_of_not_quote (j : Nat) {k : Kind} (h : k.isQuote = false) : shiftTwin j k = k := by
  cases k with
  | quote tw => cases h
  | _ => rfl

theorem twinOf_shift (k j : Nat) (tab : List (Nat × Nat)) (i : Nat) (b : Tok) (hb : ∀ x, b.kind ≠ .quote (some x)) :
    twinOf (tab.map (shiftPair j)) (i + j) (shiftTok k b) =
      ⟨⟨(twinOf tab i b).span.start + k, (twinOf tab i b).span.stop + k⟩, shiftTwin j (twinOf tab i b).kind⟩ := by
  cases hq : b.kind.isQuote with
  | false =>
    rw [twinOf_of_not_quote _ _ (t := shiftTok k b) hq, twinOf_of_not_quote _ _ hq, shiftTwin_of_not_quote j hq]
    rfl
  | true =>
    obtain ⟨sp, kd⟩ := b
    cases kd with
    | quote tw =>
      cases tw with
      | some x => exact absurd rfl (hb x)
      | none =>
        simp only [twinOf, shiftTok, lookup_shift]
        cases tab.lookup i <;> rfl
    | _ => cases hq

theorem setTwins_shift (k j : Nat) (tab : List (Nat × Nat)) (i : Nat) (B : List Tok) (hB : Fresh B) :
    setTwins (tab.map (shiftPair j)) (i + j) (shiftToks k B) = shiftDoc k j (setTwins tab i B) := by
  induction B generalizing i with
  | nil => rfl
  | cons b B ih =>
    rw [shiftToks_eq_map, List.map_cons, setTwins_cons, setTwins_cons, twinOf_shift k j tab i b (hB b List.mem_cons_self),
      show i + j + 1 = (i + 1) + j by omega, ← shiftToks_eq_map, ih (i + 1) (fun t ht => hB t (List.mem_cons_of_mem _ ht))]
    rfl

theorem matchQuotes_noQuotes (A : List Tok) (h : NoQuotes A) : matchQuotes A = A :=
  setTwins_noQuotes _ _ _ h

theorem matchQuotes_append (k : Nat) (A B : List Tok) (hA : NoQuotes A) (hB : Fresh B) :
    matchQuotes (A ++ shiftToks k B) = A ++ shiftDoc k A.length (matchQuotes B) := by
  unfold matchQuotes
  rw [quoteIdx_noQuotes _ _ _ hA, quoteIdx_shiftToks, quoteIdx_add 0 A.length, twinTable_map, setTwins_append,
    setTwins_noQuotes _ _ _ hA]
  have := setTwins_shift k A.length (twinTable (quoteIdx 0 B)) 0 B hB
  rw [Nat.zero_add] at this
  rw [Nat.zero_add, this]

/-! ## `condense_pattern` at a barrier token -/

theorem foundFrom_add (m : Matcher) (src : List Char) (i j : Nat) (Y : List Tok) :
    foundFrom m src (i + j) Y = (foundFrom m src i Y).map (List.map (shSpan j)) := by
  induction Y generalizing i with
  | nil => rfl
  | cons t ts ih =>
    simp only [foundFrom]
    cases m src (t :: ts) with
    | error e => rfl
    | ok n =>
      simp only
      rw [Nat.add_right_comm i j 1, ih (i + 1)]
      cases foundFrom m src (i + 1) ts with
      | error e => rfl
      | ok rest =>
        simp only [Except.map]
        split
        · rw [List.map_cons, shSpan, Nat.add_right_comm i j n]
        · rfl

theorem foundFrom_shift (m : Matcher) (src : List Char) (j : Nat) (Y : List Tok) :
    foundFrom m src j Y = (foundFrom m src 0 Y).map (List.map (shSpan j)) := by
  rw [← foundFrom_add, Nat.zero_add]

/-- the barrier stops every match of `m` and starts none -/
structure Barrier (m : Matcher) (src : List Char) (Q : List Tok → Prop) (pb : Tok) (Y : List Tok) : Prop where
  tail : ∀ t ts, Q (t :: ts) → Q ts
  stop : ∀ xs : List Tok, Q xs → m src (xs ++ pb :: Y) = m src xs
  none : m src (pb :: Y) = .ok 0

theorem foundFrom_barrier (m : Matcher) (src : List Char) (Q : List Tok → Prop) (pb : Tok) (Y : List Tok)
    (hb : Barrier m src Q pb Y)
    (X : List Tok) (hQ : Q X) (i : Nat) (fx fy : List Span) (hx : foundFrom m src i X = .ok fx)
    (hy : foundFrom m src (i + X.length + 1) Y = .ok fy) :
    foundFrom m src i (X ++ pb :: Y) = .ok (fx ++ fy) := by
  induction X generalizing i fx with
  | nil =>
    simp only [foundFrom] at hx
    cases hx
    simp only [List.nil_append, foundFrom, hb.none]
    simp only [List.length_nil, Nat.add_zero] at hy
    rw [hy]
    simp
  | cons a X ih =>
    simp only [List.cons_append, foundFrom]
    have hst := hb.stop (a :: X) hQ
    simp only [List.cons_append] at hst
    rw [hst]
    simp only [foundFrom] at hx
    cases hm : m src (a :: X) with
    | error e => rw [hm] at hx; cases hx
    | ok n =>
      rw [hm] at hx
      simp only at hx ⊢
      cases hr : foundFrom m src (i + 1) X with
      | error e => rw [hr] at hx; cases hx
      | ok rest =>
        rw [hr] at hx
        simp only at hx
        rw [ih (hb.tail _ _ hQ) (i + 1) rest hr (by simpa [Nat.add_assoc, Nat.add_comm 1] using hy)]
        simp only
        cases hx
        split <;> simp

theorem overlaps_shift (j : Nat) (a b : Span) : (shSpan j a).overlapsWith (shSpan j b) = a.overlapsWith b := by
  simp only [Span.overlapsWith, shSpan]
  by_cases h1 : a.start < b.stop <;> by_cases h2 : b.start < a.stop <;> simp [h1, h2] <;> omega

theorem keepNon_shift (j : Nat) (a : Span) (l : List Span) :
    keepNon (shSpan j a) (l.map (shSpan j)) = (keepNon a l).map (shSpan j) := by
  induction l generalizing a with
  | nil => rfl
  | cons b l ih =>
    simp only [List.map_cons, keepNon, overlaps_shift, ih]
    split <;> simp

theorem filt_shift (j : Nat) (l : List Span) : filt (l.map (shSpan j)) = (filt l).map (shSpan j) := by
  rw [filt_eq, filt_eq]
  cases l with
  | nil => rfl
  | cons a l => simp only [List.map_cons]; rw [keepNon_shift]

/-- the filter over two runs of matches when no match of the first run reaches the second -/
theorem keepNon_append (bound : Nat) (a : Span) (l1 l2 : List Span) (ha : a.stop ≤ bound)
    (h1 : ∀ x ∈ l1, x.stop ≤ bound) (h2 : ∀ y ∈ l2, bound ≤ y.start) :
    keepNon a (l1 ++ l2) = keepNon a l1 ++ (match l2 with
      | [] => []
      | b :: r => b :: keepNon b r) := by
  induction l1 generalizing a with
  | nil =>
    cases l2 with
    | nil => rfl
    | cons b r =>
      have hb := h2 b (by simp)
      have : a.overlapsWith b = false := by
        simp only [Span.overlapsWith, Bool.and_eq_false_imp, decide_eq_true_eq, decide_eq_false_iff_not]
        intro _; omega
      simp [keepNon, this]
  | cons x l1 ih =>
    have hx := h1 x (by simp)
    have := ih x hx (fun y hy => h1 y (List.mem_cons_of_mem _ hy))
    simp only [List.cons_append, keepNon, this]
    split <;> simp

theorem filt_append (bound : Nat) (l1 l2 : List Span) (h1 : ∀ x ∈ l1, x.stop ≤ bound)
    (h2 : ∀ y ∈ l2, bound ≤ y.start) : filt (l1 ++ l2) = filt l1 ++ filt l2 := by
  rw [filt_eq, filt_eq, filt_eq]
  cases l1 with
  | nil => simp
  | cons a l1 =>
    simp only [List.cons_append]
    rw [keepNon_append bound a l1 l2 (h1 a (by simp)) (fun x hx => h1 x (List.mem_cons_of_mem _ hx)) h2]
    cases l2 <;> simp

theorem findAllMatches_barrier {m : Matcher} {src : List Char} {P : List Tok → Prop} (hp : PatOK m src P)
    {X Y : List Tok} {pb : Tok} (hb : Barrier m src P pb Y) (hPX : P X) {msX msY : List Span}
    (hfX : findAllMatches m src X = .ok msX) (hfY : findAllMatches m src Y = .ok msY) :
    findAllMatches m src (X ++ pb :: Y) = .ok (msX ++ msY.map (shSpan (X.length + 1))) := by
  rw [findAllMatches_eq] at hfX hfY ⊢
  obtain ⟨fx, hfx, rfl⟩ := Except.map_eq_ok hfX
  obtain ⟨fy, hfy, rfl⟩ := Except.map_eq_ok hfY
  obtain ⟨fx', hfx', hinc, _⟩ := foundFrom_inc hp X 0 hPX
  rw [hfx] at hfx'; cases hfx'
  rw [Nat.zero_add] at hinc
  have hfy' : foundFrom m src (0 + X.length + 1) Y = .ok (fy.map (shSpan (X.length + 1))) := by
    rw [foundFrom_shift, hfy, Nat.zero_add]; rfl
  rw [foundFrom_barrier m src P pb Y hb X hPX 0 fx _ hfx hfy']
  simp only [Except.map]
  rw [filt_append X.length fx _ (fun a ha => (hinc.mem a ha).2) (by
    intro b hb'
    obtain ⟨c, _, rfl⟩ := List.mem_map.mp hb'
    exact Nat.le_trans (Nat.le_succ _) (Nat.le_add_left _ _)), filt_shift]

/-- The matches in `X ++ pb :: Y` are those of `X` followed by those of `Y` moved by `|X| + 1`
(`findAllMatches_barrier`); on such matches the closed form splits at `pb` (`condSpec_append`, `condSpec_behind`,
`condSpec_shift`). -/
theorem condensePattern_barrier (m : Matcher) (edit : Kind → Kind) (src : List Char) (P : List Tok → Prop)
    (hp : PatOK m src P) (X Y : List Tok) (pb : Tok) (hb : Barrier m src P pb Y) (hPX : P X) (hPY : P Y)
    (hPXY : P (X ++ pb :: Y)) (x y : List Tok) (hx : condensePattern m edit src X = .ok x)
    (hy : condensePattern m edit src Y = .ok y) :
    condensePattern m edit src (X ++ pb :: Y) = .ok (x ++ pb :: y) := by
  obtain ⟨msX, hfX, hgX, _⟩ := findAllMatches_goodMs hp X hPX
  obtain ⟨msY, hfY, hgY, _⟩ := findAllMatches_goodMs hp Y hPY
  obtain ⟨ms, hf, hg, _⟩ := findAllMatches_goodMs hp _ hPXY
  have hf' := findAllMatches_barrier hp hb hPX hfX hfY
  rw [hf] at hf'; cases hf'
  rw [condensePattern_of_matches edit hfX hgX] at hx; cases hx
  rw [condensePattern_of_matches edit hfY hgY] at hy; cases hy
  have hbehind : ∀ b ∈ msY.map (shSpan (X.length + 1)), X.length + 1 ≤ b.start ∧ b.start ≤ b.stop := by
    intro b hb'
    obtain ⟨c, hc, rfl⟩ := List.mem_map.mp hb'
    exact ⟨Nat.le_add_left _ _, Nat.add_le_add_right (Nat.le_of_lt (hgY.all c hc).1) _⟩
  rw [condensePattern_of_matches edit hf hg,
    condSpec_append (condSeg edit) (pb :: Y) _ msX 0 X (by rwa [Nat.zero_add])
      (fun b hb' => ⟨by rw [Nat.zero_add]; exact Nat.le_trans (Nat.le_succ _) (hbehind b hb').1, (hbehind b hb').2⟩),
    Nat.zero_add]
  have h1 : condSpec (condSeg edit) X.length (msY.map (shSpan (X.length + 1))) (pb :: Y) =
      pb :: condSpec (condSeg edit) (X.length + 1) (msY.map (shSpan (X.length + 1))) Y :=
    condSpec_behind _ X.length [pb] Y _ hbehind
  have h2 := condSpec_shift (condSeg edit) (X.length + 1) msY 0 Y
  rw [Nat.zero_add] at h2
  rw [h1, h2]

/-! ## `condense_pattern` commutes with moving the tokens -/

theorem contiguous_shift (k : Nat) (l : List Tok) : contiguous (l.map (shiftTok k)) = contiguous l := by
  induction l with
  | nil => rfl
  | cons a t ih =>
    cases t with
    | nil => rfl
    | cons b r =>
      simp only [List.map_cons, contiguous] at ih ⊢
      rw [ih]
      congr 1
      simp only [shiftTok]
      by_cases h : a.span.stop = b.span.start
      · rw [h]; simp
      · have h2 : ¬ (a.span.stop + k = b.span.start + k) := by omega
        rw [beq_false_of_ne h, beq_false_of_ne h2]

theorem foldl_ends_shift (f : Nat → Nat → Nat) (hf : ∀ a b k, f (a + k) (b + k) = f a b + k) (k : Nat)
    (ts : List Tok) (m : Nat) :
    (ts.map (shiftTok k)).foldl (fun m x => f (f m x.span.start) x.span.stop) (m + k) =
      ts.foldl (fun m x => f (f m x.span.start) x.span.stop) m + k := by
  induction ts generalizing m with
  | nil => rfl
  | cons t ts ih =>
    simp only [List.map_cons, List.foldl_cons, shiftTok]
    rw [hf, hf]
    exact ih _

theorem spanOf_shift (k : Nat) (l : List Tok) : spanOf (l.map (shiftTok k)) = (spanOf l).map (shSpan k) := by
  cases l with
  | nil => rfl
  | cons t ts =>
    simp only [List.map_cons, spanOf, Option.map_some, shSpan, shiftTok]
    rw [Nat.add_min_add_right, Nat.add_max_add_right, foldl_ends_shift min Nat.add_min_add_right,
      foldl_ends_shift max Nat.add_max_add_right]

theorem condSeg_shift (edit : Kind → Kind) (k : Nat) (seg : List Tok) :
    condSeg edit (seg.map (shiftTok k)) = (condSeg edit seg).map (shiftTok k) := by
  by_cases hc : contiguous seg = true
  · cases seg with
    | nil => rfl
    | cons first tl =>
      rw [condSeg_contiguous edit first tl _ hc rfl, List.map_cons,
        condSeg_contiguous edit _ _ _ (by rw [← List.map_cons, contiguous_shift]; exact hc)
          (by rw [← List.map_cons, spanOf_shift]; rfl)]
      rfl
  · rw [condSeg_not_contiguous edit seg hc, condSeg_not_contiguous edit _ (by rw [contiguous_shift]; exact hc)]

/-- a pattern whose matches do not depend on where the tokens (and the text under them) are -/
def ShiftInv (m : Matcher) (srcPD srcD : List Char) (k : Nat) (Q : List Tok → Prop) : Prop :=
  ∀ v, Q v → m srcPD (v.map (shiftTok k)) = m srcD v

theorem foundFrom_shiftToks (m : Matcher) (srcPD srcD : List Char) (k : Nat) (Q : List Tok → Prop)
    (hQ : ∀ t ts, Q (t :: ts) → Q ts) (hm : ShiftInv m srcPD srcD k Q) (v : List Tok) (hv : Q v) (i : Nat) :
    foundFrom m srcPD i (v.map (shiftTok k)) = foundFrom m srcD i v := by
  induction v generalizing i with
  | nil => rfl
  | cons t ts ih =>
    have h1 := hm (t :: ts) hv
    simp only [List.map_cons] at h1
    simp only [List.map_cons, foundFrom, h1, ih (hQ _ _ hv)]

theorem condensePattern_shiftToks (m : Matcher) (edit : Kind → Kind) (srcPD srcD : List Char) (k : Nat)
    (Q : List Tok → Prop) (hp : PatOK m srcD Q) (hm : ShiftInv m srcPD srcD k Q)
    (B : List Tok) (hB : Q B) :
    condensePattern m edit srcPD (shiftToks k B) = (condensePattern m edit srcD B).map (shiftToks k) := by
  obtain ⟨ms, hf, hg, _⟩ := findAllMatches_goodMs hp B hB
  have hf' : findAllMatches m srcPD (B.map (shiftTok k)) = .ok ms := by
    rw [findAllMatches_eq, foundFrom_shiftToks m srcPD srcD k Q hp.tail hm B hB, ← findAllMatches_eq, hf]
  rw [shiftToks_eq_map, condensePattern_of_matches edit hf' (by rw [List.length_map]; exact hg),
    condensePattern_of_matches edit hf hg, condSpec_map _ _ (condSeg_shift edit k)]
  rfl

/-! ## the three patterns: a paragraph break is a barrier; matches do not depend on position -/

theorem contraction_barrier (src : List Char) (pb : Tok) (hpb : pb.kind = .paragraphBreak) (Y : List Tok) :
    Barrier contractionPat src (fun _ => True) pb Y where
  tail := fun _ _ _ => trivial
  stop := by
    intro xs _
    rw [contractionPat_eq, contractionPat_eq]
    rcases xs with _ | ⟨a, _ | ⟨b, _ | ⟨c, r⟩⟩⟩
    · rcases Y with _ | ⟨y, _ | ⟨z, r⟩⟩ <;> simp [hpb, Kind.isWord]
    · rcases Y with _ | ⟨y, r⟩ <;> simp [hpb, Kind.isApostrophe]
    · simp [hpb, Kind.isWord]
    · simp
  none := by
    rw [contractionPat_eq]
    rcases Y with _ | ⟨y, _ | ⟨z, r⟩⟩ <;> simp [hpb, Kind.isWord]

theorem ellipsis_barrier (src : List Char) (pb : Tok) (hpb : pb.kind = .paragraphBreak) (Y : List Tok) :
    Barrier ellipsisPat src (fun _ => True) pb Y where
  tail := fun _ _ _ => trivial
  stop := by
    intro xs _
    rw [ellipsisPat_eq, ellipsisPat_eq]
    unfold periods
    rw [cw_stop _ pb (by simp [hpb, Kind.isPeriod])]
  none := by
    rw [ellipsisPat_eq]
    simp [periods, countWhile, hpb, Kind.isPeriod]

theorem InB.append {src : List Char} {a b : List Tok} (ha : InB src a) (hb : InB src b) : InB src (a ++ b) := by
  intro t ht
  rcases List.mem_append.mp ht with h | h
  · exact ha t h
  · exact hb t h

theorem alPeriod_barrier (src : List Char) (pb : Tok) (hpb : pb.kind = .paragraphBreak) (d Y : List Tok) :
    alPeriod src (d ++ pb :: Y) = alPeriod src d := by
  rcases d with _ | ⟨a, _ | ⟨p, r⟩⟩
  · rcases Y with _ | ⟨y, r⟩ <;> simp [alPeriod, isCap, hpb, Kind.isWord]
  · simp [alPeriod, hpb, Kind.isPeriod]
  · simp [alPeriod]

theorem latinLen_barrier (src : List Char) (pb : Tok) (hpb : pb.kind = .paragraphBreak) (xs Y : List Tok) :
    latinLen src (xs ++ pb :: Y) = latinLen src xs := by
  cases xs with
  | nil => simp [latinLen, isEtc, isCap, hpb, Kind.isWord]
  | cons t r =>
    simp only [List.cons_append, latinLen]
    have h1 : headPeriod (r ++ pb :: Y) = headPeriod r := by
      cases r <;> simp [headPeriod, hpb, Kind.isPeriod]
    have h2 : wsCount (r ++ pb :: Y) = wsCount r := cw_stop _ pb (by simp [hpb, Kind.isWhitespace]) r Y
    have h3 : (r ++ pb :: Y).drop (wsCount r) = r.drop (wsCount r) ++ pb :: Y :=
      List.drop_append_of_le_length (countWhile_le _ r)
    rw [h1, h2, h3, alPeriod_barrier src pb hpb]

theorem latin_barrier (src : List Char) (pb : Tok) (hpb : pb.kind = .paragraphBreak) (Y : List Tok)
    (hY : InB src (pb :: Y)) : Barrier latinPat src (InB src) pb Y where
  tail := fun _ _ h => h.tail
  stop := by
    intro xs hxs
    rw [latinPat_eq src _ (hxs.append hY), latinPat_eq src _ hxs, latinLen_barrier src pb hpb]
  none := by
    rw [latinPat_eq src _ hY]
    have := latinLen_barrier src pb hpb [] Y
    simp only [List.nil_append] at this
    rw [this]; rfl

/-! ### the three patterns look only at kinds, spans and the characters under their tokens -/

theorem shTok_zero (k : Nat) (t : Tok) : shTok k 0 t = shiftTok k t := by
  obtain ⟨sp, kd⟩ := t
  cases kd with
  | quote tw => cases tw <;> rfl
  | _ => rfl

theorem _root_.Harper.Leaves.MLoc.shiftInv {m : Matcher} (h : MLoc m) (P D : List Char) (Q : List Tok → Prop) :
    ShiftInv m (P ++ D) D P.length Q := fun v _ => by
  have := h.right P D v 0
  rwa [List.map_congr_left fun t _ => shTok_zero P.length t] at this

theorem contractionPat_loc : MLoc contractionPat :=
  .of_sim <| seqPat_sim _ (forall_mem_cons_of (kindAtom_sim _ isWord_shiftTwin)
    (forall_mem_cons_of (kindAtom_sim _ fun j k => shiftTwin_inv _ (fun _ _ => rfl) j k)
      (forall_mem_cons_of (kindAtom_sim _ isWord_shiftTwin) fun _ h => nomatch h)))

theorem periodAtom_sim {B : Nat → Tok → Prop} : MSim B (kindAtom Kind.isPeriod) :=
  kindAtom_sim _ fun j k => shiftTwin_inv _ (fun _ _ => rfl) j k

theorem ellipsisPat_loc : MLoc ellipsisPat where
  left := fun P D ts _ => by rw [ellipsisPat_eq, ellipsisPat_eq]
  right := fun P D ts j => by
    rw [ellipsisPat_eq, ellipsisPat_eq]
    have : periods (ts.map (shTok P.length j)) = periods ts := by
      unfold periods; rw [countWhile_map]; simp only [shTok_kind, shiftTwin_inv Kind.isPeriod (fun _ _ => rfl)]
    rw [this]

theorem latinPat_loc : MLoc latinPat :=
  .of_sim <| eitherPat_sim _ (forall_mem_cons_of
    (seqPat_sim _ (forall_mem_cons_of (wordSetAtom_sim _).ends (forall_mem_cons_of periodAtom_sim fun _ h => nomatch h)))
    (forall_mem_cons_of
      (seqPat_sim _ (forall_mem_cons_of (anyCapAtom_sim _).ends (forall_mem_cons_of whitespaceAtom_sim
        (forall_mem_cons_of (anyCapAtom_sim _).ends (forall_mem_cons_of periodAtom_sim fun _ h => nomatch h)))))
      fun _ h => nomatch h))

/-! ## text after the tokens does not matter -/

theorem foundFrom_congr (m m' : Matcher) (src src' : List Char) (Q : List Tok → Prop)
    (hQ : ∀ t ts, Q (t :: ts) → Q ts) (hm : ∀ v, Q v → m src v = m' src' v) (v : List Tok) (hv : Q v) (i : Nat) :
    foundFrom m src i v = foundFrom m' src' i v := by
  induction v generalizing i with
  | nil => rfl
  | cons t ts ih => simp only [foundFrom, hm _ hv, ih (hQ _ _ hv)]

theorem condensePattern_congr (m m' : Matcher) (edit : Kind → Kind) (src src' : List Char) (Q : List Tok → Prop)
    (hQ : ∀ t ts, Q (t :: ts) → Q ts) (hm : ∀ v, Q v → m src v = m' src' v) (B : List Tok) (hB : Q B) :
    condensePattern m edit src B = condensePattern m' edit src' B := by
  unfold condensePattern
  rw [findAllMatches_eq, findAllMatches_eq, foundFrom_congr m m' src src' Q hQ hm B hB]

theorem suffixHit_left (P D : List Char) (a b : Tok) (hb : b.span.start < b.span.stop ∧ b.span.stop ≤ P.length) :
    suffixHit (P ++ D) a b = suffixHit P a b := by
  unfold suffixHit
  rw [Span.getContent_append_left P D b.span hb.2]

theorem NS_left (P D : List Char) (l : List Tok) : InB P l → NS (P ++ D) l = NS P l := by
  induction l using List.twoStepInduction with
  | nil => intro _; rw [NS_nil, NS_nil]
  | single a => intro _; rw [NS_single, NS_single]
  | cons₂ a b rest ihr ihb =>
    intro hin
    have hs := suffixHit_left P D a b (hin b (by simp))
    cases hh : suffixHit P a b with
    | error e => rw [hh] at hs; rw [NS_cons_err _ _ _ _ e hs, NS_cons_err _ _ _ _ e hh]
    | ok hit =>
      rw [hh] at hs
      cases hit with
      | none => rw [NS_cons_none _ _ _ _ hs, NS_cons_none _ _ _ _ hh, ihb hin.tail]
      | some s => rw [NS_cons_some _ _ _ _ s hs, NS_cons_some _ _ _ _ s hh, ihr hin.tail.tail]

/-! ## one pattern stage -/

theorem condensePattern_nil (m : Matcher) (edit : Kind → Kind) (src : List Char) :
    condensePattern m edit src [] = .ok [] := by
  simp [condensePattern, findAllMatches, foundFrom, condLoop, removeIndices]

/-- what a pattern pass needs at a paragraph break `pb` between the text `P` and the text `D`: `Q` describes the
token vectors over `P ++ D`, `QD` those over `D` -/
structure PatStage (m : Matcher) (P D : List Char) (pb : Tok) (Q QD : List Tok → Prop) : Prop where
  pat : PatOK m (P ++ D) Q
  app : ∀ a b, Q (a ++ b) ↔ Q a ∧ Q b
  patD : PatOK m D QD
  barrier : ∀ Y, Q (pb :: Y) → Barrier m (P ++ D) Q pb Y
  loc : MLoc m

/-- a `condense_pattern` pass on `X ++ pb :: shift(Y0)` over the text `P ++ D`, and on `X ++ [pb]` over `P` -/
theorem pat_stage {m : Matcher} {P D : List Char} {pb : Tok} {Q QD : List Tok → Prop} (S : PatStage m P D pb Q QD)
    (edit : Kind → Kind) (X Y0 : List Tok) (hQX : Q X) (hQpb : Q [pb]) (hQY : Q (shiftToks P.length Y0))
    (hQDY : QD Y0) (hXin : ∀ t ∈ X ++ [pb], t.span.start ≤ t.span.stop ∧ t.span.stop ≤ P.length) (x y0 : List Tok)
    (hx : condensePattern m edit (P ++ D) X = .ok x) (hy0 : condensePattern m edit D Y0 = .ok y0) :
    condensePattern m edit (P ++ D) (X ++ pb :: shiftToks P.length Y0) = .ok (x ++ pb :: shiftToks P.length y0) ∧
    condensePattern m edit P (X ++ [pb]) = .ok (x ++ [pb]) := by
  have hQpbY : Q (pb :: shiftToks P.length Y0) := (S.app [pb] _).mpr ⟨hQpb, hQY⟩
  have hQXp : Q (X ++ [pb]) := (S.app X _).mpr ⟨hQX, hQpb⟩
  constructor
  · have hy : condensePattern m edit (P ++ D) (shiftToks P.length Y0) = .ok (shiftToks P.length y0) := by
      rw [condensePattern_shiftToks m edit (P ++ D) D P.length QD S.patD (S.loc.shiftInv P D QD) Y0 hQDY, hy0]; rfl
    exact condensePattern_barrier m edit (P ++ D) Q S.pat X _ pb (S.barrier _ hQpbY) hQX hQY
      ((S.app X _).mpr ⟨hQX, hQpbY⟩) x _ hx hy
  · -- over `P` alone: the same matches as over `P ++ D`
    let Q' : List Tok → Prop := fun v => Q v ∧ ∀ t ∈ v, t.span.start ≤ t.span.stop ∧ t.span.stop ≤ P.length
    have hQ' : ∀ t ts, Q' (t :: ts) → Q' ts := fun t ts h =>
      ⟨S.pat.tail t ts h.1, fun u hu => h.2 u (List.mem_cons_of_mem _ hu)⟩
    rw [← condensePattern_congr m m edit (P ++ D) P Q' hQ' (fun v hv => S.loc.left P D v hv.2) (X ++ [pb]) ⟨hQXp, hXin⟩]
    exact condensePattern_barrier m edit (P ++ D) Q S.pat X [] pb (S.barrier _ hQpb) hQX (S.pat.tail _ _ hQpb) hQXp
      x [] hx (condensePattern_nil _ _ _)

theorem contraction_stage (P D : List Char) (pb : Tok) (hpb : pb.kind = .paragraphBreak) :
    PatStage contractionPat P D pb (fun _ => True) (fun _ => True) where
  pat := contraction_patOK _
  app := fun _ _ => ⟨fun _ => ⟨trivial, trivial⟩, fun _ => trivial⟩
  patD := contraction_patOK _
  barrier := fun Y _ => contraction_barrier _ pb hpb Y
  loc := contractionPat_loc

theorem ellipsis_stage (P D : List Char) (pb : Tok) (hpb : pb.kind = .paragraphBreak) :
    PatStage ellipsisPat P D pb (fun _ => True) (fun _ => True) where
  pat := ellipsis_patOK _
  app := fun _ _ => ⟨fun _ => ⟨trivial, trivial⟩, fun _ => trivial⟩
  patD := ellipsis_patOK _
  barrier := fun Y _ => ellipsis_barrier _ pb hpb Y
  loc := ellipsisPat_loc

theorem latin_stage (P D : List Char) (pb : Tok) (hpb : pb.kind = .paragraphBreak) :
    PatStage latinPat P D pb (InB (P ++ D)) (InB D) where
  pat := latin_patOK _
  app := fun _ _ => List.forall_mem_append
  patD := latin_patOK _
  barrier := fun Y hY => latin_barrier _ pb hpb Y hY
  loc := latinPat_loc

/-! ## all passes before `match_quotes` -/

-- the passes are kept opaque from here on: see the section in `CondensePats.lean`
attribute [local irreducible] condenseSpaces condenseNewlines newlinesToBreaks dottedInitialisms matchQuotes

theorem passes123_shift (k : Nat) (B : List Tok) : passes123 (shiftToks k B) = shiftToks k (passes123 B) := by
  unfold passes123
  rw [condenseSpaces_shift, condenseNewlines_shift, newlinesToBreaks_shift]

/-- passes 1–3 turn the newline token `brk` into a paragraph break `pb`; the results on `P` alone and on `P ++ D` -/
theorem passes123_append (X B : List Tok) (brk : Tok) (k n : Nat) (hbrk : brk.kind = .newline k) (hk : k ≥ 2)
    (hB : ∀ c r, B = c :: r → c.kind.isNewline = false) :
    ∃ Y3 pb, pb.kind = .paragraphBreak ∧ passes123 (X ++ [brk]) = Y3 ++ [pb] ∧
      passes123 ((X ++ [brk]) ++ shiftToks n B) = (Y3 ++ [pb]) ++ shiftToks n (passes123 B) := by
  have hbs : brk.kind.isSpace = false := by rw [hbrk]; rfl
  have e1 := condenseSpaces_barrier_end X brk hbs
  have e2 : condenseSpaces ((X ++ [brk]) ++ shiftToks n B) =
      (condenseSpaces X ++ [brk]) ++ shiftToks n (condenseSpaces B) := by
    rw [List.append_assoc, List.singleton_append, condenseSpaces_barrier X _ brk hbs, condenseSpaces_shift]
    simp
  obtain ⟨Y2, b2, k2, e3, hb2, hk2⟩ := condenseNewlines_last (condenseSpaces X) brk k hbrk hk
  have hhead : ∀ c r, shiftToks n (condenseSpaces B) = c :: r → c.kind.isNewline = false :=
    shiftToks_head_kind n _ Kind.isNewline (condenseSpaces_head B hB)
  refine ⟨newlinesToBreaks Y2, ⟨b2.span, .paragraphBreak⟩, rfl, ?_, ?_⟩
  · unfold passes123
    rw [e1, e3, newlinesToBreaks_append, newlinesToBreaks_break hb2 hk2]
  · unfold passes123
    rw [e2, condenseNewlines_split _ _ hhead, e3, newlinesToBreaks_append, newlinesToBreaks_append,
      condenseNewlines_shift, newlinesToBreaks_shift, newlinesToBreaks_break hb2 hk2]

theorem pbreak_facts {pb : Tok} (h : pb.kind = .paragraphBreak) :
    pb.kind.isWord = false ∧ pb.kind.isPeriod = false ∧ pb.kind.isNumber = false := by
  rw [h]; exact ⟨rfl, rfl, rfl⟩

theorem inB_of_tiles {src : List Char} {toks : List Tok} {p q : Nat} (h : Tiles toks p q) (hq : q ≤ src.length) :
    InB src toks := h.inB hq

/-- passes 4–8 at a paragraph break `pb`: the three results, on `P` alone, on `D` alone and on `P ++ D` -/
theorem passes48_append (P D : List Char) (X3 Y3 : List Tok) (pb : Tok) (hpb : pb.kind = .paragraphBreak)
    (m : Nat) (hTX : Tiles X3 0 m) (hTpb : Tiles [pb] m P.length) (hTY : Tiles Y3 0 D.length) :
    ∃ x8 y8,
      passes48 P (X3 ++ [pb]) = .ok (x8 ++ [pb]) ∧ passes48 D Y3 = .ok y8 ∧
      passes48 (P ++ D) (X3 ++ pb :: shiftToks P.length Y3) = .ok (x8 ++ pb :: shiftToks P.length y8) ∧
      Tiles x8 0 m ∧ Tiles y8 0 D.length := by
  obtain ⟨hpw, hpp, hpn⟩ := pbreak_facts hpb
  have hpbspan : pb.span.start = m ∧ m < pb.span.stop ∧ pb.span.stop = P.length := by
    obtain ⟨h1, h2, h3⟩ := hTpb; simp only [Tiles] at h3; exact ⟨h1, h2, h3⟩
  have hm : m ≤ P.length := hpbspan.2.2 ▸ Nat.le_of_lt hpbspan.2.1
  have hPD : (P ++ D).length = P.length + D.length := List.length_append
  have hmPD : m ≤ (P ++ D).length := hPD ▸ Nat.le_trans hm (Nat.le_add_right _ _)
  have hpbIn : InB (P ++ D) [pb] := by
    intro t ht
    rw [List.mem_singleton] at ht
    subst ht
    exact ⟨hpbspan.1 ▸ hpbspan.2.1, hpbspan.2.2 ▸ hPD ▸ Nat.le_add_right _ _⟩
  -- every intermediate vector of the first part lies inside `P`
  have hin : ∀ {x : List Tok}, Tiles x 0 m → ∀ t ∈ x ++ [pb], t.span.start ≤ t.span.stop ∧ t.span.stop ≤ P.length :=
    fun hx t ht => ((hx.append hTpb).gap.mem t ht).2
  -- stage 4: contractions
  obtain ⟨x4, ex4, wx4⟩ := condenseContractions_rewrites (P ++ D) X3
  obtain ⟨y4, ey4, wy4⟩ := condenseContractions_rewrites D Y3
  have tx4 := wx4.keeps Tiles.patW 0 m hTX
  have ty4 := wy4.keeps Tiles.patW 0 D.length hTY
  obtain ⟨s4, s4P⟩ := pat_stage (contraction_stage P D pb hpb) id X3 Y3 trivial trivial trivial trivial (hin hTX)
    x4 y4 ex4 ey4
  -- stage 5: initialisms
  have s5 : dottedInitialisms (x4 ++ pb :: shiftToks P.length y4) =
      dottedInitialisms x4 ++ pb :: shiftToks P.length (dottedInitialisms y4) := by
    rw [dottedInitialisms_barrier _ _ pb hpw hpp, dottedInitialisms_shift]
  have s5P := dottedInitialisms_barrier_end x4 pb hpw hpp
  have tx5 := ((dottedInitialisms_rewrites x4).mono fun _ _ => InitW.merge2).keeps Tiles.merge2 _ _ tx4
  have ty5 := ((dottedInitialisms_rewrites y4).mono fun _ _ => InitW.merge2).keeps Tiles.merge2 _ _ ty4
  -- stage 6: number suffixes
  obtain ⟨x6, ex6⟩ := numberSuffixes_ok P _ (tx5.gap.inBounds hm)
  obtain ⟨y6, ey6⟩ := numberSuffixes_ok D _ (ty5.gap.inBounds (Nat.le_refl _))
  have tx6 := ((numberSuffixes_rewrites ex6).mono fun _ _ => SufW.merge2).keeps Tiles.merge2 _ _ tx5
  have ty6 := ((numberSuffixes_rewrites ey6).mono fun _ _ => SufW.merge2).keeps Tiles.merge2 _ _ ty5
  rw [numberSuffixes_eq_NS] at ex6 ey6
  have ex6' : NS (P ++ D) (dottedInitialisms x4) = .ok x6 := by
    rw [NS_left P D _ (tx5.inB hm), ex6]
  have ey6' : NS (P ++ D) (shiftToks P.length (dottedInitialisms y4)) = .ok (shiftToks P.length y6) := by
    rw [NS_shift P D, ey6]; rfl
  have s6 := NS_barrier (P ++ D) pb hpw hpn _ _ ey6' _ _ ex6'
  have s6P := NS_barrier P pb hpw hpn [] [] (NS_nil P) _ _ ex6
  -- stage 7: ellipsis
  obtain ⟨x7, ex7, wx7⟩ := condenseEllipsis_rewrites (P ++ D) x6
  obtain ⟨y7, ey7, wy7⟩ := condenseEllipsis_rewrites D y6
  have tx7 := wx7.keeps Tiles.patW 0 m tx6
  have ty7 := wy7.keeps Tiles.patW 0 D.length ty6
  obtain ⟨s7, s7P⟩ := pat_stage (ellipsis_stage P D pb hpb) (fun _ => .punct .Ellipsis) x6 y6 trivial trivial
    trivial trivial (hin tx6) x7 y7 ex7 ey7
  -- stage 8: latin
  obtain ⟨x8, ex8, wx8⟩ := condenseLatin_rewrites (P ++ D) x7 (tx7.gap.inBounds hmPD)
  obtain ⟨y8, ey8, wy8⟩ := condenseLatin_rewrites D y7 (ty7.gap.inBounds (Nat.le_refl _))
  have tx8 := wx8.keeps Tiles.patW 0 m tx7
  have ty8 := wy8.keeps Tiles.patW 0 D.length ty7
  have hYsh : InB (P ++ D) (shiftToks P.length y7) := by
    have := ty7.shift P.length
    rw [Nat.zero_add] at this
    exact this.inB (by omega)
  obtain ⟨s8, s8P⟩ := pat_stage (latin_stage P D pb hpb) id x7 y7 (tx7.inB hmPD) hpbIn hYsh
    (ty7.inB (Nat.le_refl _)) (hin tx7) x8 y8 ex8 ey8
  refine ⟨x8, y8, ?_, ?_, ?_, tx8, ty8⟩
  · exact passes48_ok_of s4P (by rw [s5P, numberSuffixes_eq_NS]; exact s6P) s7P s8P
  · exact passes48_ok_of ey4 (by rw [numberSuffixes_eq_NS]; exact ey6) ey7 ey8
  · exact passes48_ok_of s4 (by rw [s5, numberSuffixes_eq_NS]; exact s6) s7 s8

/-! ## the passes create no quote tokens and touch no quote token -/

/-- kinds the passes put on the tokens they rewrite -/
def Created (k : Kind) : Prop :=
  (∃ n, k = .space n) ∨ (∃ n, k = .newline n) ∨ k = .paragraphBreak ∨ (∃ r s, k = .number r (some s)) ∨
    k = .punct .Ellipsis

/-- a written token has the kind of a token of its block, or a created kind -/
theorem Writes.kind {wd : Tok → Prop} {src : List Char} {blk : List Tok} {t : Tok} (hW : Writes wd src blk t) :
    (∃ u ∈ blk, t.kind = u.kind) ∨ Created t.kind := by
  cases hW with
  | spaces hW => cases hW; exact .inr (.inl ⟨_, rfl⟩)
  | newlines hW => cases hW; exact .inr (.inr (.inl ⟨_, rfl⟩))
  | breaks hW => obtain ⟨a, k, n, _, _, rfl⟩ := hW; exact .inr (.inr (.inr (.inl rfl)))
  | word hW => obtain ⟨first, tl, sp, _, _, _⟩ := hW; exact .inl ⟨first, List.mem_cons_self, rfl⟩
  | init hW => obtain ⟨a, b, _⟩ := hW; exact .inl ⟨a, List.mem_cons_self, rfl⟩
  | suffix hW =>
    obtain ⟨a, b, s, _⟩ := hW
    rcases setSuffix_kind s a.kind with e | ⟨r, e⟩
    · exact .inl ⟨a, List.mem_cons_self, e⟩
    · exact .inr (.inr (.inr (.inr (.inl ⟨r, s, e⟩))))
  | ellipsis hW => cases hW; exact .inr (.inr (.inr (.inr (.inr rfl))))

theorem created_not_quote {k : Kind} (h : Created k) : k.isQuote = false := by
  rcases h with ⟨n, rfl⟩ | ⟨n, rfl⟩ | rfl | ⟨r, s, rfl⟩ | rfl <;> rfl

theorem parsePlain_fresh (cls : Cls) (ext : Ext) (src : List Char) (toks : List Tok)
    (h : parsePlain cls ext src = .ok toks) : Fresh toks := by
  intro t ht x hx
  have hs := parsePlain_spec h ht
  rw [hx] at hs
  cases hs.1

theorem prePasses_noQuotes {src : List Char} {t0 t8 : List Tok} (h : prePasses src t0 = .ok t8) (h0 : NoQuotes t0) :
    NoQuotes t8 :=
  prePasses_forall (Ψ := fun t => t.kind.isQuote = false) (fun _ _ hW hb => by
    rcases hW.kind with ⟨u, hu, e⟩ | hc
    · rw [e]; exact hb u hu
    · exact created_not_quote hc) h h0

theorem prePasses_fresh {src : List Char} {t0 t8 : List Tok} (h : prePasses src t0 = .ok t8) (h0 : Fresh t0) :
    Fresh t8 :=
  prePasses_forall (Ψ := fun t => ∀ x, t.kind ≠ .quote (some x)) (fun _ t hW hb x hx => by
    rcases hW.kind with ⟨u, hu, e⟩ | hc
    · exact hb u hu x (e ▸ hx)
    · have := created_not_quote hc
      rw [hx] at this
      cases this) h h0

/-! ## `Document::new` at a paragraph break -/

theorem document_eq (cls : Cls) (ext : Ext) (src : List Char) (t0 : List Tok) (h : parsePlain cls ext src = .ok t0) :
    document cls ext src = (prePasses src t0).map matchQuotes := by
  unfold document
  rw [h]
  exact condenseAll_eq src t0

theorem parsePlain_head (cls : Cls) (ext : Ext) (D : List Char) (hD : D.head? ≠ some '\n') (td0 : List Tok)
    (h : parsePlain cls ext D = .ok td0) : ∀ c r, td0 = c :: r → c.kind.isNewline = false := by
  intro c r hc
  subst hc
  unfold parsePlain at h
  cases D with
  | nil => simp [parseLoop] at h
  | cons d ds =>
    rw [List.length_cons, parseLoop] at h
    cases hl : lexToken cls ext 0 (d :: ds) with
    | none => rw [hl] at h; cases h
    | some kn =>
      obtain ⟨k, n⟩ := kn
      rw [hl] at h
      simp only at h
      split at h
      · rename_i ts _
        simp only [Except.ok.injEq, List.cons.injEq] at h
        rw [← h.1]
        cases k with
        | newline m =>
          obtain ⟨_, hpos, hall⟩ := lexToken_spec (List.cons_ne_nil _ _) hl
          obtain ⟨j, rfl⟩ : ∃ j, n = j + 1 := ⟨n - 1, by omega⟩
          exact absurd (congrArg some (hall d (by simp))) hD
        | _ => rfl
      · cases h

theorem document_append_tokens' (cls : Cls) (hc : ClsOK cls) (P D : List Char) (hb : BoundaryOK P D)
    (extP extD extPD : Ext) (hloc : ExtLocal extP extD extPD P.length)
    (hokP : ExtOK extP P.length) (hokD : ExtOK extD D.length)
    (X : List Tok) (brk : Tok) (k : Nat) (td0 : List Tok)
    (hP0 : parsePlain cls extP P = .ok (X ++ [brk])) (hD0 : parsePlain cls extD D = .ok td0)
    (hbrk : brk.kind = .newline k) (hk : k ≥ 2)
    (hnq : NoQuotes (X ++ [brk])) :
    ∃ A0 pb td, pb.kind = .paragraphBreak ∧ document cls extP P = .ok (A0 ++ [pb]) ∧
      document cls extD D = .ok td ∧
      document cls extPD (P ++ D) = .ok ((A0 ++ [pb]) ++ shiftDoc P.length (A0 ++ [pb]).length td) ∧
      (∀ t ∈ A0 ++ [pb], t.span.stop ≤ P.length) := by
  obtain ⟨tp0', td0', e1, e2, e3⟩ := lex_append' cls hc P D hb extP extD extPD hloc hokP hokD
  rw [hP0] at e1; cases e1
  rw [hD0] at e2; cases e2
  obtain ⟨_, eP, hTP, _⟩ := parseLoop_tiles cls extP P.length hokP (P.length + 1) 0 P (Nat.lt_succ_self _) (Nat.zero_add _)
  obtain ⟨_, eD, hTD, _⟩ := parseLoop_tiles cls extD D.length hokD (D.length + 1) 0 D (Nat.lt_succ_self _) (Nat.zero_add _)
  have eP' : parsePlain cls extP P = _ := eP
  have eD' : parsePlain cls extD D = _ := eD
  rw [hP0] at eP'; cases eP'
  rw [hD0] at eD'; cases eD'
  obtain ⟨Y3, pb, hpb, e123P, e123PD⟩ := passes123_append X td0 brk k P.length hbrk hk
    (parsePlain_head cls extD D hb.2 td0 hD0)
  have hT3 := (passes123_rewrites (wd := IsWordTok) (src := P) _).keeps Tiles.writes _ _ hTP
  rw [e123P] at hT3
  obtain ⟨m, hTY3, hTpb⟩ := hT3.of_append
  have hT3D := (passes123_rewrites (wd := IsWordTok) (src := D) _).keeps Tiles.writes _ _ hTD
  obtain ⟨x8, y8, s8P, s8D, s8PD, tx8, ty8⟩ := passes48_append P D Y3 (passes123 td0) pb hpb m hTY3 hTpb hT3D
  have pP : prePasses P (X ++ [brk]) = .ok (x8 ++ [pb]) := by rw [prePasses, e123P]; exact s8P
  have pD : prePasses D td0 = .ok y8 := by rw [prePasses]; exact s8D
  have pPD : prePasses (P ++ D) ((X ++ [brk]) ++ shiftToks P.length td0) =
      .ok ((x8 ++ [pb]) ++ shiftToks P.length y8) := by
    rw [prePasses, e123PD, List.append_assoc, List.singleton_append, s8PD]; simp
  have nq : NoQuotes (x8 ++ [pb]) := prePasses_noQuotes pP hnq
  have fr : Fresh y8 := prePasses_fresh pD (parsePlain_fresh cls extD D td0 hD0)
  have hmq := matchQuotes_noQuotes (x8 ++ [pb]) nq
  refine ⟨x8, pb, matchQuotes y8, hpb, ?_, ?_, ?_, ?_⟩
  · rw [document_eq cls extP P _ hP0, pP]; simp only [Except.map, hmq]
  · rw [document_eq cls extD D _ hD0, pD]; rfl
  · rw [document_eq cls extPD (P ++ D) _ e3, pPD]
    simp only [Except.map]
    rw [matchQuotes_append P.length _ _ nq fr]
  · exact (tx8.append hTpb).stop_le

/-! ## a rule / a rule group run on a document -/

/-- the lints of one rule on a document -/
def lintDoc (cls : Cls) (ext : Ext) (pieces : List Tok → List (List Tok)) (r : Rule) (src : List Char) :
    Except Panic (List PLint) :=
  (document cls ext src).map (lintBy pieces r src)

/-- the lints of a group of rules on a document -/
def lintGroupDoc (cls : Cls) (ext : Ext) (pieces : List Tok → List (List Tok)) (rs : List Rule) (src : List Char) :
    Except Panic (List PLint) :=
  (document cls ext src).map (lintGroup pieces rs src)

theorem lintDoc_ok {cls : Cls} {ext : Ext} {src : List Char} {toks : List Tok} (h : document cls ext src = .ok toks)
    (pieces : List Tok → List (List Tok)) (r : Rule) : lintDoc cls ext pieces r src = .ok (lintBy pieces r src toks) := by
  rw [lintDoc, h]; rfl

theorem lintGroupDoc_ok {cls : Cls} {ext : Ext} {src : List Char} {toks : List Tok}
    (h : document cls ext src = .ok toks) (pieces : List Tok → List (List Tok)) (rs : List Rule) :
    lintGroupDoc cls ext pieces rs src = .ok (lintGroup pieces rs src toks) := by
  rw [lintGroupDoc, h]; rfl

end Harper
