import Harper.Model.Typst
import Harper.Lemmas.Markdown
import Harper.Lemmas.Condense
/-!
Helper lemmas for `Props/C02e.lean`: the Typst translator over typst-syntax's tree as data.

* A. cursor: `Cursor.pushTo` from a cursor that denotes a position (`Md.CurOK`) to a later character
  boundary succeeds and denotes that position; `defToken` gives the token `[ci s, ci e)`.
* B. `convFlags` (`convert_parbreaks`) position by position.
* C. `parseExpr_out` (mutual structural induction over `TNode` / `TNodes` / `TItem` / `TItems`):
  under `treeOK` the translator does not panic, every token of a node lies inside the characters of
  the node's range (of the nearest ranged ancestor's range for a detached node), and for every
  threading of `inOrder` the tokens lie between the threaded bounds, pairwise ordered and disjoint
  (`OutR`). `OutR.push` / `OutR.wrap` are the step every arm with children starts with.
* D. `parseExpr_zw`: if the translator returns, then under `solidN` (`RangesSolid`) every zero-width
  token is a structural break — by inverting the `do` blocks, no cursor invariant, no `TreeOK`.
* E. `htmlParse_pos`: every token of the HTML parser covers a character when the inner parser's
  tokens do (`maskLoop_pos`, `Lemmas/Mask.lean`).
-/
namespace Harper.Typst
open Harper Harper.Md

/-! ## A. cursor and `def_token!` -/

theorem rangeOK_some {bs : List Nat} {lo hi s e : Nat} (h : rangeOK bs lo hi (some (s, e)) = true) :
    lo ≤ s ∧ s ≤ e ∧ e ≤ hi ∧ e ≤ bs.length ∧ isBoundary bs s = true ∧ isBoundary bs e = true := by
  simp only [rangeOK, Bool.and_eq_true, decide_eq_true_eq] at h
  obtain ⟨⟨⟨⟨⟨h1, h2⟩, h3⟩, h4⟩, h5⟩, h6⟩ := h
  exact ⟨h1, h2, h3, h4, h5, h6⟩

theorem pushTo_ok {bs : List Nat} {c : Cursor} {b : Nat} (hc : CurOK bs c) (h1 : c.byte ≤ b)
    (h2 : b ≤ bs.length) (h3 : isBoundary bs b = true) :
    ∃ c', c.pushTo bs b = .ok c' ∧ CurOK bs c' ∧ c'.byte = b := by
  unfold Cursor.pushTo
  rw [if_neg (by omega)]
  by_cases he : b = c.byte
  · rw [if_pos he]; exact ⟨c, rfl, hc, he.symm⟩
  · rw [if_neg he]
    have hs : sliceCount bs c.byte b = .ok (charCount ((bs.drop c.byte).take (b - c.byte))) := by
      unfold sliceCount
      rw [if_pos ⟨h1, h2, hc.bd, h3⟩]
    rw [hs]
    refine ⟨⟨c.char + charCount ((bs.drop c.byte).take (b - c.byte)), b⟩, rfl, ⟨h2, h3, ?_⟩, rfl⟩
    show c.char + _ = ci bs b
    rw [hc.ch, ci_add bs h1]

theorem pushTo_byte {bs : List Nat} {c c' : Cursor} {b : Nat} (h : c.pushTo bs b = .ok c') :
    c'.byte = b := by
  unfold Cursor.pushTo at h
  split at h
  · cases h
  · split at h
    · rename_i he; cases h; exact he.symm
    · split at h
      · cases h; rfl
      · cases h

theorem pushTo_char {bs : List Nat} {c c' : Cursor} {b : Nat} (h : c.pushTo bs b = .ok c')
    (hlt : c.byte < b) : c'.char = c.char + charCount ((bs.drop c.byte).take (b - c.byte)) := by
  unfold Cursor.pushTo at h
  rw [if_neg (by omega), if_neg (by omega)] at h
  split at h
  · rename_i n hn
    cases h
    unfold sliceCount at hn
    split at hn
    · cases hn; rfl
    · cases hn
  · cases h

theorem pushToSpan_ok {bs : List Nat} {c : Cursor} {lo hi : Nat} {r : BRange} (hc : CurOK bs c)
    (hlo : c.byte ≤ lo) (hr : rangeOK bs lo hi r = true) :
    ∃ c1, pushToSpan bs c r = .ok c1 ∧ CurOK bs c1 ∧ c1.byte ≤ (sub lo hi r).1 ∧
      (∀ s e, r = some (s, e) → c1.byte = s) := by
  cases r with
  | none => exact ⟨c, rfl, hc, hlo, by intro s e h; cases h⟩
  | some p =>
    obtain ⟨s, e⟩ := p
    obtain ⟨h1, h2, _, h4, h5, _⟩ := rangeOK_some hr
    obtain ⟨c1, hp, hc1, hb⟩ := pushTo_ok (b := s) hc (by omega) (by omega) h5
    refine ⟨c1, hp, hc1, ?_, ?_⟩
    · simp only [sub]; omega
    · intro s' e' h; cases h; exact hb

/-- pushing again to the same span is the identity -/
theorem pushToSpan_again {bs : List Nat} {c c1 : Cursor} {r : BRange}
    (h : pushToSpan bs c r = .ok c1) (hb : ∀ s e, r = some (s, e) → c1.byte = s) :
    pushToSpan bs c1 r = .ok c1 := by
  cases r with
  | none => rfl
  | some p =>
    obtain ⟨s, e⟩ := p
    have := hb s e rfl
    simp only [pushToSpan, Cursor.pushTo]
    rw [if_neg (by omega), if_pos this.symm]

/-- every token lies in the characters of the byte range `[a, b]` -/
def Within (bs : List Nat) (a b : Nat) (toks : List Tok) : Prop :=
  ∀ t ∈ toks, ci bs a ≤ t.span.start ∧ t.span.start ≤ t.span.stop ∧ t.span.stop ≤ ci bs b

theorem Within.nil {bs : List Nat} {a b : Nat} : Within bs a b [] := by intro t h; cases h

theorem Within.append {bs : List Nat} {a b : Nat} {l1 l2 : List Tok} (h1 : Within bs a b l1)
    (h2 : Within bs a b l2) : Within bs a b (l1 ++ l2) := by
  intro t ht
  rcases List.mem_append.mp ht with h | h
  · exact h1 t h
  · exact h2 t h

theorem Within.mono {bs : List Nat} {a b a' b' : Nat} {l : List Tok} (h : Within bs a b l)
    (ha : a' ≤ a) (hb : b ≤ b') : Within bs a' b' l := by
  intro t ht
  have := h t ht
  have h1 := ci_mono bs ha
  have h2 := ci_mono bs hb
  omega

/-- from the node's own range to the enclosing one -/
theorem Within.sub {bs : List Nat} {lo hi : Nat} {r : BRange} {l : List Tok}
    (hr : rangeOK bs lo hi r = true) (h : Within bs (sub lo hi r).1 (sub lo hi r).2 l) :
    Within bs lo hi l := by
  cases r with
  | none => exact h
  | some p =>
    obtain ⟨s, e⟩ := p
    obtain ⟨h1, _, h3, _⟩ := rangeOK_some hr
    exact h.mono h1 h3

/-- pairwise ordered and disjoint -/
def Sorted (l : List Tok) : Prop := l.Pairwise (fun x y => x.span.stop ≤ y.span.start)

theorem sorted_le_one {l : List Tok} (h : l.length ≤ 1) : Sorted l := by
  cases l with
  | nil => exact List.Pairwise.nil
  | cons a t =>
    cases t with
    | nil => exact List.pairwise_singleton _ _
    | cons b u => exact absurd h (by simp)

/-- what a leaf arm produces: tokens inside the node's range, ordered; nothing for a detached node -/
structure LeafOut (bs : List Nat) (lo hi : Nat) (r : BRange) (l : List Tok) : Prop where
  within : Within bs (sub lo hi r).1 (sub lo hi r).2 l
  sorted : Sorted l
  detached : r = none → l = []

theorem defToken_ok {bs : List Nat} {c : Cursor} {lo hi : Nat} {r : BRange} (k : Kind)
    (hc : CurOK bs c) (hlo : c.byte ≤ lo) (hr : rangeOK bs lo hi r = true) :
    ∃ o, defToken bs r k c = .ok o ∧ LeafOut bs lo hi r (o.getD []) := by
  cases r with
  | none => exact ⟨none, rfl, Within.nil, List.Pairwise.nil, fun _ => rfl⟩
  | some p =>
    obtain ⟨s, e⟩ := p
    obtain ⟨h1, h2, _, h4, h5, h6⟩ := rangeOK_some hr
    obtain ⟨c1, hp1, hc1, hb1⟩ := pushTo_ok (b := s) hc (by omega) (by omega) h5
    obtain ⟨c2, hp2, hc2, hb2⟩ := pushTo_ok (b := e) hc1 (by omega) h4 h6
    refine ⟨some [⟨⟨c1.char, c2.char⟩, k⟩], bind_eq hp1 (bind_eq hp2 rfl), ?_,
      List.pairwise_singleton _ _, nofun⟩
    intro t ht
    rw [List.mem_singleton.mp ht]
    have := ci_mono bs h2
    simp only [sub, hc1.ch, hb1, hc2.ch, hb2]
    omega

theorem parseLeaf_ok {bs : List Nat} {c : Cursor} {lo hi : Nat} {r : BRange} (k : LeafKind)
    (hc : CurOK bs c) (hlo : c.byte ≤ lo) (hr : rangeOK bs lo hi r = true) :
    ∃ o, parseLeaf bs k r c = .ok o ∧ LeafOut bs lo hi r (o.getD []) := by
  obtain ⟨c1, hp, hc1, hb, _⟩ := pushToSpan_ok hc hlo hr
  have hr' : rangeOK bs (sub lo hi r).1 hi r = true := by
    cases r with
    | none => rfl
    | some p =>
      obtain ⟨s, e⟩ := p
      obtain ⟨h1, h2, h3, h4, h5, h6⟩ := rangeOK_some hr
      simp [rangeOK, sub, h2, h3, h4, h5, h6]
  obtain ⟨o, ho, hl⟩ := defToken_ok (leafKind k) hc1 hb hr'
  refine ⟨o, by simp only [parseLeaf, hp, ho, bind, Except.bind], ?_⟩
  cases r with
  | none => exact ⟨hl.within, hl.sorted, hl.detached⟩
  | some p => exact ⟨hl.within, hl.sorted, hl.detached⟩

theorem and2 {a b : Bool} (h : (a && b) = true) : a = true ∧ b = true :=
  Bool.and_eq_true_iff.mp h

theorem and3 {a b c : Bool} (h : (a && b && c) = true) : (a = true ∧ b = true) ∧ c = true :=
  ⟨and2 (and2 h).1, (and2 h).2⟩

theorem and4 {a b c d : Bool} (h : (a && b && c && d) = true) :
    ((a = true ∧ b = true) ∧ c = true) ∧ d = true :=
  ⟨and3 (and2 h).1, (and2 h).2⟩

theorem treeOK_range {bs : List Nat} {lo hi : Nat} {n : TNode} (h : treeOK bs lo hi n = true) :
    rangeOK bs lo hi n.range = true := by
  -- `rangeOK` of the node is the leftmost conjunct in every arm
  cases n <;> first | exact h | exact (and2 h).1 | exact (and3 h).1.1 | exact (and4 h).1.1.1

theorem itemOK_range {bs : List Nat} {lo hi : Nat} {i : TItem} (h : itemOK bs lo hi i = true) :
    rangeOK bs lo hi i.range = true := by
  cases i with
  | pos n => exact treeOK_range (n := n) h
  | named r a t b => exact (and3 h).1.1
  | dnamed r a b => exact (and3 h).1.1
  | keyed r a b => exact (and3 h).1.1
  | spread r es => exact (and2 h).1

theorem strInner_len {txt content : List Char} (h : strInner txt = .ok content) :
    content.length + 2 = txt.length := by
  cases txt with
  | nil => simp [strInner] at h
  | cons c rest =>
    simp only [strInner] at h
    cases hl : rest.getLast? with
    | none => rw [hl] at h; cases h
    | some l =>
      rw [hl] at h
      simp only [] at h
      by_cases hc : c.toNat < 128 ∧ l.toNat < 128
      · rw [if_pos hc] at h
        cases h
        have hne : rest ≠ [] := by
          intro he; subst he; simp at hl
        have : rest.length ≠ 0 := by
          intro h0; exact hne (List.eq_nil_of_length_eq_zero h0)
        simp only [List.length_dropLast, List.length_cons]
        omega
      · rw [if_neg hc] at h
        cases h

theorem textFits_some {bs : List Nat} {s e n : Nat} (hse : s ≤ e)
    (h : textFits bs (some (s, e)) n = true) : ci bs s + n ≤ ci bs e := by
  simp only [textFits, decide_eq_true_eq] at h
  rw [ci_add bs hse]; omega

/-- the tokens of the inner parser on a text of `n` characters, shifted by `p` -/
theorem inner_shift {inner : List Char → Except Panic (List Tok)} (hin : Md.InnerOK inner)
    (txt : List Char) (p : Nat) :
    ∃ toks, inner txt = .ok toks ∧
      (∀ t ∈ toks.map (·.shift p), p ≤ t.span.start ∧ t.span.start ≤ t.span.stop ∧
        t.span.stop ≤ p + txt.length) ∧
      (toks.map (·.shift p)).Pairwise (fun x y => x.span.stop ≤ y.span.start) := by
  obtain ⟨toks, h, ht⟩ := hin txt
  obtain ⟨hf, hp⟩ := tiles_facts toks 0 txt.length ht
  refine ⟨toks, h, ?_, ?_⟩
  · intro t hm
    obtain ⟨u, hu, rfl⟩ := List.mem_map.mp hm
    have := hf u hu
    simp only [Tok.shift, Span.pushBy]
    omega
  · rw [List.pairwise_map]
    exact hp.imp (by intro a b hab; simp only [Tok.shift, Span.pushBy]; omega)

/-! ## B. `convert_parbreaks`, position by position -/

/-- only `Space` expressions are converted -/
def flagsOK : List Bool → List Shape → Bool
  | _, [] => true
  | fl, sh :: rest => (!(fl.headD false) || sh == .space) && flagsOK (fl.drop 1) rest

theorem flagsOK_conv : ∀ (l : List Shape) (p : Option Shape), flagsOK (convFlags p l) l = true
  | [], p => by cases p <;> simp [flagsOK]
  | [a], p => by cases p <;> simp [convFlags, flagsOK]
  | a :: b :: rest, none => by
    have ih := flagsOK_conv (b :: rest) (some a)
    show flagsOK (false :: convFlags (some a) (b :: rest)) (a :: b :: rest) = true
    rw [flagsOK]
    simp only [List.headD_cons, List.drop_succ_cons, List.drop_zero, ih, Bool.not_false, Bool.true_or,
      Bool.and_self]
  | a :: b :: rest, some q => by
    have ih := flagsOK_conv (b :: rest) (some a)
    show flagsOK (shouldParbreak q a b :: convFlags (some a) (b :: rest)) (a :: b :: rest) = true
    rw [flagsOK]
    simp only [List.headD_cons, List.drop_succ_cons, List.drop_zero, ih, Bool.and_true]
    by_cases h : shouldParbreak q a b = true
    · have h' := h
      simp only [shouldParbreak, Bool.and_eq_true] at h'
      rw [h, h'.1]; rfl
    · have : shouldParbreak q a b = false := by simpa using h
      rw [this]; rfl

theorem convFlags_length : ∀ (l : List Shape) (p : Option Shape), (convFlags p l).length = l.length
  | [], p => by cases p <;> simp [convFlags]
  | [a], p => by cases p <;> simp [convFlags]
  | a :: b :: rest, none => by
    have := convFlags_length (b :: rest) (some a)
    simp only [convFlags, List.length_cons] at this ⊢
    omega
  | a :: b :: rest, some q => by
    have := convFlags_length (b :: rest) (some a)
    simp only [convFlags, List.length_cons] at this ⊢
    omega

/-- the flag at position `i` of the window loop started with `last_element = p` -/
theorem convFlags_get : ∀ (l : List Shape) (p : Option Shape) (i : Nat) (hi : i < l.length),
    (convFlags p l)[i]? = some
      (match (if i = 0 then p else l[i - 1]?), l[i + 1]? with
       | some a, some b => shouldParbreak a l[i] b
       | _, _ => false)
  | [], p, i, hi => by simp at hi
  | [a], p, i, hi => by
    have : i = 0 := by simpa using hi
    subst this
    cases p <;> rfl
  | a :: b :: rest, p, 0, _ => by
    cases p <;> rfl
  | a :: b :: rest, p, i + 1, hi => by
    have ih := convFlags_get (b :: rest) (some a) i (by simpa using hi)
    have hc : (convFlags p (a :: b :: rest))[i + 1]? = (convFlags (some a) (b :: rest))[i]? := by
      cases p <;> rfl
    rw [hc, ih]
    cases i <;> rfl

/-- `convert_parbreaks`: exactly the `Space` expressions that are neither first nor last and have a
`Heading` / `List` item directly before or after them are converted -/
theorem convFlags_true_iff (l : List Shape) (i : Nat) (hi : i < l.length) :
    (convertParbreaks l)[i]? = some true ↔
      0 < i ∧ ∃ a b, l[i - 1]? = some a ∧ l[i + 1]? = some b ∧ l[i] = .space ∧
        (a = .headingOrList ∨ b = .headingOrList) := by
  unfold convertParbreaks
  rw [convFlags_get l none i hi]
  cases i with
  | zero => simp
  | succ j =>
    simp only [Nat.add_one_ne_zero, if_false, Nat.add_sub_cancel, Nat.zero_lt_succ, true_and]
    cases h1 : l[j]? <;> cases h2 : l[j + 1 + 1]? <;> simp [shouldParbreak]

theorem shape_space {n : TNode} (h : n.shape = .space) : ∃ r, n = .space r := by
  cases n with
  | space r => exact ⟨r, rfl⟩
  | body k r es => cases k <;> simp [TNode.shape] at h
  | _ => simp [TNode.shape] at h

/-! ## C. what a subtree yields -/

/-- the tokens lie between the characters of bytes `a ≤ b`, pairwise ordered and disjoint -/
structure Chain (bs : List Nat) (a b : Nat) (l : List Tok) : Prop where
  le : a ≤ b
  sorted : Sorted l
  lb : ∀ t ∈ l, ci bs a ≤ t.span.start
  ub : ∀ t ∈ l, t.span.stop ≤ ci bs b
  wf : ∀ t ∈ l, t.span.start ≤ t.span.stop

theorem chain_iff {bs : List Nat} {a b : Nat} {l : List Tok} :
    Chain bs a b l ↔ a ≤ b ∧ SpanChain (ci bs a) (ci bs b) (l.map (·.span)) := by
  rw [spanChain_map_span]
  exact ⟨fun h => ⟨h.le, fun t ht => ⟨h.lb t ht, h.wf t ht, h.ub t ht⟩, h.sorted⟩,
    fun ⟨h1, h2, h3⟩ => ⟨h1, h3, fun t ht => (h2 t ht).1, fun t ht => (h2 t ht).2.2,
      fun t ht => (h2 t ht).2.1⟩⟩

theorem Chain.nil {bs : List Nat} {a b : Nat} (h : a ≤ b) : Chain bs a b [] :=
  chain_iff.mpr ⟨h, SpanChain.nil⟩

theorem Chain.append {bs : List Nat} {a m b : Nat} {l1 l2 : List Tok} (h1 : Chain bs a m l1)
    (h2 : Chain bs m b l2) : Chain bs a b (l1 ++ l2) := by
  obtain ⟨le1, c1⟩ := chain_iff.mp h1
  obtain ⟨le2, c2⟩ := chain_iff.mp h2
  refine chain_iff.mpr ⟨Nat.le_trans le1 le2, ?_⟩
  rw [List.map_append]
  exact c1.append c2 (ci_mono bs le1) (ci_mono bs le2)

theorem chain_leaf {bs : List Nat} {lo hi cur cur' : Nat} {r : BRange} {l : List Tok}
    (hr : rangeOK bs lo hi r = true) (ho : leafOrder cur r = some cur') (hl : LeafOut bs lo hi r l) :
    Chain bs cur cur' l := by
  cases r with
  | none =>
    simp only [leafOrder, Option.some.injEq] at ho
    subst ho
    rw [hl.detached rfl]
    exact Chain.nil (Nat.le_refl _)
  | some p =>
    obtain ⟨s, e⟩ := p
    obtain ⟨_, h2, _⟩ := rangeOK_some hr
    simp only [leafOrder] at ho
    split at ho
    · rename_i hcs
      cases ho
      have hw := hl.within
      simp only [sub] at hw
      refine ⟨by omega, hl.sorted, ?_, ?_, ?_⟩
      · intro t ht; have := hw t ht; have := ci_mono bs hcs; omega
      · intro t ht; exact (hw t ht).2.2
      · intro t ht; exact (hw t ht).2.1
    · cases ho

theorem chain_wrap {bs : List Nat} {lo hi cur c0 c1 : Nat} {r : BRange} {l : List Tok}
    (hr : rangeOK bs lo hi r = true) (h0 : enter cur r = some c0)
    (hw : Within bs (sub lo hi r).1 (sub lo hi r).2 l) (hc : Chain bs c0 c1 l) :
    Chain bs cur (leave c1 r) l := by
  cases r with
  | none =>
    simp only [enter, Option.some.injEq] at h0
    subst h0
    exact hc
  | some p =>
    obtain ⟨s, e⟩ := p
    obtain ⟨_, h2, _⟩ := rangeOK_some hr
    simp only [enter] at h0
    split at h0
    · rename_i hcs
      cases h0
      simp only [sub] at hw
      simp only [leave]
      refine ⟨by omega, hc.sorted, ?_, ?_, hc.wf⟩
      · intro t ht; have := hw t ht; have := ci_mono bs hcs; omega
      · intro t ht; exact (hw t ht).2.2
    · cases h0


theorem sub_lo_le {bs : List Nat} {lo hi b : Nat} {r : BRange} (hr : rangeOK bs lo hi r = true)
    (h : b ≤ lo) : b ≤ (sub lo hi r).1 := by
  cases r with
  | none => exact h
  | some p => obtain ⟨s, e⟩ := p; exact Nat.le_trans h (rangeOK_some hr).1

theorem enter_leave_le {bs : List Nat} {lo hi cur c0 c1 : Nat} {r : BRange}
    (hr : rangeOK bs lo hi r = true) (h0 : enter cur r = some c0) (h : c0 ≤ c1) :
    cur ≤ leave c1 r := by
  cases r with
  | none =>
    simp only [enter, Option.some.injEq] at h0
    subst h0
    exact h
  | some p =>
    obtain ⟨s, e⟩ := p
    have hse := (rangeOK_some hr).2.1
    simp only [enter] at h0
    by_cases hcs : cur ≤ s
    · simp only [leave]; omega
    · rw [if_neg hcs] at h0; cases h0



/-- what a subtree yields: no panic, every token inside the characters of bytes `[a, b]`, and for
every threading `ord cur = some cur'` of the visiting order the tokens lie between `cur` and `cur'`,
ordered and disjoint -/
def OutR (bs : List Nat) (a b : Nat) (ord : Nat → Option Nat) (r : Res) : Prop :=
  ∃ o, r = .ok o ∧ Within bs a b (o.getD []) ∧
    ∀ cur cur', ord cur = some cur' → Chain bs cur cur' (o.getD [])

def OkL (P : List Tok → Prop) (r : Except Panic (List Tok)) : Prop := ∃ l, r = .ok l ∧ P l

def OutL (bs : List Nat) (a b : Nat) (ord : Nat → Option Nat) (r : Except Panic (List Tok)) : Prop :=
  ∃ l, r = .ok l ∧ Within bs a b l ∧ ∀ cur cur', ord cur = some cur' → Chain bs cur cur' l

theorem OutL.nil {bs : List Nat} {a b : Nat} : OutL bs a b (fun c => some c) (pure []) :=
  ⟨[], rfl, Within.nil, fun _ _ h => by cases h; exact Chain.nil (Nat.le_refl _)⟩

theorem OutL.cons {bs : List Nat} {a b : Nat} {K1 K2 : Nat → Option Nat} {x : Res}
    {y : Except Panic (List Tok)} (hx : OutR bs a b K1 x) (hy : OutL bs a b K2 y) :
    OutL bs a b (fun c => do let c1 ← K1 c; K2 c1)
      (do let o ← x; let l ← y; pure (o.getD [] ++ l)) := by
  obtain ⟨o, ho, hwo, hco⟩ := hx
  obtain ⟨l, hl, hwl, hcl⟩ := hy
  refine ⟨o.getD [] ++ l, bind_eq ho (bind_eq hl rfl), hwo.append hwl, ?_⟩
  intro cur cur' h
  obtain ⟨c1, h1, h2⟩ := Option.bind_eq_some_iff.mp h
  exact (hco _ _ h1).append (hcl _ _ h2)

theorem deadTokens_out {bs : List Nat} (spec : Bool × List (List Char)) {lo hi : Nat} :
    (is : TItems) → ∀ (c : Cursor), CurOK bs c → c.byte ≤ lo → itemsOK bs lo hi is = true →
      OutL bs lo hi (deadOrder spec is) (deadTokens bs spec is c)
  | .nil, c, _, _, _ => .nil
  | .cons i is, c, hc, hlo, h => by
    have h := and2 h
    obtain ⟨l, hl, hw, hch⟩ := deadTokens_out spec is c hc hlo h.2
    by_cases hd : isDead spec i = true
    · obtain ⟨o, ho, hlo'⟩ := defToken_ok .unlintable hc hlo (itemOK_range h.1)
      refine ⟨o.getD [] ++ l, ?_, (Within.sub (itemOK_range h.1) hlo'.within).append hw,
        fun cur cur' hord => ?_⟩
      · show (do let a ← if isDead spec i then defToken bs i.range .unlintable c else pure none
                 let b ← deadTokens bs spec is c
                 pure (a.getD [] ++ b)) = Except.ok (o.getD [] ++ l)
        rw [if_pos hd, ho, hl]; rfl
      have hord : (if isDead spec i = true then (leafOrder cur i.range).bind (deadOrder spec is)
          else deadOrder spec is cur) = some cur' := hord
      rw [if_pos hd] at hord
      obtain ⟨c1, h1, h2⟩ := Option.bind_eq_some_iff.mp hord
      exact (chain_leaf (itemOK_range h.1) h1 hlo').append (hch _ _ h2)
    · refine ⟨l, ?_, hw, fun cur cur' hord => ?_⟩
      · show (do let a ← if isDead spec i then defToken bs i.range .unlintable c else pure none
                 let b ← deadTokens bs spec is c
                 pure (a.getD [] ++ b)) = Except.ok l
        rw [if_neg hd, hl]; rfl
      have hord : (if isDead spec i = true then (leafOrder cur i.range).bind (deadOrder spec is)
          else deadOrder spec is cur) = some cur' := hord
      rw [if_neg hd] at hord
      exact hch _ _ hord

/-- `chain_wrap`, or no token at all when the arm left with `None` (`ret = false`): the visiting order
still only moves forward (`enter_leave_le`) -/
theorem chain_wrap_or_nil {bs : List Nat} {lo hi cur c0 c1 : Nat} {r : BRange} {l : List Tok}
    (ret : Bool) (hr : rangeOK bs lo hi r = true) (hw : Within bs (sub lo hi r).1 (sub lo hi r).2 l)
    (h0 : enter cur r = some c0) (hch : Chain bs c0 c1 l) :
    Chain bs cur (leave c1 r) (if ret = true then l else []) := by
  cases ret with
  | true => exact chain_wrap hr h0 hw hch
  | false => exact Chain.nil (enter_leave_le hr h0 hch.le)

/-- the rest of an arm's visiting order after some of its children: it threads `l`, then leaves the node -/
def Rest (bs : List Nat) (r : BRange) (K : Nat → Option Nat) (l : List Tok) : Prop :=
  ∀ c0 cur', K c0 = some cur' → ∃ c1, leave c1 r = cur' ∧ Chain bs c0 c1 l

theorem Rest.last {bs : List Nat} {r : BRange} {K : Nat → Option Nat} {l : List Tok}
    (h : ∀ c c', K c = some c' → Chain bs c c' l) :
    Rest bs r (fun c => do let c1 ← K c; pure (leave c1 r)) l := by
  intro c0 cur' ho
  obtain ⟨c1, e1, e2⟩ := Option.bind_eq_some_iff.mp ho
  exact ⟨c1, Option.some.inj e2, h _ _ e1⟩

theorem Rest.bind {bs : List Nat} {r : BRange} {K1 K2 : Nat → Option Nat} {l1 l2 : List Tok}
    (h1 : ∀ c c', K1 c = some c' → Chain bs c c' l1) (h2 : Rest bs r K2 l2) :
    Rest bs r (fun c => do let c1 ← K1 c; K2 c1) (l1 ++ l2) := by
  intro c0 cur' ho
  obtain ⟨c1, e1, e2⟩ := Option.bind_eq_some_iff.mp ho
  obtain ⟨c2, hl, hc⟩ := h2 c1 cur' e2
  exact ⟨c2, hl, (h1 _ _ e1).append hc⟩

/-- the tokens of a node with several groups of children, in the visiting order; `ret` says whether the arm
returned its tokens or left with `None` (a detached `token!`) -/
theorem Rest.wrap {bs : List Nat} {lo hi : Nat} {r : BRange} {K : Nat → Option Nat} {l : List Tok}
    (ret : Bool) (hr : rangeOK bs lo hi r = true) (hw : Within bs (sub lo hi r).1 (sub lo hi r).2 l)
    (h : Rest bs r K l) (cur cur' : Nat) (ho : (do let c0 ← enter cur r; K c0) = some cur') :
    Chain bs cur cur' (if ret = true then l else []) := by
  obtain ⟨c0, h0, e⟩ := Option.bind_eq_some_iff.mp ho
  obtain ⟨c1, rfl, hc⟩ := h c0 cur' e
  exact chain_wrap_or_nil ret hr hw h0 hc

theorem OutL.toR {bs : List Nat} {a b : Nat} {K : Nat → Option Nat} {x : Except Panic (List Tok)}
    (h : OutL bs a b K x) : OutR bs a b K (do let ts ← x; pure (some ts)) := by
  obtain ⟨l, hl, hw, hch⟩ := h
  exact ⟨some l, bind_eq hl rfl, hw, hch⟩

theorem OutR.widen {bs : List Nat} {lo hi : Nat} {r : BRange} {K : Nat → Option Nat} {x : Res}
    (hr : rangeOK bs lo hi r = true) (h : OutR bs (sub lo hi r).1 (sub lo hi r).2 K x) :
    OutR bs lo hi K x := by
  obtain ⟨o, ho, hw, hch⟩ := h
  exact ⟨o, ho, Within.sub hr hw, hch⟩

/-- `offset.push_to_span(expr.span())`, the first step of every arm of `parse_expr` with children -/
theorem OutR.push {bs : List Nat} {c : Cursor} {lo hi a b : Nat} {r : BRange} {X : Cursor → Res}
    {K : Nat → Option Nat} (hc : CurOK bs c) (hlo : c.byte ≤ lo) (hr : rangeOK bs lo hi r = true)
    (hX : ∀ c1, CurOK bs c1 → c1.byte ≤ (sub lo hi r).1 → OutR bs a b K (X c1)) :
    OutR bs a b K (do let c1 ← pushToSpan bs c r; X c1) := by
  obtain ⟨c1, hp, hc1, hb1, _⟩ := pushToSpan_ok hc hlo hr
  obtain ⟨o, ho, h⟩ := hX c1 hc1 hb1
  exact ⟨o, bind_eq hp ho, h⟩

theorem OutR.wrap {bs : List Nat} {lo hi : Nat} {r : BRange} {K : Nat → Option Nat} {x : Res}
    (hr : rangeOK bs lo hi r = true) (h : OutR bs (sub lo hi r).1 (sub lo hi r).2 K x) :
    OutR bs (sub lo hi r).1 (sub lo hi r).2
      (fun cur => do let c0 ← enter cur r; let c1 ← K c0; pure (leave c1 r)) x := by
  obtain ⟨o, ho, hw, hch⟩ := h
  refine ⟨o, ho, hw, ?_⟩
  intro cur cur' hord
  simp only [bind, Option.bind_eq_some_iff, pure, Option.some.injEq] at hord
  obtain ⟨c0, h0, c1', h1, rfl⟩ := hord
  exact chain_wrap hr h0 hw (hch _ _ h1)

section
variable (E : Env) (hin : Md.InnerOK E.inner) (hN : charCount E.bs = E.src.length)
include hin hN

omit hin hN in
theorem getText_ok {s e : Nat} (h1 : s ≤ e) (h2 : e ≤ E.bs.length) (h3 : isBoundary E.bs s = true)
    (h4 : isBoundary E.bs e = true) :
    getText E.bs E.src (some (s, e)) =
      (E.src.drop (ci E.bs s)).take (charCount ((E.bs.drop s).take (e - s))) := by
  have a : sliceCount E.bs 0 s = .ok (ci E.bs s) := by
    unfold sliceCount
    rw [if_pos ⟨Nat.zero_le _, by omega, by simp [isBoundary], h3⟩]
    simp [ci]
  have b : sliceCount E.bs s e = .ok (charCount ((E.bs.drop s).take (e - s))) := by
    unfold sliceCount
    rw [if_pos ⟨h1, h2, h3, h4⟩]
  simp only [getText, a, b]

/-! the arms of `parse_expr` / `parse_pattern` that do not recurse -/

omit hN in
/-- `Text` and `Str`: the cursor is pushed to the node (twice), the inner parser's tokens on `content`
are shifted by `offset.char + d` (`d = 1` skips the opening quote of a `Str`); `m` is the length of
the node's text, which fits into its range -/
theorem english_out {r : BRange} {c : Cursor} {lo hi : Nat} (content : List Char) (d m : Nat)
    (hc : CurOK E.bs c) (hlo : c.byte ≤ lo) (hr : rangeOK E.bs lo hi r = true)
    (hfit : textFits E.bs r m = true) (hm : d + content.length + d ≤ m) :
    ∃ c2 toks, (do let c1 ← pushToSpan E.bs c r; pushToSpan E.bs c1 r) = .ok c2 ∧
      E.inner content = .ok toks ∧ LeafOut E.bs lo hi r (toks.map (·.shift (c2.char + d))) := by
  obtain ⟨c1, hp, hc1, _, hb⟩ := pushToSpan_ok hc hlo hr
  obtain ⟨toks, hi', hb', hso⟩ := inner_shift hin content (c1.char + d)
  -- no range, no text: nothing to place
  have hnil : r = none → toks = [] := by
    rintro rfl
    have h0 : m = 0 := by simpa [textFits] using hfit
    have hz : content = [] := List.eq_nil_of_length_eq_zero (by omega)
    subst hz
    obtain ⟨toks', hi'', ht⟩ := hin []
    rw [hi'] at hi''; cases hi''
    exact Tiles.eq_nil ht
  refine ⟨c1, toks, bind_eq hp (pushToSpan_again hp hb), hi', ?_, hso, fun h => by rw [hnil h]; rfl⟩
  cases r with
  | none => rw [hnil rfl]; exact Within.nil
  | some p =>
    obtain ⟨s, e⟩ := p
    have hfit := textFits_some (rangeOK_some hr).2.1 hfit
    have hch : c1.char = ci E.bs s := by rw [hc1.ch, hb s e rfl]
    intro t ht
    have := hb' t ht
    simp only [sub]
    omega

omit hN in
theorem text_out (r : BRange) (txt : List Char) (c : Cursor) (lo hi : Nat) (hc : CurOK E.bs c)
    (hlo : c.byte ≤ lo) (h : treeOK E.bs lo hi (.text r txt) = true) :
    ∃ o, parseExpr E (.text r txt) c = .ok o ∧ LeafOut E.bs lo hi r (o.getD []) := by
  have h := and2 h
  obtain ⟨c2, toks, hp, hi', hl⟩ := english_out E hin txt 0 txt.length hc hlo h.1 h.2 (by omega)
  obtain ⟨c1, hp1, hp2⟩ := bind_ok hp
  exact ⟨_, bind_eq hp1 (bind_eq hp2 (bind_eq hi' rfl)), hl⟩

omit hin in
theorem space_out (r : BRange) (c : Cursor) (lo hi : Nat) (hc : CurOK E.bs c) (hlo : c.byte ≤ lo)
    (h : treeOK E.bs lo hi (.space r) = true) :
    ∃ o, parseExpr E (.space r) c = .ok o ∧ LeafOut E.bs lo hi r (o.getD []) := by
  have h := and2 h
  obtain ⟨c1, hp, hc1, hb1, _⟩ := pushToSpan_ok hc hlo h.1
  cases r with
  | none => exact absurd h.2 Bool.false_ne_true
  | some p =>
    obtain ⟨s, e⟩ := p
    obtain ⟨h1, h2, h3, h4, h5, h6⟩ := rangeOK_some h.1
    have hpos : 1 ≤ charCount ((E.bs.drop s).take (e - s)) := of_decide_eq_true h.2
    have hr' : rangeOK E.bs s hi (some (s, e)) = true := by
      simp [rangeOK, h2, h3, h4, h5, h6]
    have hsum : ci E.bs s + charCount ((E.bs.drop s).take (e - s)) ≤ E.src.length := by
      rw [← ci_add E.bs h2, ← hN]; exact ci_le E.bs e
    -- `get_text!` is not empty, so `chars.next().unwrap()` is fine
    obtain ⟨ch, rest, hx⟩ : ∃ ch rest, getText E.bs E.src (some (s, e)) = ch :: rest := by
      rw [getText_ok E h2 h4 h5 h6]
      cases hx : (E.src.drop (ci E.bs s)).take (charCount ((E.bs.drop s).take (e - s))) with
      | cons ch rest => exact ⟨ch, rest, rfl⟩
      | nil =>
        have := congrArg List.length hx
        simp only [List.length_take, List.length_drop, List.length_nil] at this
        omega
    have key : ∀ k, ∃ o, defToken E.bs (some (s, e)) k c1 = .ok o ∧
        LeafOut E.bs lo hi (some (s, e)) (o.getD []) := by
      intro k
      obtain ⟨o, ho, hl⟩ := defToken_ok k hc1 hb1 hr'
      exact ⟨o, ho, hl.within, hl.sorted, fun h' => by cases h'⟩
    by_cases hnl : ch = '\n'
    · obtain ⟨o, ho, hl⟩ := key (.newline 1)
      refine ⟨o, bind_eq hp ?_, hl⟩
      rw [hx]
      exact (if_pos hnl).trans ho
    · obtain ⟨o, ho, hl⟩ := key (.space (rest.length + 1))
      refine ⟨o, bind_eq hp ?_, hl⟩
      rw [hx]
      exact (if_neg hnl).trans ho

omit hin hN in
theorem leafk_out (k : LeafKind) (r : BRange) (c : Cursor) (lo hi : Nat) (hc : CurOK E.bs c)
    (hlo : c.byte ≤ lo) (h : treeOK E.bs lo hi (.leaf k r) = true) :
    ∃ o, parseExpr E (.leaf k r) c = .ok o ∧ LeafOut E.bs lo hi r (o.getD []) :=
  parseLeaf_ok k hc hlo h

omit hN in
theorem str_out (r : BRange) (txt : List Char) (c : Cursor) (lo hi : Nat) (hc : CurOK E.bs c)
    (hlo : c.byte ≤ lo) (h : treeOK E.bs lo hi (.str r txt) = true) :
    ∃ o, parseExpr E (.str r txt) c = .ok o ∧ LeafOut E.bs lo hi r (o.getD []) := by
  have h := and3 h
  obtain ⟨content, hs⟩ : ∃ content, strInner txt = .ok content := by
    have := h.1.2
    unfold strOK at this
    cases hx : strInner txt with
    | ok v => exact ⟨v, rfl⟩
    | error e => rw [hx] at this; cases this
  have hlen := strInner_len hs
  obtain ⟨c2, toks, hp, hi', hl⟩ := english_out E hin content 1 txt.length hc hlo h.1.1 h.2 (by omega)
  obtain ⟨c1, hp1, hp2⟩ := bind_ok hp
  exact ⟨_, bind_eq hp1 (bind_eq hp2 (bind_eq hs (bind_eq hi' rfl))), hl⟩

omit hin hN in
theorem placeholder_out (r : BRange) (c : Cursor) (lo hi : Nat) (hc : CurOK E.bs c) (hlo : c.byte ≤ lo)
    (h : treeOK E.bs lo hi (.patPlaceholder r) = true) :
    ∃ o, parseExpr E (.patPlaceholder r) c = .ok o ∧ LeafOut E.bs lo hi r (o.getD []) :=
  let ⟨o, ho, hl⟩ := defToken_ok .unlintable hc hlo h
  ⟨o, ho, hl⟩

omit hin hN in
theorem LeafOut.outR {lo hi : Nat} {r : BRange} {x : Res} {o : Option (List Tok)}
    (hl : LeafOut E.bs lo hi r (o.getD [])) (hr : rangeOK E.bs lo hi r = true) (ho : x = .ok o) :
    OutR E.bs (sub lo hi r).1 (sub lo hi r).2 (fun cur => leafOrder cur r) x :=
  ⟨o, ho, hl.within, fun _ _ hord => chain_leaf hr hord hl⟩

omit hin hN in
/-- the visiting order of a call, spelt out (`rfl`: the `match` is not at the end of the block) -/
theorem inOrder_funcCall (r callee : BRange) (args : TItems) (cur : Nat) :
    inOrder E (.funcCall r callee args) cur = (do
      let c0 ← enter cur r
      let c1 ← leafOrder c0 callee
      match ignoreSpec (getText E.bs E.src callee) with
      | some spec => do
        let c2 ← deadOrder spec args c1
        let c3 ← inOrderIs E (fun i => !isDead spec i) args c2
        pure (leave c3 r)
      | none => do
        let c3 ← inOrderIs E (fun _ => true) args c1
        pure (leave c3 r)) := rfl

-- the section hypotheses reach the list lemmas through the mutual recursion only
set_option linter.unusedSectionVars false in
mutual
theorem parseExpr_out : (n : TNode) → ∀ (c : Cursor) (lo hi : Nat), CurOK E.bs c → c.byte ≤ lo →
    treeOK E.bs lo hi n = true →
    OutR E.bs (sub lo hi n.range).1 (sub lo hi n.range).2 (inOrder E n) (parseExpr E n c)
  | .text r txt, c, lo, hi, hc, hlo, h =>
    let ⟨_, ho, hl⟩ := text_out E hin r txt c lo hi hc hlo h
    hl.outR E (treeOK_range h) ho
  | .space r, c, lo, hi, hc, hlo, h =>
    let ⟨_, ho, hl⟩ := space_out E hN r c lo hi hc hlo h
    hl.outR E (treeOK_range h) ho
  | .leaf k r, c, lo, hi, hc, hlo, h =>
    let ⟨_, ho, hl⟩ := leafk_out E k r c lo hi hc hlo h
    hl.outR E (treeOK_range h) ho
  | .str r txt, c, lo, hi, hc, hlo, h =>
    let ⟨_, ho, hl⟩ := str_out E hin r txt c lo hi hc hlo h
    hl.outR E (treeOK_range h) ho
  | .patPlaceholder r, c, lo, hi, hc, hlo, h =>
    let ⟨_, ho, hl⟩ := placeholder_out E r c lo hi hc hlo h
    hl.outR E (treeOK_range h) ho
  | .letClosure r, c, lo, hi, hc, hlo, h =>
    ⟨none, rfl, Within.nil, fun _ _ h => by cases h; exact Chain.nil (Nat.le_refl _)⟩
  | .body k r es, c, lo, hi, hc, hlo, h => by
    have h := and2 h
    exact .push hc hlo h.1 fun c1 hc1 hb1 => .wrap h.1
      (parseSeq_out es _ c1 _ _ hc1 hb1 h.2 (flagsOK_conv es.shapes none)).toR
  | .rec1 k r e, c, lo, hi, hc, hlo, h => by
    have h := and2 h
    exact .push hc hlo h.1 fun c1 hc1 hb1 => .wrap h.1
      (.widen (treeOK_range h.2) (parseExpr_out e c1 _ _ hc1 hb1 h.2))
  | .recN k r es, c, lo, hi, hc, hlo, h => by
    have h := and2 h
    exact .push hc hlo h.1 fun c1 hc1 hb1 => .wrap h.1 (parseAll_out es c1 _ _ hc1 hb1 h.2).toR
  | .array r items, c, lo, hi, hc, hlo, h => by
    have h := and2 h
    exact .push hc hlo h.1 fun c1 hc1 hb1 => .wrap h.1
      (parseItems_out (fun _ => true) items c1 _ _ hc1 hb1 h.2).toR
  | .dict r items, c, lo, hi, hc, hlo, h => by
    have h := and2 h
    exact .push hc hlo h.1 fun c1 hc1 hb1 => .wrap h.1
      (parseItems_out (fun _ => true) items c1 _ _ hc1 hb1 h.2).toR
  | .fieldAccess r target field, c, lo, hi, hc, hlo, h => by
    have h := and3 h
    refine .push hc hlo h.1.1 fun c1 hc1 hb1 => ?_
    obtain ⟨a, ha, hwa, hcha⟩ := parseExpr_out target c1 _ _ hc1 hb1 h.1.2
    obtain ⟨f, hf, hlf⟩ := defToken_ok .word hc1 hb1 h.2
    have hw := (Within.sub (treeOK_range h.1.2) hwa).append (Within.sub h.2 hlf.within)
    have hch := Rest.wrap f.isSome h.1.1 hw (.bind hcha (.last fun _ _ h2 => chain_leaf h.2 h2 hlf))
    -- `token!(field, …)?`: a detached field leaves `parse_expr` with `None`
    cases f with
    | none => exact ⟨none, bind_eq ha (bind_eq hf rfl), Within.nil, hch⟩
    | some ft => exact ⟨some (a.getD [] ++ ft), bind_eq ha (bind_eq hf rfl), hw, hch⟩
  | .letBinding r kind init, c, lo, hi, hc, hlo, h => by
    have h := and3 h
    refine .push hc hlo h.1.1 fun c1 hc1 hb1 => ?_
    obtain ⟨a, ha, hwa, hcha⟩ := parseExpr_out kind c1 _ _ hc1 hb1 h.1.2
    obtain ⟨b, hb, hwb, hchb⟩ := parseAll_out init c1 _ _ hc1 hb1 h.2
    have hw := (Within.sub (treeOK_range h.1.2) hwa).append hwb
    exact ⟨some (a.getD [] ++ b), bind_eq ha (bind_eq hb rfl), hw,
      Rest.wrap true h.1.1 hw (.bind hcha (.last hchb))⟩
  | .setRule r target cond args, c, lo, hi, hc, hlo, h => by
    have h := and4 h
    refine .push hc hlo h.1.1.1 fun c1 hc1 hb1 => ?_
    obtain ⟨a, ha, hwa, hcha⟩ := parseExpr_out target c1 _ _ hc1 hb1 h.1.1.2
    obtain ⟨b, hb, hwb, hchb⟩ := parseAll_out cond c1 _ _ hc1 hb1 h.1.2
    obtain ⟨d, hd, hwd, hchd⟩ := parseItems_out (fun _ => true) args c1 _ _ hc1 hb1 h.2
    have hw := ((Within.sub (treeOK_range h.1.1.2) hwa).append hwb).append hwd
    rw [List.append_assoc] at hw
    exact ⟨some (a.getD [] ++ b ++ d), bind_eq ha (bind_eq hb (bind_eq hd rfl)), List.append_assoc .. ▸ hw,
      List.append_assoc .. ▸ Rest.wrap true h.1.1.1 hw (.bind hcha (.bind hchb (.last hchd)))⟩
  | .closure r name params body, c, lo, hi, hc, hlo, h => by
    have h := and4 h
    refine .push hc hlo h.1.1.1 fun c1 hc1 hb1 => ?_
    obtain ⟨a, ha, hwa, hcha⟩ := parseAll_out name c1 _ _ hc1 hb1 h.1.1.2
    obtain ⟨p, hpp, hwp, hchp⟩ := parseItems_out (fun _ => true) params c1 _ _ hc1 hb1 h.1.2
    obtain ⟨b, hb, hwb, hchb⟩ := parseExpr_out body c1 _ _ hc1 hb1 h.2
    have hw := (hwa.append hwp).append (Within.sub (treeOK_range h.2) hwb)
    rw [List.append_assoc] at hw
    exact ⟨some (a ++ p ++ b.getD []), bind_eq ha (bind_eq hpp (bind_eq hb rfl)), List.append_assoc .. ▸ hw,
      List.append_assoc .. ▸ Rest.wrap true h.1.1.1 hw (.bind hcha (.bind hchp (.last hchb)))⟩
  | .funcCall r callee args, c, lo, hi, hc, hlo, h => by
    have h := and3 h
    refine .push hc hlo h.1.1 fun c1 hc1 hb1 => ?_
    obtain ⟨ct, hct, hlc⟩ := defToken_ok .unlintable hc1 hb1 h.1.2
    have hwc' := Within.sub h.1.2 hlc.within
    -- `token!(callee, …)?`: a detached callee leaves `parse_func_call`, arguments included
    cases hspec : ignoreSpec (getText E.bs E.src callee) with
    | none =>
      obtain ⟨a, ha, hwa, hcha⟩ := parseItems_out (fun _ => true) args c1 _ _ hc1 hb1 h.2
      have hw := hwc'.append hwa
      have hch : ∀ cur cur', inOrder E (.funcCall r callee args) cur = some cur' →
          Chain E.bs cur cur' (if ct.isSome = true then ct.getD [] ++ a else []) := by
        intro cur cur' ho
        rw [inOrder_funcCall, hspec] at ho
        exact Rest.wrap _ h.1.1 hw (.bind (fun _ _ e1 => chain_leaf h.1.2 e1 hlc) (.last hcha)) cur cur' ho
      cases ct with
      | none => exact ⟨none, bind_eq hct rfl, Within.nil, hch⟩
      | some ctl => exact ⟨some (ctl ++ a), bind_eq hct (bind_eq ha rfl), hw, hch⟩
    | some spec =>
      obtain ⟨al, hal, hwal, hchal⟩ :=
        parseItems_out (fun i => !isDead spec i) args c1 _ _ hc1 hb1 h.2
      obtain ⟨dl, hdl, hwdl, hchdl⟩ := deadTokens_out spec args c1 hc1 hb1 h.2
      have hw := (hwc'.append hwdl).append hwal
      have hch : ∀ cur cur', inOrder E (.funcCall r callee args) cur = some cur' →
          Chain E.bs cur cur' (if ct.isSome = true then ct.getD [] ++ dl ++ al else []) := by
        intro cur cur' ho
        rw [inOrder_funcCall, hspec] at ho
        rw [List.append_assoc] at hw ⊢
        exact Rest.wrap _ h.1.1 hw (.bind (fun _ _ e1 => chain_leaf h.1.2 e1 hlc) (.bind hchdl (.last hchal)))
          cur cur' ho
      cases ct with
      | none => exact ⟨none, bind_eq hct rfl, Within.nil, hch⟩
      | some ctl =>
        exact ⟨some (ctl ++ dl ++ al), bind_eq hct (bind_eq hal (bind_eq hdl rfl)), hw, hch⟩
  | .patParen r e p, c, lo, hi, hc, hlo, h => by
    have h := and3 h
    have hlo2 := sub_lo_le h.1.1 hlo
    obtain ⟨a, ha, hwa, hcha⟩ := parseExpr_out e c _ _ hc hlo2 h.1.2
    obtain ⟨b, hb, hwb, hchb⟩ := parseExpr_out p c _ _ hc hlo2 h.2
    have hw := (Within.sub (treeOK_range h.1.2) hwa).append (Within.sub (treeOK_range h.2) hwb)
    exact ⟨some (a.getD [] ++ b.getD []), bind_eq ha (bind_eq hb rfl), hw,
      Rest.wrap true h.1.1 hw (.bind hcha (.last hchb))⟩
  | .patDestruct r items, c, lo, hi, hc, hlo, h => by
    have h := and2 h
    exact .wrap h.1 (parseItems_out (fun _ => true) items c _ _ hc (sub_lo_le h.1 hlo) h.2).toR
theorem parseSeq_out : (es : TNodes) → ∀ (fl : List Bool) (c : Cursor) (lo hi : Nat), CurOK E.bs c →
    c.byte ≤ lo → treesOK E.bs lo hi es = true → flagsOK fl es.shapes = true →
    OutL E.bs lo hi (inOrderL E es) (parseSeq E fl es c)
  | .nil, fl, c, lo, hi, _, _, _, _ => .nil
  | .cons e es, fl, c, lo, hi, hc, hlo, h, hf => by
    have h := and2 h
    have hf := and2 hf
    have ih := parseSeq_out es (fl.drop 1) c lo hi hc hlo h.2 hf.2
    by_cases hfl : fl.headD false = true
    · -- a converted expression is a `Space`: a leaf in the visiting order as well
      obtain ⟨r, rfl⟩ := shape_space (n := e) (by have := hf.1; rw [hfl] at this; simpa using this)
      obtain ⟨a, ha, hla⟩ := parseLeaf_ok .parbreak hc hlo (treeOK_range h.1)
      rw [show parseSeq E fl (.cons (.space r) es) c = _ from if_pos hfl]
      exact .cons (.widen (treeOK_range h.1) (hla.outR E (treeOK_range h.1) ha)) ih
    · rw [show parseSeq E fl (.cons e es) c = _ from if_neg hfl]
      exact .cons (.widen (treeOK_range h.1) (parseExpr_out e c lo hi hc hlo h.1)) ih
theorem parseAll_out : (es : TNodes) → ∀ (c : Cursor) (lo hi : Nat), CurOK E.bs c →
    c.byte ≤ lo → treesOK E.bs lo hi es = true →
    OutL E.bs lo hi (inOrderL E es) (parseAll E es c)
  | .nil, _, _, _, _, _, _ => .nil
  | .cons e es, c, lo, hi, hc, hlo, h =>
    have h := and2 h
    .cons (.widen (treeOK_range h.1) (parseExpr_out e c lo hi hc hlo h.1))
      (parseAll_out es c lo hi hc hlo h.2)
theorem parseItem_out : (i : TItem) → ∀ (c : Cursor) (lo hi : Nat), CurOK E.bs c → c.byte ≤ lo →
    itemOK E.bs lo hi i = true → OutR E.bs lo hi (inOrderI E i) (parseItem E i c)
  | .pos n, c, lo, hi, hc, hlo, h =>
    .widen (treeOK_range (n := n) h) (parseExpr_out n c lo hi hc hlo h)
  | .named r name t value, c, lo, hi, hc, hlo, h => by
    have h := and3 h
    have hlo2 := sub_lo_le h.1.1 hlo
    obtain ⟨a, ha, hwa, hcha⟩ := parseExpr_out name c _ _ hc hlo2 h.1.2
    obtain ⟨b, hb, hwb, hchb⟩ := parseExpr_out value c _ _ hc hlo2 h.2
    have hw := (Within.sub (treeOK_range h.1.2) hwa).append (Within.sub (treeOK_range h.2) hwb)
    exact ⟨some (a.getD [] ++ b.getD []), bind_eq ha (bind_eq hb rfl), Within.sub h.1.1 hw,
      Rest.wrap true h.1.1 hw (.bind hcha (.last hchb))⟩
  | .dnamed r name pat, c, lo, hi, hc, hlo, h => by
    have h := and3 h
    have hlo2 := sub_lo_le h.1.1 hlo
    obtain ⟨a, ha, hla⟩ := defToken_ok .word hc hlo2 h.1.2
    obtain ⟨b, hb, hwb, hchb⟩ := parseExpr_out pat c _ _ hc hlo2 h.2
    have hw := (Within.sub h.1.2 hla.within).append (Within.sub (treeOK_range h.2) hwb)
    have hch := Rest.wrap a.isSome h.1.1 hw (.bind (fun _ _ h1 => chain_leaf h.1.2 h1 hla) (.last hchb))
    -- `token!(name, …)?`: a detached name leaves the closure before the pattern is looked at
    cases a with
    | none => exact ⟨none, bind_eq ha rfl, Within.nil, hch⟩
    | some al => exact ⟨some (al ++ b.getD []), bind_eq ha (bind_eq hb rfl), Within.sub h.1.1 hw, hch⟩
  | .keyed r key value, c, lo, hi, hc, hlo, h => by
    have h := and3 h
    have hlo2 := sub_lo_le h.1.1 hlo
    obtain ⟨a, ha, hwa, hcha⟩ := parseExpr_out key c _ _ hc hlo2 h.1.2
    obtain ⟨b, hb, hwb, hchb⟩ := parseExpr_out value c _ _ hc hlo2 h.2
    have hw := (Within.sub (treeOK_range h.1.2) hwa).append (Within.sub (treeOK_range h.2) hwb)
    exact ⟨some (a.getD [] ++ b.getD []), bind_eq ha (bind_eq hb rfl), Within.sub h.1.1 hw,
      Rest.wrap true h.1.1 hw (.bind hcha (.last hchb))⟩
  | .spread r es, c, lo, hi, hc, hlo, h => by
    have h := and2 h
    exact .widen h.1 (.wrap h.1 (parseAll_out es c _ _ hc (sub_lo_le h.1 hlo) h.2).toR)
theorem parseItems_out (keep : TItem → Bool) : (is : TItems) → ∀ (c : Cursor) (lo hi : Nat),
    CurOK E.bs c → c.byte ≤ lo → itemsOK E.bs lo hi is = true →
    OutL E.bs lo hi (inOrderIs E keep is) (parseItems E keep is c)
  | .nil, c, lo, hi, _, _, _ => .nil
  | .cons i is, c, lo, hi, hc, hlo, h => by
    have h := and2 h
    obtain ⟨l, hl, hw, hch⟩ := parseItems_out keep is c lo hi hc hlo h.2
    by_cases hk : keep i = true
    · obtain ⟨o, ho, hwo, hco⟩ := parseItem_out i c lo hi hc hlo h.1
      refine ⟨o.getD [] ++ l, (if_pos hk).trans (bind_eq ho (bind_eq hl rfl)), hwo.append hw,
        fun cur cur' hord => ?_⟩
      obtain ⟨c1, h1, h2⟩ := Option.bind_eq_some_iff.mp ((if_pos hk).symm.trans hord)
      exact (hco _ _ h1).append (hch _ _ h2)
    · exact ⟨l, (if_neg hk).trans (bind_eq rfl (bind_eq hl rfl)), hw, fun cur cur' hord =>
        hch _ _ ((if_neg hk).symm.trans hord)⟩
end

theorem parseItems_ok (keep : TItem → Bool) : (is : TItems) → ∀ (c : Cursor) (lo hi : Nat),
    CurOK E.bs c → c.byte ≤ lo → itemsOK E.bs lo hi is = true →
    OkL (Within E.bs lo hi) (parseItems E keep is c)
  | is, c, lo, hi, hc, hlo, h =>
    let ⟨l, hl, hw, _⟩ := parseItems_out E hin hN keep is c lo hi hc hlo h
    ⟨l, hl, hw⟩

theorem parseAll_chain : (es : TNodes) → ∀ (c : Cursor) (lo hi cur cur' : Nat), CurOK E.bs c →
    c.byte ≤ lo → treesOK E.bs lo hi es = true → inOrderL E es cur = some cur' →
    ∃ l, parseAll E es c = .ok l ∧ Chain E.bs cur cur' l
  | es, c, lo, hi, cur, cur', hc, hlo, h, ho =>
    let ⟨l, hl, _, hch⟩ := parseAll_out E hin hN es c lo hi hc hlo h
    ⟨l, hl, hch cur cur' ho⟩

theorem parseItem_chain : (i : TItem) → ∀ (c : Cursor) (lo hi cur cur' : Nat), CurOK E.bs c →
    c.byte ≤ lo → itemOK E.bs lo hi i = true → inOrderI E i cur = some cur' →
    ∃ o, parseItem E i c = .ok o ∧ Chain E.bs cur cur' (o.getD [])
  | i, c, lo, hi, cur, cur', hc, hlo, h, ho =>
    let ⟨o, hpo, _, hch⟩ := parseItem_out E hin hN i c lo hi hc hlo h
    ⟨o, hpo, hch cur cur' ho⟩

theorem parseItems_chain (keep : TItem → Bool) : (is : TItems) → ∀ (c : Cursor) (lo hi cur cur' : Nat),
    CurOK E.bs c → c.byte ≤ lo → itemsOK E.bs lo hi is = true →
    inOrderIs E keep is cur = some cur' →
    ∃ l, parseItems E keep is c = .ok l ∧ Chain E.bs cur cur' l
  | is, c, lo, hi, cur, cur', hc, hlo, h, ho =>
    let ⟨l, hl, _, hch⟩ := parseItems_out E hin hN keep is c lo hi hc hlo h
    ⟨l, hl, hch cur cur' ho⟩

theorem typstParse_out (top : TNodes) (h : TreeOK E.bs top) :
    ∃ toks, typstParse E top = .ok toks ∧
      (∀ t ∈ toks, t.span.start ≤ t.span.stop ∧ t.span.stop ≤ E.src.length) ∧
      (InOrder E top → Sorted toks) := by
  obtain ⟨l, hl, hw, hch⟩ := parseSeq_out E hin hN top (convertParbreaks top.shapes) ⟨0, 0⟩ 0
    E.bs.length (curOK_zero E.bs) (Nat.le_refl _) h (flagsOK_conv top.shapes none)
  refine ⟨l, hl, ?_, ?_⟩
  · intro t ht
    have := hw t ht
    have h2 : ci E.bs E.bs.length ≤ E.src.length := by rw [← hN]; exact ci_le E.bs _
    omega
  · intro ho
    simp only [InOrder, Option.isSome_iff_exists] at ho
    obtain ⟨cur', ho⟩ := ho
    exact (hch 0 cur' ho).sorted

end

/-! ## D. zero-width tokens are structural breaks under `RangesSolid`

Partial-correctness style: from `… = .ok o` by inverting the `do` blocks; no cursor invariant and no
`TreeOK` is needed — `def_token!` over a range with at least one character is at least one character
wide whatever the cursor was, as long as the two `push_to` did not panic. -/

/-- a zero-width token of the list is a `ParagraphBreak` or a `Newline` -/
def ZW (l : List Tok) : Prop := ∀ t ∈ l, t.span.start = t.span.stop → Structural t

theorem ZW.nil : ZW [] := by intro t h; cases h

theorem ZW.append {l1 l2 : List Tok} (h1 : ZW l1) (h2 : ZW l2) : ZW (l1 ++ l2) := by
  intro t ht
  rcases List.mem_append.mp ht with h | h
  · exact h1 t h
  · exact h2 t h

theorem ZW.of_pos {l : List Tok} (h : ∀ t ∈ l, t.span.start < t.span.stop) : ZW l := by
  intro t ht h0
  have := h t ht
  omega

theorem ZW.of_kind {l : List Tok} (h : ∀ t ∈ l, Structural t) : ZW l := fun t ht _ => h t ht

theorem solidR_lt {bs : List Nat} {s e : Nat} (h : solidR bs (some (s, e)) = true) :
    1 ≤ charCount ((bs.drop s).take (e - s)) ∧ s < e := by
  have hpos : 1 ≤ charCount ((bs.drop s).take (e - s)) := by simpa [solidR] using h
  refine ⟨hpos, ?_⟩
  apply Classical.byContradiction
  intro hn
  have h0 : e - s = 0 := by omega
  rw [h0] at hpos
  simp [charCount] at hpos

/-- `def_token!` over a range that covers a character: the token is at least one character wide,
from whatever cursor (if the two `push_to` do not panic) -/
theorem defToken_pos {bs : List Nat} {s e : Nat} {k : Kind} {c : Cursor} {o : Option (List Tok)}
    (h : defToken bs (some (s, e)) k c = .ok o) (hs : solidR bs (some (s, e)) = true) :
    ∀ t ∈ o.getD [], t.span.start < t.span.stop := by
  obtain ⟨hpos, hlt⟩ := solidR_lt hs
  simp only [defToken] at h
  obtain ⟨st, h1, h⟩ := bind_ok h
  obtain ⟨sp, h2, h⟩ := bind_ok h
  have := pure_ok h
  subst this
  have hb := pushTo_byte h1
  have hch := pushTo_char h2 (by omega)
  rw [hb] at hch
  intro t ht
  simp only [Option.getD_some, List.mem_singleton] at ht
  subst ht
  simp only
  omega

/-- … and with a structural kind, or over a detached / solid range: `ZW` -/
theorem defToken_zw {bs : List Nat} {r : BRange} {k : Kind} {c : Cursor} {o : Option (List Tok)}
    (h : defToken bs r k c = .ok o)
    (hk : (k = .paragraphBreak ∨ k.isNewline = true) ∨ solidR bs r = true) : ZW (o.getD []) := by
  cases r with
  | none =>
    simp only [defToken] at h
    cases h
    exact ZW.nil
  | some p =>
    obtain ⟨s, e⟩ := p
    rcases hk with hk | hk
    · apply ZW.of_kind
      simp only [defToken] at h
      obtain ⟨st, h1, h⟩ := bind_ok h
      obtain ⟨sp, h2, h⟩ := bind_ok h
      have := pure_ok h
      subst this
      intro t ht
      simp only [Option.getD_some, List.mem_singleton] at ht
      subst ht
      exact hk
    · exact ZW.of_pos (defToken_pos h hk)

theorem parseLeaf_zw {bs : List Nat} {k : LeafKind} {r : BRange} {c : Cursor} {o : Option (List Tok)}
    (h : parseLeaf bs k r c = .ok o) (hk : k.structural = true ∨ solidR bs r = true) :
    ZW (o.getD []) := by
  simp only [parseLeaf] at h
  obtain ⟨c1, _, h⟩ := bind_ok h
  refine defToken_zw h ?_
  rcases hk with hk | hk
  · left
    cases k <;> simp [LeafKind.structural] at hk <;> simp [leafKind, Kind.isNewline]
  · exact Or.inr hk

/-- the inner parser's tokens tile its text: every one of them covers a character, shifted or not -/
theorem inner_pos {inner : List Char → Except Panic (List Tok)} (hin : Md.InnerOK inner)
    {txt : List Char} {toks : List Tok} (h : inner txt = .ok toks) (p : Nat) :
    ∀ t ∈ toks.map (·.shift p), t.span.start < t.span.stop := by
  obtain ⟨toks', h', ht⟩ := hin txt
  rw [h] at h'; cases h'
  obtain ⟨hf, _⟩ := tiles_facts toks 0 txt.length ht
  intro t hm
  obtain ⟨u, hu, rfl⟩ := List.mem_map.mp hm
  have := hf u hu
  simp only [Tok.shift, Span.pushBy]
  omega

theorem solidArgs_items {bs : List Nat} : (is : TItems) → solidArgs bs is = true → solidIs bs is = true
  | .nil, _ => rfl
  | .cons _ is, h =>
    have h := and3 h
    Bool.and_eq_true_iff.mpr ⟨h.1.2, solidArgs_items is h.2⟩

abbrev ZWR (x : Res) : Prop := Ret (fun o => ZW (o.getD [])) x

abbrev ZWL (y : Except Panic (List Tok)) : Prop := Ret ZW y

theorem deadTokens_zw {bs : List Nat} (spec : Bool × List (List Char)) :
    (is : TItems) → ∀ (c : Cursor) (l : List Tok), deadTokens bs spec is c = .ok l →
      solidArgs bs is = true → ZW l
  | .nil, _, l, h, _ => Ret.pure ZW.nil l h
  | .cons _ is, c, l, h, hs =>
    have hs := and3 hs
    have tail : ∀ a : Option (List Tok), ZW (a.getD []) →
        ZWL (do let b ← deadTokens bs spec is c; pure (a.getD [] ++ b)) := fun _ ha =>
      .bind fun b hb => .pure (ha.append (deadTokens_zw spec is c b hb hs.2))
    Ret.ite (P := ZW) (fun _ => .bind fun a ha => tail a (defToken_zw ha (Or.inr hs.1.1)))
      (fun _ => .bind fun _ ha => pure_ok ha ▸ tail none ZW.nil) l h

section
variable (E : Env) (hin : Md.InnerOK E.inner)
include hin

omit hin in
theorem solidR_of_getText {s e : Nat} {ch : Char} {rest : List Char}
    (hg : getText E.bs E.src (some (s, e)) = ch :: rest) : solidR E.bs (some (s, e)) = true := by
  simp only [getText] at hg
  split at hg
  · rename_i n1 n2 _ hn2
    unfold sliceCount at hn2
    split at hn2
    · cases hn2
      have := congrArg List.length hg
      simp only [List.length_take, List.length_drop, List.length_cons] at this
      simp only [solidR, decide_eq_true_eq]
      omega
    · cases hn2
  · cases hg

omit hin in
theorem parseSpace_zw (r : BRange) (c : Cursor) : ZWR (parseSpace E r c) := by
  unfold parseSpace
  refine .bind fun c1 _ => ?_
  cases r with
  | none => intro o h; simp [getText] at h
  | some p =>
    obtain ⟨s, e⟩ := p
    intro o h
    split at h
    · cases h
    · rename_i ch rest hg
      have hs := solidR_of_getText E hg
      split at h
      · exact defToken_zw h (Or.inr hs)
      · exact defToken_zw h (Or.inr hs)

-- as for `parseExpr_out`: only the leaf cases of the recursion use `hin`
set_option linter.unusedSectionVars false in
mutual
theorem parseExpr_zw : (n : TNode) → ∀ (c : Cursor) (o : Option (List Tok)),
    parseExpr E n c = .ok o → solidN E.bs n = true → ZW (o.getD [])
  | .text r txt, c, o, h, _ =>
    Ret.bind (P := fun o => ZW (o.getD [])) (fun c1 _ => .bind fun c2 _ => .bind fun toks ht =>
      .pure (ZW.of_pos (inner_pos hin ht _))) o h
  | .space r, c, o, h, _ => parseSpace_zw E r c o h
  | .leaf k r, c, o, h, hs => parseLeaf_zw h (Bool.or_eq_true_iff.mp hs)
  | .body k r es, c, o, h, hs =>
    Ret.bind (P := fun o => ZW (o.getD [])) (fun c1 _ => .bind fun ts h2 =>
      .pure (parseSeq_zw es _ c1 ts h2 hs)) o h
  | .str r txt, c, o, h, _ =>
    Ret.bind (P := fun o => ZW (o.getD [])) (fun c1 _ => .bind fun c2 _ => .bind fun content _ =>
      .bind fun toks ht => .pure (ZW.of_pos (inner_pos hin ht _))) o h
  | .rec1 k r e, c, o, h, hs =>
    Ret.bind (P := fun o => ZW (o.getD [])) (fun c1 _ o h => parseExpr_zw e c1 o h hs) o h
  | .recN k r es, c, o, h, hs =>
    Ret.bind (P := fun o => ZW (o.getD [])) (fun c1 _ => .bind fun ts h2 =>
      .pure (parseAll_zw es c1 ts h2 hs)) o h
  | .array r items, c, o, h, hs =>
    Ret.bind (P := fun o => ZW (o.getD [])) (fun c1 _ => .bind fun ts h2 =>
      .pure (parseItems_zw _ items c1 ts h2 hs)) o h
  | .dict r items, c, o, h, hs =>
    Ret.bind (P := fun o => ZW (o.getD [])) (fun c1 _ => .bind fun ts h2 =>
      .pure (parseItems_zw _ items c1 ts h2 hs)) o h
  | .fieldAccess r target field, c, o, h, hs =>
    have hs := and2 hs
    Ret.bind (P := fun o => ZW (o.getD [])) (fun c1 _ => .bind fun a ha => .bind fun f hf =>
      match f, hf with
      | none, _ => .pure ZW.nil
      | some ft, hf =>
        .pure ((parseExpr_zw target c1 a ha hs.1).append (defToken_zw hf (Or.inr hs.2)))) o h
  | .letBinding r kind init, c, o, h, hs =>
    have hs := and2 hs
    Ret.bind (P := fun o => ZW (o.getD [])) (fun c1 _ => .bind fun a ha => .bind fun b hb =>
      .pure ((parseExpr_zw kind c1 a ha hs.1).append (parseAll_zw init c1 b hb hs.2))) o h
  | .letClosure r, c, o, h, _ => Ret.pure (P := fun o => ZW (o.getD [])) ZW.nil o h
  | .setRule r target cond args, c, o, h, hs =>
    have hs := and3 hs
    Ret.bind (P := fun o => ZW (o.getD [])) (fun c1 _ => .bind fun a ha => .bind fun b hb =>
      .bind fun d hd => .pure (((parseExpr_zw target c1 a ha hs.1.1).append
        (parseAll_zw cond c1 b hb hs.1.2)).append (parseItems_zw _ args c1 d hd hs.2))) o h
  | .closure r name params body, c, o, h, hs =>
    have hs := and3 hs
    Ret.bind (P := fun o => ZW (o.getD [])) (fun c1 _ => .bind fun a ha => .bind fun p hp =>
      .bind fun b hb => .pure (((parseAll_zw name c1 a ha hs.1.1).append
        (parseItems_zw _ params c1 p hp hs.1.2)).append (parseExpr_zw body c1 b hb hs.2))) o h
  | .funcCall r callee args, c, o, h, hs =>
    have hs := and2 hs
    Ret.bind (P := fun o => ZW (o.getD [])) (fun c1 _ => .bind fun ct hct => by
      have hzc := defToken_zw hct (Or.inr hs.1)
      clear hct
      cases ct with
      | none => exact .pure ZW.nil
      | some ctl =>
        dsimp only
        split
        · rename_i spec _
          exact .bind fun alive hal => .bind fun dead hdl => .pure ((hzc.append
            (deadTokens_zw spec args c1 dead hdl hs.2)).append
            (parseItems_zw _ args c1 alive hal (solidArgs_items args hs.2)))
        · exact .bind fun a ha => .pure
            (hzc.append (parseItems_zw _ args c1 a ha (solidArgs_items args hs.2)))) o h
  | .patPlaceholder r, c, o, h, hs => defToken_zw h (Or.inr hs)
  | .patParen r e p, c, o, h, hs =>
    have hs := and2 hs
    Ret.bind (P := fun o => ZW (o.getD [])) (fun a ha => .bind fun b hb =>
      .pure ((parseExpr_zw e c a ha hs.1).append (parseExpr_zw p c b hb hs.2))) o h
  | .patDestruct r items, c, o, h, hs =>
    Ret.bind (P := fun o => ZW (o.getD [])) (fun ts h2 =>
      .pure (parseItems_zw _ items c ts h2 hs)) o h
theorem parseSeq_zw : (es : TNodes) → ∀ (fl : List Bool) (c : Cursor) (l : List Tok),
    parseSeq E fl es c = .ok l → solidL E.bs es = true → ZW l
  | .nil, _, _, l, h, _ => Ret.pure ZW.nil l h
  | .cons e es, fl, c, l, h, hs =>
    have hs := and2 hs
    have tail : ∀ a : Option (List Tok), ZW (a.getD []) →
        ZWL (do let b ← parseSeq E (fl.drop 1) es c; pure (a.getD [] ++ b)) := fun _ ha =>
      .bind fun b hb => .pure (ha.append (parseSeq_zw es _ c b hb hs.2))
    Ret.ite (P := ZW) (fun _ => .bind fun a ha => tail a (parseLeaf_zw ha (Or.inl rfl)))
      (fun _ => .bind fun a ha => tail a (parseExpr_zw e c a ha hs.1)) l h
theorem parseAll_zw : (es : TNodes) → ∀ (c : Cursor) (l : List Tok),
    parseAll E es c = .ok l → solidL E.bs es = true → ZW l
  | .nil, _, l, h, _ => Ret.pure ZW.nil l h
  | .cons e es, c, l, h, hs =>
    have hs := and2 hs
    Ret.bind (P := ZW) (fun a ha => .bind fun b hb =>
      .pure ((parseExpr_zw e c a ha hs.1).append (parseAll_zw es c b hb hs.2))) l h
theorem parseItem_zw : (i : TItem) → ∀ (c : Cursor) (o : Option (List Tok)),
    parseItem E i c = .ok o → solidI E.bs i = true → ZW (o.getD [])
  | .pos n, c, o, h, hs => parseExpr_zw n c o h hs
  | .named _ name _ value, c, o, h, hs =>
    have hs := and2 hs
    Ret.bind (P := fun o => ZW (o.getD [])) (fun a ha => .bind fun b hb =>
      .pure ((parseExpr_zw name c a ha hs.1).append (parseExpr_zw value c b hb hs.2))) o h
  | .dnamed _ _ pat, c, o, h, hs =>
    have hs := and2 hs
    Ret.bind (P := fun o => ZW (o.getD [])) (fun a ha =>
      match a, ha with
      | none, _ => .pure ZW.nil
      | some _, ha => .bind fun b hb =>
        .pure ((defToken_zw ha (Or.inr hs.1)).append (parseExpr_zw pat c b hb hs.2))) o h
  | .keyed _ key value, c, o, h, hs =>
    have hs := and2 hs
    Ret.bind (P := fun o => ZW (o.getD [])) (fun a ha => .bind fun b hb =>
      .pure ((parseExpr_zw key c a ha hs.1).append (parseExpr_zw value c b hb hs.2))) o h
  | .spread _ es, c, o, h, hs =>
    Ret.bind (P := fun o => ZW (o.getD [])) (fun ts h2 => .pure (parseAll_zw es c ts h2 hs)) o h
theorem parseItems_zw (keep : TItem → Bool) : (is : TItems) → ∀ (c : Cursor) (l : List Tok),
    parseItems E keep is c = .ok l → solidIs E.bs is = true → ZW l
  | .nil, _, l, h, _ => Ret.pure ZW.nil l h
  | .cons i is, c, l, h, hs =>
    have hs := and2 hs
    have tail : ∀ a : Option (List Tok), ZW (a.getD []) →
        ZWL (do let b ← parseItems E keep is c; pure (a.getD [] ++ b)) := fun _ ha =>
      .bind fun b hb => .pure (ha.append (parseItems_zw keep is c b hb hs.2))
    Ret.ite (P := ZW) (fun _ => .bind fun a ha => tail a (parseItem_zw i c a ha hs.1))
      (fun _ => .bind fun _ ha => pure_ok ha ▸ tail none ZW.nil) l h
end

/-- `Typst::parse`: if it returns, then under `RangesSolid` every zero-width token is a paragraph break
or a newline — no `TreeOK` needed -/
theorem typstParse_zw (top : TNodes) (toks : List Tok) (h : typstParse E top = .ok toks)
    (hs : RangesSolid E.bs top) : ZW toks :=
  parseSeq_zw E hin top _ ⟨0, 0⟩ toks h hs

end

/-! ## E. HTML: every token covers a character -/

theorem clampTok_span (t : Tok) : (clampTok t).span = t.span := by
  unfold clampTok; split <;> rfl

theorem htmlParse_pos (src : List Char) (mask : List Span) (inner : List Char → List Tok)
    (hpos : ∀ c, ∀ t ∈ inner c, t.span.start < t.span.stop) (toks : List Tok)
    (h : htmlParse src mask inner = .ok toks) : ∀ t ∈ toks, t.span.start < t.span.stop := by
  simp only [htmlParse] at h
  obtain ⟨ts, h1, h⟩ := bind_ok h
  have := pure_ok h
  subst this
  intro t ht
  simp only [htmlSpaceClamp, List.mem_map] at ht
  obtain ⟨u, hu, rfl⟩ := ht
  rw [clampTok_span]
  exact maskLoop_pos src inner hpos mask none ts h1 u hu

end Harper.Typst
