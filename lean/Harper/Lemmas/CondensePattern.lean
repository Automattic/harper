import Harper.Lemmas.Condense
/-! `condense_pattern` = `find_all_matches` + the loop + `remove_indices`: (1) under `PatOK` the filtered matches are
`GoodMs`; (2) on `GoodMs` the loop equals the closed form `condSpec`; (3) `condSpec` keeps `Tiles` and `Gap`, commutes
with moving the tokens and splits at a barrier; besides, what holds of any output (`condensePattern_forall`). -/
namespace Harper

/-! ## `remove_indices`, slices, `TokenStringExt::span` -/

def shSpan (k : Nat) (m : Span) : Span := ⟨m.start + k, m.stop + k⟩

theorem removeIndices_prefix_keep {α} (pre xs : List α) (i : Nat) (q : List Nat)
    (h : ∀ j ∈ q, i + pre.length ≤ j) :
    removeIndices i q (pre ++ xs) = pre ++ removeIndices (i + pre.length) q xs := by
  induction pre generalizing i with
  | nil => simp
  | cons a pre ih =>
    simp only [List.cons_append, List.length_cons] at h ⊢
    cases q with
    | nil =>
      cases hx : pre ++ xs with
      | nil =>
        simp only [removeIndices]
        have := ih (i + 1) (by simp)
        rw [hx] at this
        rw [show i + (pre.length + 1) = i + 1 + pre.length by omega, ← this]
        simp [removeIndices]
      | cons y ys =>
        simp only [removeIndices]
        have := ih (i + 1) (by simp)
        rw [hx] at this
        rw [show i + (pre.length + 1) = i + 1 + pre.length by omega, ← this]
        simp [removeIndices]
    | cons r q =>
      have hr := h r (by simp)
      simp only [removeIndices]
      rw [if_neg (by omega), ih (i + 1) (fun j hj => by have := h j hj; omega),
        show i + (pre.length + 1) = i + 1 + pre.length by omega]

theorem removeIndices_range {α} (del ys : List α) (i : Nat) (q : List Nat) :
    removeIndices i (rangeFrom i del.length ++ q) (del ++ ys) = removeIndices (i + del.length) q ys := by
  induction del generalizing i with
  | nil => simp [rangeFrom]
  | cons d del ih =>
    simp only [List.length_cons, rangeFrom, List.cons_append, removeIndices, if_true]
    rw [ih, show i + 1 + del.length = i + (del.length + 1) by omega]

theorem removeIndices_cons_keep {α} (x : α) (xs : List α) (i : Nat) (q : List Nat) (h : ∀ j ∈ q, i < j) :
    removeIndices i q (x :: xs) = x :: removeIndices (i + 1) q xs := by
  cases q with
  | nil => rfl
  | cons r q => simp only [removeIndices]; rw [if_neg (by have := h r (List.mem_cons_self ..); omega)]

theorem mem_of_mem_removeIndices {α} (xs : List α) : ∀ (i : Nat) (q : List Nat), ∀ x ∈ removeIndices i q xs, x ∈ xs := by
  induction xs with
  | nil => intro i q x hx; cases q <;> simp [removeIndices] at hx
  | cons y ys ih =>
    intro i q x hx
    cases q with
    | nil =>
      simp only [removeIndices, List.mem_cons] at hx
      rcases hx with rfl | hx
      · simp
      · exact List.mem_cons_of_mem _ (ih _ _ x hx)
    | cons r q =>
      simp only [removeIndices] at hx
      split at hx
      · exact List.mem_cons_of_mem _ (ih _ _ x hx)
      · rcases List.mem_cons.mp hx with rfl | hx
        · simp
        · exact List.mem_cons_of_mem _ (ih _ _ x hx)

theorem rangeFrom_lt (a n j : Nat) (h : j ∈ rangeFrom a n) : a ≤ j ∧ j < a + n := by
  induction n generalizing a with
  | zero => simp [rangeFrom] at h
  | succ n ih =>
    simp only [rangeFrom, List.mem_cons] at h
    rcases h with rfl | h
    · omega
    · have := ih _ h; omega

theorem rangeFrom_pairwise (a n : Nat) : (rangeFrom a n).Pairwise (· < ·) := by
  induction n generalizing a with
  | zero => simp [rangeFrom]
  | succ n ih =>
    simp only [rangeFrom]
    refine List.pairwise_cons.mpr ⟨?_, ih _⟩
    intro b hb
    have := rangeFrom_lt _ _ _ hb
    omega

theorem sliceE_mid {α} (A seg l : List α) (a b : Nat) (ha : A.length = a) (hb : a + seg.length = b) :
    sliceE (A ++ (seg ++ l)) a b = .ok seg := by
  unfold sliceE
  rw [if_neg (by simp only [List.length_append]; omega), List.drop_left' ha, List.take_left' (by omega)]

theorem split_at {α} (rest : List α) (off a b : Nat) (h1 : off ≤ a) (h2 : a ≤ b) (h3 : b ≤ off + rest.length) :
    ∃ pre seg l, rest = pre ++ (seg ++ l) ∧ off + pre.length = a ∧ a + seg.length = b ∧
      off + rest.length = b + l.length := by
  refine ⟨rest.take (a - off), (rest.drop (a - off)).take (b - a), (rest.drop (a - off)).drop (b - a), ?_, ?_, ?_, ?_⟩
  · rw [List.take_append_drop, List.take_append_drop]
  · rw [List.length_take]; omega
  · rw [List.length_take, List.length_drop]; omega
  · rw [List.length_drop, List.length_drop]; omega

theorem foldl_min_tiles (ts : List Tok) (m p q : Nat) (h : Tiles ts p q) (hm : m ≤ p) :
    ts.foldl (fun m x => min (min m x.span.start) x.span.stop) m = m := by
  induction ts generalizing p m with
  | nil => rfl
  | cons t ts ih =>
    obtain ⟨t1, t2, ht⟩ := h
    simp only [List.foldl_cons]
    rw [show min (min m t.span.start) t.span.stop = m by omega]
    exact ih m _ ht (by omega)

theorem foldl_max_tiles (ts : List Tok) (p q : Nat) (h : Tiles ts p q) :
    ts.foldl (fun m x => max (max m x.span.start) x.span.stop) p = q := by
  induction ts generalizing p with
  | nil => simp only [Tiles] at h; subst h; rfl
  | cons t ts ih =>
    obtain ⟨t1, t2, ht⟩ := h
    simp only [List.foldl_cons]
    rw [show max (max p t.span.start) t.span.stop = t.span.stop by omega]
    exact ih _ ht

theorem spanOf_tiles {seg : List Tok} {p q : Nat} (h : Tiles seg p q) (hne : seg ≠ []) :
    spanOf seg = some ⟨p, q⟩ := by
  cases seg with
  | nil => exact absurd rfl hne
  | cons t ts =>
    obtain ⟨t1, t2, ht⟩ := h
    simp only [spanOf]
    rw [foldl_min_tiles ts _ _ _ ht (by omega),
      show max t.span.start t.span.stop = t.span.stop by omega, foldl_max_tiles ts _ _ ht]
    congr 2; omega

theorem spanOf_gap {seg : List Tok} {p q : Nat} (h : Gap seg p q) (hne : seg ≠ []) :
    ∃ sp, spanOf seg = some sp ∧ p ≤ sp.start ∧ sp.start ≤ sp.stop ∧ sp.stop ≤ q := by
  cases hsp : spanOf seg with
  | none => cases seg with
    | nil => exact absurd rfl hne
    | cons a b => simp [spanOf] at hsp
  | some sp =>
    exact ⟨sp, rfl, spanOf_bounds hsp p q (fun t ht => by have := h.mem t ht; omega)⟩

/-! ## `find_all_matches`: the adjacent-pair overlap filter -/

/-- matches are non-empty, increasing, pairwise disjoint and inside a vector of `n` tokens -/
def GoodMs : Nat → List Span → Nat → Prop
  | _, [], _ => True
  | off, m :: rest, n => off ≤ m.start ∧ m.start < m.stop ∧ m.stop ≤ n ∧ GoodMs m.stop rest n

theorem GoodMs.mono {off off' : Nat} {ms : List Span} {n : Nat} (h : GoodMs off ms n) (ho : off' ≤ off) :
    GoodMs off' ms n := by
  cases ms with
  | nil => trivial
  | cons m ms => obtain ⟨h1, h2, h3, h4⟩ := h; exact ⟨by omega, h2, h3, h4⟩

theorem GoodMs.all {off : Nat} {ms : List Span} {n : Nat} (h : GoodMs off ms n) :
    ∀ m ∈ ms, m.start < m.stop ∧ m.stop ≤ n := by
  induction ms generalizing off with
  | nil => intro m hm; cases hm
  | cons a ms ih =>
    obtain ⟨_, h2, h3, h4⟩ := h
    intro m hm
    rcases List.mem_cons.mp hm with rfl | hm
    · exact ⟨h2, h3⟩
    · exact ih h4 m hm

theorem GoodMs.ge {off : Nat} {ms : List Span} {n : Nat} (h : GoodMs off ms n) : ∀ m ∈ ms, off ≤ m.start := by
  induction ms generalizing off with
  | nil => intro m hm; cases hm
  | cons a ms ih =>
    obtain ⟨h1, h2, _, h4⟩ := h
    intro m hm
    rcases List.mem_cons.mp hm with rfl | hm
    · exact h1
    · exact Nat.le_trans (Nat.le_trans h1 (Nat.le_of_lt h2)) (ih h4 m hm)

/-- the raw `found` list: non-empty in-bounds spans, starts increasing, stops non-decreasing -/
def IncMs (n : Nat) : List Span → Prop
  | [] => True
  | [a] => a.start < a.stop ∧ a.stop ≤ n
  | a :: b :: r => a.start < a.stop ∧ a.stop ≤ n ∧ a.start < b.start ∧ a.stop ≤ b.stop ∧ IncMs n (b :: r)

theorem IncMs.mem {n : Nat} {l : List Span} (h : IncMs n l) : ∀ x ∈ l, x.start < x.stop ∧ x.stop ≤ n := by
  induction l with
  | nil => simp
  | cons a l ih =>
    intro x hx
    cases l with
    | nil => simp at hx; subst hx; exact h
    | cons b r =>
      obtain ⟨h1, h2, _, _, h5⟩ := h
      rcases List.mem_cons.mp hx with rfl | hx
      · exact ⟨h1, h2⟩
      · exact ih h5 x hx

/-- what the filter keeps after `prev` -/
def keepNon (prev : Span) : List Span → List Span
  | [] => []
  | b :: r => if prev.overlapsWith b then keepNon b r else b :: keepNon b r

theorem overlapNext_ge (j : Nat) (l : List Span) : ∀ x ∈ overlapNext j l, j ≤ x := by
  induction l generalizing j with
  | nil => simp [overlapNext]
  | cons a t ih =>
    cases t with
    | nil => simp [overlapNext]
    | cons b r =>
      intro x hx
      simp only [overlapNext] at hx
      split at hx
      · rcases List.mem_cons.mp hx with rfl | hx
        · omega
        · have := ih (j + 1) x hx; omega
      · have := ih (j + 1) x hx; omega

theorem filter_eq_keepNon (a : Span) (rest : List Span) (i : Nat) :
    removeIndices i (overlapNext (i + 1) (a :: rest)) (a :: rest) = a :: keepNon a rest := by
  induction rest generalizing a i with
  | nil => simp [overlapNext, removeIndices, keepNon]
  | cons b r ih =>
    have hge := overlapNext_ge (i + 1) (a :: b :: r)
    have hk := removeIndices_prefix_keep [a] (b :: r) i (overlapNext (i + 1) (a :: b :: r)) (by simpa using hge)
    simp only [List.cons_append, List.nil_append, List.length_singleton] at hk
    rw [hk]
    congr 1
    have ih' := ih b (i + 1)
    have hge2 := overlapNext_ge (i + 1 + 1) (b :: r)
    have hk2 := removeIndices_prefix_keep [b] r (i + 1) (overlapNext (i + 1 + 1) (b :: r)) (by simpa using hge2)
    simp only [List.cons_append, List.nil_append, List.length_singleton] at hk2
    rw [hk2] at ih'
    have ih'' : removeIndices (i + 1 + 1) (overlapNext (i + 1 + 1) (b :: r)) r = keepNon b r := by
      injection ih'
    simp only [overlapNext, keepNon]
    split
    · simp only [removeIndices, if_true]
      exact ih''
    · rw [hk2, ih'']

/-- what `find_all_matches` keeps -/
def filt (found : List Span) : List Span :=
  if found.length < 2 then found else removeIndices 0 (overlapNext 1 found) found

theorem filt_eq (found : List Span) : filt found = match found with
    | [] => []
    | a :: rest => a :: keepNon a rest := by
  unfold filt
  match found with
  | [] => rfl
  | [a] => simp [keepNon]
  | a :: b :: r => rw [if_neg (by simp)]; exact filter_eq_keepNon a (b :: r) 0

theorem findAllMatches_eq (m : Matcher) (src : List Char) (toks : List Tok) :
    findAllMatches m src toks = (foundFrom m src 0 toks).map filt := by
  unfold findAllMatches filt
  cases foundFrom m src 0 toks with
  | error e => rfl
  | ok found => simp only [Except.map]; split <;> rfl

theorem keepNon_good (n : Nat) (rest : List Span) (a : Span) (bound : Nat) (h : IncMs n (a :: rest))
    (hb : bound ≤ a.stop) : GoodMs bound (keepNon a rest) n := by
  induction rest generalizing a bound with
  | nil => trivial
  | cons b r ih =>
    obtain ⟨a1, a2, a3, a4, hbr⟩ := h
    have hb1 : b.start < b.stop ∧ b.stop ≤ n := by
      cases r with
      | nil => exact hbr
      | cons c r' => exact ⟨hbr.1, hbr.2.1⟩
    simp only [keepNon]
    split
    · exact ih b bound hbr (by omega)
    · rename_i hov
      simp only [Span.overlapsWith, Bool.and_eq_true, decide_eq_true_eq, not_and] at hov
      refine ⟨?_, hb1.1, hb1.2, ih b b.stop hbr (Nat.le_refl _)⟩
      have := hov (by omega)
      omega

theorem filter_good (n : Nat) (found : List Span) (h : IncMs n found) :
    GoodMs 0 (if found.length < 2 then found else removeIndices 0 (overlapNext 1 found) found) n := by
  match found, h with
  | [], _ => simp [GoodMs]
  | [a], h => rw [if_pos (by simp)]; exact ⟨by omega, h.1, h.2, trivial⟩
  | a :: b :: r, h =>
    rw [if_neg (by simp)]
    have := filter_eq_keepNon a (b :: r) 0
    rw [this]
    exact ⟨by omega, h.1, h.2.1, keepNon_good n (b :: r) a a.stop h (Nat.le_refl _)⟩

/-! ## `foundFrom` under a pattern that is total, bounded and whose match ends are monotone -/

/-- `m` is total on the token vectors `P` describes, never matches past them, and (`mono`) a match never ends
before a match that starts later ends: this is what makes the ADJACENT-pair overlap filter of `find_all_matches`
leave pairwise disjoint matches (`keepNon_good`) -/
structure PatOK (m : Matcher) (src : List Char) (P : List Tok → Prop) : Prop where
  tail : ∀ t ts, P (t :: ts) → P ts
  ok : ∀ v, P v → ∃ n, m src v = .ok n ∧ n ≤ v.length
  mono : ∀ u v n n', u ≠ [] → P (u ++ v) → m src (u ++ v) = .ok n → n > 0 → m src v = .ok n' → n' > 0 →
    n ≤ u.length + n'

theorem PatOK.of_imp {m : Matcher} {src : List Char} {P Q : List Tok → Prop} (hp : PatOK m src P)
    (hQ : ∀ v, Q v → P v) (htail : ∀ t ts, Q (t :: ts) → Q ts) : PatOK m src Q where
  tail := htail
  ok := fun v hv => hp.ok v (hQ v hv)
  mono := fun u v n n' hu h => hp.mono u v n n' hu (hQ _ h)

theorem foundFrom_inc {m : Matcher} {src : List Char} {P : List Tok → Prop} (hp : PatOK m src P)
    (toks : List Tok) (i : Nat) (hP : P toks) :
    ∃ found, foundFrom m src i toks = .ok found ∧ IncMs (i + toks.length) found ∧
      ∀ b ∈ found, ∃ u v n', toks = u ++ v ∧ m src v = .ok n' ∧ n' > 0 ∧
        b = ⟨i + u.length, i + u.length + n'⟩ := by
  induction toks generalizing i with
  | nil => exact ⟨[], rfl, trivial, fun b hb => nomatch hb⟩
  | cons t ts ih =>
    obtain ⟨n, hn, hle⟩ := hp.ok _ hP
    obtain ⟨rest, hr, hinc, hmem⟩ := ih (i + 1) (hp.tail _ _ hP)
    rw [Nat.add_assoc, Nat.add_comm 1, ← List.length_cons (a := t)] at hinc
    -- a match found in the tail starts behind a non-empty prefix of `t :: ts`
    have hmem' : ∀ b ∈ rest, ∃ u v n', t :: ts = (t :: u) ++ v ∧ m src v = .ok n' ∧ n' > 0 ∧
        b = ⟨i + (t :: u).length, i + (t :: u).length + n'⟩ := by
      intro b hb
      obtain ⟨u, v, n', e, hm, hpos, rfl⟩ := hmem b hb
      refine ⟨u, v, n', by rw [e]; rfl, hm, hpos, ?_⟩
      rw [List.length_cons, Nat.add_assoc, Nat.add_comm 1]
    have hmem'' : ∀ b ∈ rest, ∃ u v n', t :: ts = u ++ v ∧ m src v = .ok n' ∧ n' > 0 ∧
        b = ⟨i + u.length, i + u.length + n'⟩ := fun b hb =>
      let ⟨u, v, n', h⟩ := hmem' b hb; ⟨t :: u, v, n', h⟩
    simp only [foundFrom, hn, hr]
    by_cases hpos : n > 0
    · rw [if_pos hpos]
      refine ⟨_, rfl, ?_, ?_⟩
      · cases rest with
        | nil => exact ⟨Nat.lt_add_of_pos_right hpos, Nat.add_le_add_left hle i⟩
        | cons b r =>
          obtain ⟨u, v, n', e, hm, hpos', rfl⟩ := hmem' b (List.mem_cons_self ..)
          -- the match at `t` ends no later than the next one found
          have hmono := hp.mono (t :: u) v n n' (List.cons_ne_nil _ _) (e ▸ hP) (e ▸ hn) hpos hm hpos'
          rw [List.length_cons] at hmono hle ⊢
          exact ⟨Nat.lt_add_of_pos_right hpos, Nat.add_le_add_left hle i, by show i < i + (u.length + 1); omega,
            by show i + n ≤ i + (u.length + 1) + n'; omega, hinc⟩
      · intro b hb
        rcases List.mem_cons.mp hb with rfl | hb
        · exact ⟨[], t :: ts, n, rfl, hn, hpos, rfl⟩
        · exact hmem'' b hb
    · rw [if_neg hpos]
      exact ⟨_, rfl, hinc, hmem''⟩

theorem findAllMatches_goodMs {m : Matcher} {src : List Char} {P : List Tok → Prop} (hp : PatOK m src P)
    (toks : List Tok) (hP : P toks) : ∃ ms, findAllMatches m src toks = .ok ms ∧ GoodMs 0 ms toks.length ∧
      ∀ b ∈ ms, m src (toks.drop b.start) = .ok (b.stop - b.start) := by
  obtain ⟨found, hf, hinc, hmem⟩ := foundFrom_inc hp toks 0 hP
  rw [Nat.zero_add] at hinc
  have hg := filter_good _ found hinc
  have hhead : ∀ b ∈ found, m src (toks.drop b.start) = .ok (b.stop - b.start) := by
    intro b hb
    obtain ⟨u, v, n, rfl, hm, hn, rfl⟩ := hmem b hb
    simp only [Nat.zero_add, Nat.add_sub_cancel_left, List.drop_left' rfl]
    exact hm
  simp only [findAllMatches, hf]
  by_cases h : found.length < 2
  · rw [if_pos h] at hg ⊢; exact ⟨_, rfl, hg, hhead⟩
  · rw [if_neg h] at hg ⊢
    exact ⟨_, rfl, hg, fun b hb => hhead b (mem_of_mem_removeIndices _ _ _ b hb)⟩

/-! ## `condense_pattern` in closed form -/

/-- what the loop makes of one matched slice: a contiguous slice shrinks to its first token, stretched over the
slice; any other slice is left alone -/
def condSeg (edit : Kind → Kind) (seg : List Tok) : List Tok :=
  match seg, spanOf seg with
  | first :: _, some sp => if contiguous seg then [⟨sp, edit first.kind⟩] else seg
  | _, _ => seg

theorem condSeg_contiguous (edit : Kind → Kind) (first : Tok) (tl : List Tok) (sp : Span)
    (hc : contiguous (first :: tl) = true) (hsp : spanOf (first :: tl) = some sp) :
    condSeg edit (first :: tl) = [⟨sp, edit first.kind⟩] := by
  simp only [condSeg, hsp, hc, if_true]

theorem condSeg_not_contiguous (edit : Kind → Kind) (seg : List Tok) (hc : ¬ contiguous seg = true) :
    condSeg edit seg = seg := by
  unfold condSeg
  split
  · rw [if_neg hc]
  · rfl

/-- a contiguous block shrinks to its first token (of which `hd` is known), stretched over the block, with the kind
`edit` makes of its own -/
inductive PatW (hd : Tok → Prop) (edit : Kind → Kind) : List Tok → Tok → Prop
  | mk (first : Tok) (tl : List Tok) (sp : Span) : hd first → contiguous (first :: tl) = true →
      spanOf (first :: tl) = some sp → PatW hd edit (first :: tl) ⟨sp, edit first.kind⟩

theorem Tiles.patW {hd : Tok → Prop} {edit : Kind → Kind} : Closed (PatW hd edit) Tiles :=
  Tiles.closed fun _ _ _ _ _ hW h => by
    obtain ⟨first, tl, sp, _, _, hsp⟩ := hW
    obtain ⟨m, hS, hL⟩ := h.of_append
    rw [spanOf_tiles hS (List.cons_ne_nil _ _)] at hsp
    cases hsp
    exact ⟨rfl, Nat.lt_of_lt_of_le (hS.1 ▸ hS.2.1) (hS.gap.mem first List.mem_cons_self).2.2, hL⟩

theorem Gap.patW {hd : Tok → Prop} {edit : Kind → Kind} : Closed (PatW hd edit) Gap :=
  Gap.closed fun _ _ _ _ _ hW h => by
    obtain ⟨first, tl, sp, _, _, hsp⟩ := hW
    obtain ⟨m, hS, hL⟩ := h.of_append
    obtain ⟨sp', hsp', b1, b2, b3⟩ := spanOf_gap hS (List.cons_ne_nil _ _)
    rw [hsp] at hsp'
    cases hsp'
    exact ⟨b1, b2, hL.mono b3 (Nat.le_refl _)⟩

theorem PatW.span {hd : Tok → Prop} {edit : Kind → Kind} (P : Span → Prop)
    (hspan : ∀ slice sp, (∀ t ∈ slice, P t.span) → spanOf slice = some sp → P sp) {blk : List Tok} {t : Tok}
    (hW : PatW hd edit blk t) (h : ∀ u ∈ blk, P u.span) : P t.span := by
  obtain ⟨first, tl, sp, _, _, hsp⟩ := hW
  exact hspan _ _ h hsp

theorem condSeg_rewrites (hd : Tok → Prop) (edit : Kind → Kind) (seg l : List Tok) (h : ∀ t, seg.head? = some t → hd t) :
    Rewrites (PatW hd edit) (seg ++ l) (condSeg edit seg ++ l) := by
  by_cases hc : contiguous seg = true
  · cases seg with
    | nil => exact .refl _
    | cons first tl =>
      rw [condSeg_contiguous edit first tl _ hc rfl]
      exact .write l (.mk first tl _ (h first rfl) hc rfl)
  · rw [condSeg_not_contiguous edit seg hc]; exact .refl _

/-- the closed form: every matched segment `seg` becomes `g seg` -/
def condSpec (g : List Tok → List Tok) : Nat → List Span → List Tok → List Tok
  | _, [], rest => rest
  | off, m :: ms, rest =>
    rest.take (m.start - off) ++ (g ((rest.drop (m.start - off)).take (m.stop - m.start)) ++
      condSpec g m.stop ms (rest.drop (m.stop - off)))

/-- the segment of `rest` (the tokens from index `off` on) that the match `m` covers -/
def segOf (off : Nat) (m : Span) (rest : List Tok) : List Tok :=
  (rest.drop (m.start - off)).take (m.stop - m.start)

theorem segOf_mid (off : Nat) (m : Span) (pre seg l : List Tok) (hpre : off + pre.length = m.start)
    (hseg : m.start + seg.length = m.stop) : segOf off m (pre ++ (seg ++ l)) = seg := by
  unfold segOf
  rw [List.drop_left' (Nat.eq_sub_of_add_eq' hpre), List.take_left' (Nat.eq_sub_of_add_eq' hseg)]

theorem segOf_behind (off : Nat) (m m' : Span) (pre seg l : List Tok) (hpre : off + pre.length = m.start)
    (hseg : m.start + seg.length = m.stop) (h : m.stop ≤ m'.start) :
    segOf off m' (pre ++ (seg ++ l)) = segOf m.stop m' l := by
  unfold segOf
  rw [← List.append_assoc, show m'.start - off = (pre ++ seg).length + (m'.start - m.stop) by
    rw [List.length_append]; omega, ← List.drop_drop, List.drop_left]

theorem condSpec_cons (g : List Tok → List Tok) (off : Nat) (m : Span) (ms : List Span) (pre seg l : List Tok)
    (hpre : off + pre.length = m.start) (hseg : m.start + seg.length = m.stop) :
    condSpec g off (m :: ms) (pre ++ (seg ++ l)) = pre ++ (g seg ++ condSpec g m.stop ms l) := by
  have h3 : (pre ++ (seg ++ l)).drop (m.stop - off) = l := by
    rw [← List.append_assoc]; exact List.drop_left' (by rw [List.length_append]; omega)
  have := segOf_mid off m pre seg l hpre hseg
  unfold segOf at this
  simp only [condSpec]
  rw [List.take_left' (Nat.eq_sub_of_add_eq' hpre), this, h3]

theorem condLoop_merge (edit : Kind → Kind) (m : Span) (ms : List Span) (A tl l : List Tok) (first : Tok)
    (sp : Span) (rem : List Nat) (hA : A.length = m.start) (hstop : m.start + (tl.length + 1) = m.stop)
    (hc : contiguous (first :: tl) = true) (hsp : spanOf (first :: tl) = some sp) :
    condLoop edit (m :: ms) (A ++ (first :: tl ++ l)) rem =
      condLoop edit ms (A ++ (⟨sp, edit first.kind⟩ :: tl ++ l)) (rem ++ rangeFrom (m.start + 1) tl.length) := by
  have hget : (A ++ (first :: tl ++ l))[m.start]? = some first := by
    rw [List.getElem?_append_right (by omega), hA, Nat.sub_self]; rfl
  have hset : (A ++ (first :: tl ++ l)).set m.start ⟨sp, edit first.kind⟩ =
      A ++ (⟨sp, edit first.kind⟩ :: tl ++ l) := by
    rw [List.set_append_right _ _ (by omega), hA, Nat.sub_self]; rfl
  simp only [condLoop, sliceE_mid A (first :: tl) l _ _ hA hstop, hc, hsp, hget, hset, Bool.not_true,
    Bool.false_eq_true, if_false]
  rw [show m.stop - (m.start + 1) = tl.length by omega]

theorem condLoop_skip (edit : Kind → Kind) (m : Span) (ms : List Span) (A seg l : List Tok) (rem : List Nat)
    (hA : A.length = m.start) (hstop : m.start + seg.length = m.stop) (hc : ¬ contiguous seg = true) :
    condLoop edit (m :: ms) (A ++ (seg ++ l)) rem = condLoop edit ms (A ++ (seg ++ l)) rem := by
  simp only [condLoop, sliceE_mid A seg l _ _ hA hstop, hc, Bool.not_false, if_true]

/-- `loop` goes through the matches and each round reads only the matched segment `first :: tl`: it panics (only
if `¬ Ok`), or leaves the vector alone, or overwrites `first` and queues the positions of `tl`; `g` is what
`remove_indices` will have left of the segment. -/
structure SegLoop (loop : List Span → List Tok → List Nat → Except Panic (List Tok × List Nat))
    (g : List Tok → List Tok) (Ok : List Tok → Prop) : Prop where
  nil : ∀ toks rem, loop [] toks rem = .ok (toks, rem)
  round : ∀ (m : Span) (ms : List Span) (A tl l : List Tok) (first : Tok) (rem : List Nat),
    A.length = m.start → m.start + (tl.length + 1) = m.stop →
    ((∃ e, loop (m :: ms) (A ++ (first :: tl ++ l)) rem = .error e) ∧ ¬ Ok (first :: tl)) ∨
    (loop (m :: ms) (A ++ (first :: tl ++ l)) rem = loop ms (A ++ (first :: tl ++ l)) rem ∧
      g (first :: tl) = first :: tl) ∨
    ∃ t, loop (m :: ms) (A ++ (first :: tl ++ l)) rem =
        loop ms (A ++ (t :: tl ++ l)) (rem ++ rangeFrom (m.start + 1) tl.length) ∧
      g (first :: tl) = [t]

/-- The loop over matches that lie in order behind the tokens `done`, if it returns or if every segment is `Ok`:
it returns, leaves `done` alone, queues increasing indices behind it, and what `remove_indices` then keeps of the
rest is `condSpec`. `Z` and `q` stand for whatever follows the vector and the queue. -/
theorem SegLoop.spec {loop : List Span → List Tok → List Nat → Except Panic (List Tok × List Nat)}
    {g : List Tok → List Tok} {Ok : List Tok → Prop} (L : SegLoop loop g Ok) :
    ∀ (ms : List Span) (done rest : List Tok) (rem : List Nat) (off : Nat),
    done.length = off → GoodMs off ms (off + rest.length) →
    ((∀ m ∈ ms, Ok (segOf off m rest)) ∨ ∃ p, loop ms (done ++ rest) rem = .ok p) →
    ∃ ts r, loop ms (done ++ rest) rem = .ok (done ++ ts, rem ++ r) ∧ ts.length = rest.length ∧
      (∀ j ∈ r, off ≤ j) ∧ r.Pairwise (· < ·) ∧
      ∀ (Z : List Tok) (q : List Nat), (∀ j ∈ q, off + rest.length ≤ j) →
        removeIndices off (r ++ q) (ts ++ Z) =
          condSpec g off ms rest ++ removeIndices (off + rest.length) q Z := by
  intro ms
  induction ms with
  | nil =>
    intro done rest rem off _ _ _
    refine ⟨rest, [], by rw [List.append_nil]; exact L.nil _ _, rfl, fun j hj => (nomatch hj),
      List.Pairwise.nil, ?_⟩
    intro Z q hq
    exact removeIndices_prefix_keep rest Z off q hq
  | cons m ms ih =>
    intro done rest rem off hoff hg hok
    obtain ⟨g1, g2, g3, g4⟩ := hg
    obtain ⟨pre, seg, l, rfl, hpre, hstop, hrest⟩ := split_at rest off m.start m.stop g1 (Nat.le_of_lt g2) g3
    obtain ⟨first, tl, rfl⟩ : ∃ first tl, seg = first :: tl := by
      cases seg with
      | nil => rw [List.length_nil] at hstop; omega
      | cons a b => exact ⟨a, b, rfl⟩
    have hA : (done ++ pre).length = m.start := by rw [List.length_append, hoff, hpre]
    rw [hrest] at g4 ⊢
    clear g3 hrest
    rw [condSpec_cons g off m ms pre _ l hpre hstop, ← List.append_assoc done] at *
    rw [List.length_cons] at hstop
    -- one round: `seg'` takes the place of the segment, `del` is queued, and `remove_indices` keeps `g` of it
    obtain ⟨seg', del, hlen, hdel, hdp, hloop, hrm⟩ : ∃ seg' del, seg'.length = tl.length + 1 ∧
        (∀ j ∈ del, m.start < j ∧ j < m.stop) ∧ del.Pairwise (· < ·) ∧
        loop (m :: ms) (done ++ pre ++ (first :: tl ++ l)) rem =
          loop ms (done ++ pre ++ (seg' ++ l)) (rem ++ del) ∧
        ∀ (X : List Tok) (q : List Nat), (∀ j ∈ q, m.stop ≤ j) →
          removeIndices m.start (del ++ q) (seg' ++ X) = g (first :: tl) ++ removeIndices m.stop q X := by
      rcases L.round m ms (done ++ pre) tl l first rem hA hstop with ⟨⟨e, he⟩, hno⟩ | ⟨he, hgs⟩ | ⟨t, he, hgs⟩
      · rcases hok with hok | ⟨p, hp⟩
        · exact absurd (segOf_mid off m pre (first :: tl) l hpre (by rw [List.length_cons]; exact hstop) ▸
            hok m List.mem_cons_self) hno
        · rw [he] at hp; cases hp
      · refine ⟨first :: tl, [], rfl, fun j hj => (nomatch hj), List.Pairwise.nil, by
          rw [List.append_nil]; exact he, ?_⟩
        intro X q hq
        rw [hgs, List.nil_append, removeIndices_prefix_keep (first :: tl) X m.start q
          (fun j hj => by rw [List.length_cons, hstop]; exact hq j hj), List.length_cons, hstop]
      · refine ⟨t :: tl, rangeFrom (m.start + 1) tl.length, rfl, fun j hj => ?_, rangeFrom_pairwise _ _,
          he, ?_⟩
        · have := rangeFrom_lt _ _ _ hj; omega
        intro X q hq
        rw [hgs, List.cons_append, removeIndices_cons_keep _ _ _ _ (fun j hj => by
            rcases List.mem_append.mp hj with hj | hj
            · exact (rangeFrom_lt _ _ _ hj).1
            · exact Nat.lt_of_lt_of_le g2 (hq j hj)),
          removeIndices_range, show m.start + 1 + tl.length = m.stop by omega]
        rfl
    rw [hloop] at hok ⊢
    have hstop' : m.start + seg'.length = m.stop := by omega
    obtain ⟨ts2, r2, hc2, hl2, hr2, hp2, hq2⟩ := ih (done ++ pre ++ seg') l (rem ++ del) m.stop
      (by rw [List.length_append, hA]; exact hstop') g4 (hok.imp (fun h m' hm' => by
        rw [← segOf_behind off m m' pre (first :: tl) l hpre (by rw [List.length_cons]; exact hstop)
          (g4.ge m' hm')]
        exact h m' (List.mem_cons_of_mem _ hm')) (by
          rw [List.append_assoc (done ++ pre)]; exact id))
    have hos : off ≤ m.stop := Nat.le_trans g1 (Nat.le_of_lt g2)
    refine ⟨pre ++ (seg' ++ ts2), del ++ r2, ?_, ?_, ?_, ?_, ?_⟩
    · simpa only [List.append_assoc] using hc2
    · simp only [List.length_append, hl2, hlen, List.length_cons]
    · intro j hj
      rcases List.mem_append.mp hj with hj | hj
      · exact Nat.le_trans g1 (Nat.le_of_lt (hdel j hj).1)
      · exact Nat.le_trans hos (hr2 j hj)
    · exact List.pairwise_append.mpr ⟨hdp, hp2, fun a ha b hb =>
        Nat.lt_of_lt_of_le (hdel a ha).2 (hr2 b hb)⟩
    · intro Z q hq
      have hge : ∀ j ∈ r2 ++ q, m.stop ≤ j := by
        intro j hj
        rcases List.mem_append.mp hj with hj | hj
        · exact hr2 j hj
        · exact Nat.le_trans (Nat.le_add_right _ _) (hq j hj)
      rw [List.append_assoc, List.append_assoc, List.append_assoc,
        removeIndices_prefix_keep pre _ off _ (fun j hj => by
          rw [hpre]
          rcases List.mem_append.mp hj with hj | hj
          · exact Nat.le_of_lt (hdel j hj).1
          · exact Nat.le_trans (Nat.le_of_lt g2) (hge j hj)),
        hpre, hrm _ _ hge, hq2 Z q (fun j hj => hq j hj)]
      simp only [List.append_assoc]

theorem condLoop_segLoop (edit : Kind → Kind) : SegLoop (condLoop edit) (condSeg edit) (fun _ => True) where
  nil := fun _ _ => rfl
  round := by
    intro m ms A tl l first rem hA hstop
    by_cases hc : contiguous (first :: tl) = true
    · exact .inr (.inr ⟨_, condLoop_merge edit m ms A tl l first _ rem hA hstop hc rfl,
        condSeg_contiguous edit first tl _ hc rfl⟩)
    · exact .inr (.inl ⟨condLoop_skip edit m ms A (first :: tl) l rem hA
        (by rw [List.length_cons]; exact hstop) hc, condSeg_not_contiguous edit _ hc⟩)

theorem condensePattern_of_matches {m : Matcher} (edit : Kind → Kind) {src : List Char} {toks : List Tok}
    {ms : List Span} (hf : findAllMatches m src toks = .ok ms) (hg : GoodMs 0 ms toks.length) :
    condensePattern m edit src toks = .ok (condSpec (condSeg edit) 0 ms toks) := by
  obtain ⟨ts, r, hc, _, _, _, hq⟩ := (condLoop_segLoop edit).spec ms [] toks [] 0 rfl (by rw [Nat.zero_add]; exact hg)
    (.inl fun _ _ => trivial)
  have hc : condLoop edit ms toks [] = .ok (ts, r) := hc
  have h0 : removeIndices 0 r ts = condSpec (condSeg edit) 0 ms toks := by
    simpa only [List.append_nil, removeIndices] using hq [] [] (fun j hj => nomatch hj)
  simp only [condensePattern, hf, hc, h0]

theorem condensePattern_spec {m : Matcher} (edit : Kind → Kind) {src : List Char} {P : List Tok → Prop}
    (hp : PatOK m src P) (toks : List Tok) (hP : P toks) :
    ∃ ms, GoodMs 0 ms toks.length ∧ condensePattern m edit src toks = .ok (condSpec (condSeg edit) 0 ms toks) ∧
      ∀ b ∈ ms, m src (toks.drop b.start) = .ok (b.stop - b.start) := by
  obtain ⟨ms, hf, hg, hhead⟩ := findAllMatches_goodMs hp toks hP
  exact ⟨ms, hg, condensePattern_of_matches edit hf hg, hhead⟩

theorem Rewrites.append_left {W : List Tok → Tok → Prop} (pre : List Tok) {l l' : List Tok} (h : Rewrites W l l') :
    Rewrites W (pre ++ l) (pre ++ l') := by
  induction pre with
  | nil => exact h
  | cons a pre ih => exact .cons a ih

/-- if `g` rewrites every matched segment (in front of whatever follows), the closed form rewrites the vector -/
theorem condSpec_rewrites {W : List Tok → Tok → Prop} (g : List Tok → List Tok) (Ok : List Tok → Prop)
    (hseg : ∀ seg l, Ok seg → Rewrites W (seg ++ l) (g seg ++ l)) : ∀ (ms : List Span) (off : Nat) (rest : List Tok),
    GoodMs off ms (off + rest.length) → (∀ m ∈ ms, Ok (segOf off m rest)) →
      Rewrites W rest (condSpec g off ms rest) := by
  intro ms
  induction ms with
  | nil => intro off rest _ _; exact .refl _
  | cons m ms ih =>
    intro off rest hg hh
    obtain ⟨g1, g2, g3, g4⟩ := hg
    obtain ⟨pre, seg, l, rfl, hpre, hstop, hrest⟩ := split_at rest off m.start m.stop g1 (Nat.le_of_lt g2) g3
    rw [hrest] at g4
    rw [condSpec_cons g off m ms pre seg l hpre hstop]
    exact .append_left pre (.trans (hseg seg l (segOf_mid off m pre seg l hpre hstop ▸ hh m List.mem_cons_self))
      (.append_left _ (ih m.stop l g4 fun m' hm' =>
        segOf_behind off m m' pre seg l hpre hstop (g4.ge m' hm') ▸ hh m' (List.mem_cons_of_mem _ hm'))))

theorem condSpec_shift (g : List Tok → List Tok) (k : Nat) : ∀ (ms : List Span) (off : Nat) (rest : List Tok),
    condSpec g (off + k) (ms.map (shSpan k)) rest = condSpec g off ms rest
  | [], _, _ => rfl
  | m :: ms, off, rest => by
    simp only [List.map_cons, condSpec, shSpan, Nat.add_sub_add_right]
    rw [condSpec_shift g k ms m.stop]

theorem condSpec_map (g : List Tok → List Tok) (f : Tok → Tok)
    (hseg : ∀ seg, g (seg.map f) = (g seg).map f) : ∀ (ms : List Span) (off : Nat)
    (rest : List Tok), condSpec g off ms (rest.map f) = (condSpec g off ms rest).map f
  | [], _, _ => rfl
  | m :: ms, off, rest => by
    simp only [condSpec, ← List.map_take, ← List.map_drop, hseg, condSpec_map g f hseg ms, List.map_append]

theorem condSpec_behind (g : List Tok → List Tok) (off : Nat) (X Z : List Tok) (ms : List Span)
    (h : ∀ m ∈ ms, off + X.length ≤ m.start ∧ m.start ≤ m.stop) :
    condSpec g off ms (X ++ Z) = X ++ condSpec g (off + X.length) ms Z := by
  cases ms with
  | nil => rfl
  | cons m ms =>
    obtain ⟨h1, h2⟩ := h m (List.mem_cons_self ..)
    simp only [condSpec]
    have e : ∀ n, off + X.length ≤ n → n - off = X.length + (n - (off + X.length)) := fun n hn => by omega
    rw [e m.start h1, e m.stop (Nat.le_trans h1 h2),
      List.take_append, List.drop_append, List.drop_append, List.take_of_length_le (Nat.le_add_right _ _),
      List.drop_of_length_le (Nat.le_add_right _ _), List.drop_of_length_le (Nat.le_add_right _ _),
      Nat.add_sub_cancel_left, Nat.add_sub_cancel_left, List.nil_append, List.nil_append, List.append_assoc]

theorem condSpec_append (g : List Tok → List Tok) (Z : List Tok) (ms2 : List Span) : ∀ (ms1 : List Span) (off : Nat)
    (X : List Tok), GoodMs off ms1 (off + X.length) →
    (∀ m ∈ ms2, off + X.length ≤ m.start ∧ m.start ≤ m.stop) →
    condSpec g off (ms1 ++ ms2) (X ++ Z) = condSpec g off ms1 X ++ condSpec g (off + X.length) ms2 Z
  | [], off, X, _, h2 => condSpec_behind g off X Z ms2 h2
  | m :: ms1, off, X, hg, h2 => by
    obtain ⟨g1, g2, g3, g4⟩ := hg
    obtain ⟨pre, seg, l, rfl, hpre, hstop, hrest⟩ := split_at X off m.start m.stop g1 (Nat.le_of_lt g2) g3
    rw [hrest] at g4 h2 ⊢
    rw [List.cons_append, List.append_assoc, List.append_assoc, condSpec_cons g off m _ pre seg (l ++ Z) hpre hstop,
      condSpec_cons g off m _ pre seg l hpre hstop, condSpec_append g Z ms2 ms1 m.stop l g4 h2]
    simp only [List.append_assoc]

/-- under `PatOK` the pass returns, and what it returns arises by `PatW` writes; `hd` is what a match says of its
first token -/
theorem condensePattern_rewrites {m : Matcher} (edit : Kind → Kind) {src : List Char} {P : List Tok → Prop}
    (hp : PatOK m src P) {hd : Tok → Prop} (toks : List Tok) (hP : P toks)
    (hhead : ∀ k n t, m src (toks.drop k) = .ok n → 0 < n → (toks.drop k).head? = some t → hd t) :
    ∃ out, condensePattern m edit src toks = .ok out ∧ Rewrites (PatW hd edit) toks out := by
  obtain ⟨ms, hg, he, hh⟩ := condensePattern_spec edit hp toks hP
  refine ⟨_, he, condSpec_rewrites _ _ (condSeg_rewrites hd edit) ms 0 toks (by rwa [Nat.zero_add]) fun b hb t ht => ?_⟩
  have hpos := (hg.all b hb).1
  rw [segOf, Nat.sub_zero, List.head?_take, if_neg (by omega)] at ht
  exact hhead _ _ t (hh b hb) (by omega) ht

/-! ## `condense_pattern`: whatever comes out -/

theorem sliceE_head {α} {l s : List α} {a b : Nat} {x : α} (h : sliceE l a b = .ok s) (hx : s.head? = some x) :
    l[a]? = some x := by
  unfold sliceE at h
  split at h
  · cases h
  · cases h
    rw [List.head?_take] at hx
    split at hx
    · cases hx
    · rwa [List.head?_drop] at hx

/-- without any hypothesis on the pattern (the matches may overlap): whatever the tokens have and a written token
inherits from its block, the tokens that come out have -/
theorem condLoop_forall (edit : Kind → Kind) {Ψ : Tok → Prop}
    (hΨ : ∀ blk t, PatW (fun _ => True) edit blk t → (∀ u ∈ blk, Ψ u) → Ψ t) :
    ∀ (ms : List Span) (toks : List Tok) (rem : List Nat) (ts : List Tok) (r : List Nat),
      condLoop edit ms toks rem = .ok (ts, r) → (∀ t ∈ toks, Ψ t) → ∀ t ∈ ts, Ψ t := by
  intro ms
  induction ms with
  | nil => intro toks rem ts r h hin; simp only [condLoop] at h; cases h; exact hin
  | cons m ms ih =>
    intro toks rem ts r h hin
    simp only [condLoop] at h
    split at h
    · cases h
    · rename_i slice hs
      split at h
      · exact ih _ _ _ _ h hin
      · rename_i hc
        split at h
        · cases h
        · rename_i sp hsp
          split at h
          · cases h
          · rename_i t0 h0
            refine ih _ _ _ _ h ?_
            intro t ht
            rcases List.mem_or_eq_of_mem_set ht with ht | rfl
            · exact hin t ht
            · cases slice with
              | nil => cases hsp
              | cons a tl =>
                have : a = t0 := Option.some.inj ((sliceE_head hs rfl).symm.trans h0)
                subst this
                exact hΨ _ _ (.mk a tl sp trivial (by simpa using hc) hsp) (fun x hx => hin x (sliceE_mem hs x hx))

theorem condensePattern_forall (m : Matcher) (edit : Kind → Kind) {Ψ : Tok → Prop}
    (hΨ : ∀ blk t, PatW (fun _ => True) edit blk t → (∀ u ∈ blk, Ψ u) → Ψ t)
    {src : List Char} {toks out : List Tok} (h : condensePattern m edit src toks = .ok out)
    (hin : ∀ t ∈ toks, Ψ t) : ∀ t ∈ out, Ψ t := by
  unfold condensePattern at h
  split at h
  · cases h
  · split at h
    · cases h
    · rename_i ts r hc
      cases h
      intro t ht
      exact condLoop_forall edit hΨ _ _ _ _ _ hc hin t (mem_of_mem_removeIndices _ _ _ t ht)

end Harper
