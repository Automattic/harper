import Harper.Model.Overlaps
import Harper.Lemmas.SortSweep
/-! Lemmas about `Model/Overlaps.lean`. `remove_overlaps` on `Lint`s is the instance `Lint.s`, `Lint.e` of
`Lemmas/SortSweep.lean` (`removeOverlaps_eq`); what is proved here is the part that is about the code: the
index queue the sweep hands to `remove_indices`, `removeIndices_spec` (increasing queue). For C02d (namespace
`Harper.Md`): `remove_indices` on any queue, through the positions it reaches (`reachedIdx`, `removeIndices_reached`). -/
namespace Harper

/-- list-level view of the sweep: (kept, dropped). -/
def sweep (cur : Nat) : List Lint → List Lint × List Lint
  | [] => ([], [])
  | l :: ls =>
    if l.s < cur then ((sweep cur ls).1, l :: (sweep cur ls).2)
    else (l :: (sweep l.e ls).1, (sweep l.e ls).2)

/-- sorted by start (the part of the sort key the sweep relies on) -/
def StartSorted (ls : List Lint) : Prop := ls.Pairwise (fun a b => a.s ≤ b.s)

/-- what overlap removal looks at: the span -/
def Lint.key (x : Lint) : Nat × Nat := (x.s, x.e)

/-! ### the model's sort and sweep are the generic ones -/

theorem Lint.le_eq : Lint.le = leBy Lint.s Lint.e := rfl

theorem insertSorted_eq : insertSorted = insertBy Lint.le := by
  funext x l
  induction l with
  | nil => rfl
  | cons y ys ih => rw [insertSorted, insertBy, ih]

theorem isort_eq : isort = isortBy (leBy Lint.s Lint.e) := by
  funext l
  induction l with
  | nil => rfl
  | cons x xs ih => rw [isort, isortBy, ih, insertSorted_eq, Lint.le_eq]

theorem sweep_eq : sweep = sweepBy Lint.s Lint.e := by
  funext cur l
  induction l generalizing cur with
  | nil => rfl
  | cons x xs ih => rw [sweep, sweepBy, ih, ih]

/-! ### the index queue -/

theorem sweepIdx_ge (cur i : Nat) (ls : List Lint) : ∀ r ∈ sweepIdx cur i ls, i ≤ r := by
  induction ls generalizing cur i with
  | nil => intro r hr; cases hr
  | cons l ls ih =>
    intro r hr
    unfold sweepIdx at hr
    by_cases h : l.s < cur
    · rw [if_pos h] at hr
      rcases List.mem_cons.mp hr with rfl | hr
      · exact Nat.le_refl _
      · exact Nat.le_of_succ_le (ih _ _ r hr)
    · rw [if_neg h] at hr
      exact Nat.le_of_succ_le (ih _ _ r hr)

theorem removeIndices_nil {α} (xs : List α) (i : Nat) : removeIndices i [] xs = xs := by
  induction xs generalizing i with
  | nil => rfl
  | cons x xs ih => rw [removeIndices, ih]

theorem removeIndices_cons_keep {α} (x : α) (xs : List α) {i : Nat} {q : List Nat}
    (h : ∀ r ∈ q, i < r) : removeIndices i q (x :: xs) = x :: removeIndices (i + 1) q xs := by
  cases q with
  | nil => rfl
  | cons r q => rw [removeIndices, if_neg (Nat.ne_of_lt (h r List.mem_cons_self))]

theorem keepIndices_cons_skip {α} (x : α) (xs : List α) {i : Nat} {q : List Nat}
    (h : ∀ r ∈ q, i < r) : keepIndices i q (x :: xs) = keepIndices (i + 1) q xs := by
  cases q with
  | nil => cases xs <;> rfl
  | cons r q => rw [keepIndices, if_neg (Nat.ne_of_lt (h r List.mem_cons_self))]

theorem removeIndices_sweepIdx (cur i : Nat) (ls : List Lint) :
    removeIndices i (sweepIdx cur i ls) ls = (sweep cur ls).1 := by
  induction ls generalizing cur i with
  | nil => rfl
  | cons l ls ih =>
    unfold sweepIdx
    by_cases h : l.s < cur
    · rw [if_pos h, sweep, if_pos h, removeIndices, if_pos rfl, ih]
    · rw [if_neg h, sweep, if_neg h, removeIndices_cons_keep _ _ (sweepIdx_ge _ _ _), ih]

theorem keepIndices_sweepIdx (cur i : Nat) (ls : List Lint) :
    keepIndices i (sweepIdx cur i ls) ls = (sweep cur ls).2 := by
  induction ls generalizing cur i with
  | nil => rfl
  | cons l ls ih =>
    unfold sweepIdx
    by_cases h : l.s < cur
    · rw [if_pos h, sweep, if_pos h, keepIndices, if_pos rfl, ih]
    · rw [if_neg h, sweep, if_neg h, keepIndices_cons_skip _ _ (sweepIdx_ge _ _ _), ih]

/-! ### kept and dropped -/

theorem sweep_sublist (cur : Nat) (ls : List Lint) : (sweep cur ls).1.Sublist ls := by
  rw [sweep_eq]; exact sweepBy_sublist cur ls

theorem sweep_perm (cur : Nat) (ls : List Lint) :
    ((sweep cur ls).1 ++ (sweep cur ls).2).Perm ls := by
  rw [sweep_eq]; exact sweepBy_perm cur ls

theorem sweep_kept (cur : Nat) (ls : List Lint) (hwf : ∀ l ∈ ls, l.s ≤ l.e) :
    (∀ k ∈ (sweep cur ls).1, cur ≤ k.s) ∧
    (sweep cur ls).1.Pairwise (fun a b => a.e ≤ b.s) := by
  rw [sweep_eq]
  induction ls generalizing cur with
  | nil => exact ⟨fun _ h => (nomatch h), List.Pairwise.nil⟩
  | cons l ls ih =>
    have hwf' : ∀ x ∈ ls, x.s ≤ x.e := fun x hx => hwf x (List.mem_cons_of_mem _ hx)
    by_cases h : l.s < cur
    · rw [sweepBy_cons_drop h]; exact ih cur hwf'
    · rw [sweepBy_cons_keep h]
      have ⟨h1, h2⟩ := ih l.e hwf'
      have hl := hwf l List.mem_cons_self
      refine ⟨fun k hk => ?_, List.pairwise_cons.mpr ⟨h1, h2⟩⟩
      rcases List.mem_cons.mp hk with rfl | hk
      · omega
      · have := h1 k hk; omega

/-! ### the stable sort -/

theorem isort_perm (ls : List Lint) : (isort ls).Perm ls := by
  rw [isort_eq]; exact isortBy_perm _ ls

theorem isort_le_sorted (l : List Lint) : (isort l).Pairwise (fun a b => Lint.le a b = true) := by
  rw [isort_eq]; exact isortBy_sorted _ (leBy_total _ _) (leBy_trans _ _) l

theorem isort_sorted (ls : List Lint) : StartSorted (isort ls) := by
  rw [isort_eq]; exact isortBy_startSorted ls

/-! ### `remove_overlaps` and its complement as the two halves of the sweep -/
/-- also for fewer than two lints, which the code returns as they are -/
theorem removeOverlaps_eq_sweep (l : List Lint) : removeOverlaps l = (sweep 0 (isort l)).1 := by
  unfold removeOverlaps
  by_cases h : l.length < 2
  · rw [if_pos h]
    match l, h with
    | [], _ => rfl
    | [x], _ => rfl
  · rw [if_neg h, removeIndices_sweepIdx]

theorem droppedBy_eq_sweep (l : List Lint) : droppedBy l = (sweep 0 (isort l)).2 := by
  unfold droppedBy
  by_cases h : l.length < 2
  · rw [if_pos h]
    match l, h with
    | [], _ => rfl
    | [x], _ => rfl
  · rw [if_neg h, keepIndices_sweepIdx]

theorem removeOverlaps_eq (l : List Lint) : removeOverlaps l = removeOverlapsBy Lint.s Lint.e l := by
  rw [removeOverlaps_eq_sweep, sweep_eq, isort_eq]; rfl

/-! ### `remove_indices` with an increasing queue -/

/-- `remove_indices` with strictly increasing indices (all at or after the running index)
removes exactly the elements at those positions. -/
theorem removeIndices_spec {α} (xs : List α) (i : Nat) (q : List Nat)
    (hq : q.Pairwise (· < ·)) (hi : ∀ r ∈ q, i ≤ r) :
    removeIndices i q xs = ((xs.zipIdx i).filter (fun p => !q.contains p.2)).map (·.1) := by
  induction xs generalizing i q with
  | nil => cases q <;> rfl
  | cons x xs ih =>
    rw [List.zipIdx_cons, List.filter_cons]
    by_cases hm : i ∈ q
    · -- the indices increase from `i` on, so `i` is the head of the queue
      obtain ⟨q', rfl⟩ : ∃ q', q = i :: q' := by
        cases q with
        | nil => cases hm
        | cons r q' =>
          rcases List.mem_cons.mp hm with rfl | h'
          · exact ⟨q', rfl⟩
          · have := (List.pairwise_cons.mp hq).1 i h'
            have := hi r List.mem_cons_self
            omega
      have ⟨hr, hq'⟩ := List.pairwise_cons.mp hq
      rw [removeIndices, if_pos rfl, ih (i + 1) q' hq' hr,
        if_neg (by rw [List.contains_cons, beq_self_eq_true]; exact fun h => nomatch h)]
      refine congrArg _ (List.filter_congr fun p hp => ?_)
      have : i + 1 ≤ p.2 := List.le_snd_of_mem_zipIdx hp
      rw [List.contains_cons, beq_eq_false_iff_ne.mpr (by omega), Bool.false_or]
    · have hlt : ∀ r ∈ q, i < r :=
        fun r hr => Nat.lt_of_le_of_ne (hi r hr) (fun e => hm (e ▸ hr))
      rw [removeIndices_cons_keep x xs hlt, ih (i + 1) q hq hlt,
        if_pos (by rw [Bool.not_eq_true', ← Bool.not_eq_true, List.contains_iff_mem]; exact hm),
        List.map_cons]

end Harper

namespace Harper.Md
open Harper

/-! ### `remove_indices` on any queue -/

/-- the positions the queue-driven `retain` of `Vec::remove_indices` actually removes when it runs
over `n` elements starting at running index `i`: the head of the queue is removed when the running
index reaches it; a head that the running index has already passed (a duplicate, an index out of
order) or that lies beyond the vector blocks the queue for good -/
def reachedIdx (i : Nat) : List Nat → Nat → List Nat
  | _, 0 => []
  | [], _ + 1 => []
  | r :: q, n + 1 => if i = r then i :: reachedIdx (i + 1) q n else reachedIdx (i + 1) (r :: q) n

theorem reachedIdx_spec : ∀ (i : Nat) (q : List Nat) (n : Nat),
    (reachedIdx i q n).Sublist q ∧ (reachedIdx i q n).Pairwise (· < ·) ∧
      ∀ r ∈ reachedIdx i q n, i ≤ r ∧ r < i + n
  | i, q, 0 => by cases q <;> simp [reachedIdx]
  | i, [], n + 1 => by simp [reachedIdx]
  | i, r0 :: q, n + 1 => by
    simp only [reachedIdx]
    by_cases h : i = r0
    · subst h
      obtain ⟨h1, h2, h3⟩ := reachedIdx_spec (i + 1) q n
      rw [if_pos rfl]
      refine ⟨h1.cons_cons i, List.pairwise_cons.mpr ⟨fun b hb => ?_, h2⟩, fun r hr => ?_⟩
      · have := h3 b hb; omega
      · rcases List.mem_cons.mp hr with rfl | hr
        · omega
        · have := h3 r hr; omega
    · obtain ⟨h1, h2, h3⟩ := reachedIdx_spec (i + 1) (r0 :: q) n
      rw [if_neg h]
      exact ⟨h1, h2, fun r hr => by have := h3 r hr; omega⟩

/-- the queue can be replaced by the positions it reaches -/
theorem removeIndices_eq_reached {α} (xs : List α) : ∀ (i : Nat) (q : List Nat),
    removeIndices i q xs = removeIndices i (reachedIdx i q xs.length) xs := by
  induction xs with
  | nil => intro i q; cases q <;> simp [removeIndices]
  | cons x xs ih =>
    intro i q
    cases q with
    | nil => simp [reachedIdx]
    | cons r q =>
      simp only [List.length_cons, reachedIdx]
      by_cases h : i = r
      · subst h
        simp only [if_true, removeIndices]
        exact ih (i + 1) q
      · simp only [h, if_false, removeIndices]
        rw [removeIndices_cons_keep x xs (fun r' hr' => by
          have := (reachedIdx_spec (i + 1) (r :: q) xs.length).2.2 r' hr'; omega)]
        rw [← ih (i + 1) (r :: q)]

theorem removeIndices_reached {α} (xs : List α) (i : Nat) (q : List Nat) :
    removeIndices i q xs =
      ((xs.zipIdx i).filter (fun p => !(reachedIdx i q xs.length).contains p.2)).map (·.1) := by
  rw [removeIndices_eq_reached xs i q]
  exact removeIndices_spec xs i _ (reachedIdx_spec _ _ _).2.1
    (fun r hr => ((reachedIdx_spec _ _ _).2.2 r hr).1)

/-- every reached position removes one element, nothing else goes -/
theorem removeIndices_length {α} (xs : List α) : ∀ (i : Nat) (q : List Nat),
    (removeIndices i q xs).length + (reachedIdx i q xs.length).length = xs.length := by
  induction xs with
  | nil => intro i q; cases q <;> simp [removeIndices, reachedIdx]
  | cons x xs ih =>
    intro i q
    cases q with
    | nil => simp [removeIndices, reachedIdx, removeIndices_nil]
    | cons r q =>
      simp only [removeIndices, List.length_cons, reachedIdx]
      split
      · have := ih (i + 1) q; simp only [List.length_cons]; omega
      · have := ih (i + 1) (r :: q); simp only [List.length_cons]; omega

/-- a strictly increasing queue inside the vector is reached completely -/
theorem reachedIdx_of_increasing : ∀ (n i : Nat) (q : List Nat), q.Pairwise (· < ·) →
    (∀ r ∈ q, i ≤ r ∧ r < i + n) → reachedIdx i q n = q := by
  intro n
  induction n with
  | zero =>
    intro i q _ hb
    cases q with
    | nil => rfl
    | cons r q => have := hb r List.mem_cons_self; omega
  | succ n ih =>
    intro i q hq hb
    cases q with
    | nil => rfl
    | cons r q =>
      have ⟨hr, hq'⟩ := List.pairwise_cons.mp hq
      simp only [reachedIdx]
      by_cases h : i = r
      · subst h
        simp only [if_true]
        rw [ih (i + 1) q hq' (fun r' hr' => by
          have := hr r' hr'; have := hb r' (List.mem_cons_of_mem _ hr'); omega)]
      · simp only [h, if_false]
        exact ih (i + 1) (r :: q) hq (fun r' hr' => by
          have h1 := hb r' hr'
          have h2 := hb r List.mem_cons_self
          rcases List.mem_cons.mp hr' with rfl | h'
          · omega
          · have := hr r' h'; omega)

end Harper.Md

/-! ## `remove_overlaps` under a move of the lints, and over two separated groups -/
namespace Harper.Rules
open Harper

theorem removeOverlaps_mem (ls : List Lint) (l : Lint) (h : l ∈ removeOverlaps ls) : l ∈ ls := by
  rw [removeOverlaps_eq] at h; exact removeOverlapsBy_subset ls l h

/-- `f` moves a lint by `k` characters (whatever it does to the payload) -/
structure Moves (k : Nat) (f : Lint → Lint) : Prop where
  s : ∀ l, (f l).s = l.s + k
  e : ∀ l, (f l).e = l.e + k

theorem removeOverlaps_map {k : Nat} {f : Lint → Lint} (hf : Moves k f) (ls : List Lint) :
    removeOverlaps (ls.map f) = (removeOverlaps ls).map f := by
  rw [removeOverlaps_eq, removeOverlaps_eq]
  exact removeOverlapsBy_map (fun a => ⟨hf.s a, hf.e a⟩) ls

/-- lints of the first group end at or before `k` and start before it; the second group lies at or
after `k`: overlap removal treats the two groups separately -/
theorem removeOverlaps_append_sep (k : Nat) (A B : List Lint) (f : Lint → Lint) (hf : Moves k f)
    (hA : ∀ a ∈ A, a.s < k ∧ a.e ≤ k) :
    removeOverlaps (A ++ B.map f) = removeOverlaps A ++ (removeOverlaps B).map f := by
  rw [removeOverlaps_eq, removeOverlaps_eq, ← removeOverlaps_map hf, removeOverlaps_eq]
  refine removeOverlapsBy_append A _ fun a ha b hb => ?_
  obtain ⟨b0, _, rfl⟩ := List.mem_map.mp hb
  have := hA a ha
  rw [hf.s]; omega

end Harper.Rules
