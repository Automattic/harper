import Harper.Lemmas.Parse
/-! `PlainEnglish::parse (P ++ D) = parse P ++ shift |P| (parse D)` (`lex_append'`). For every lexer but `lex_newlines` a
newline is the end of the text (`lexWord_nlEnd` … `lexNumber_nlEnd`: `f (a ++ '\n' :: D) = f a`), so `lex_token` on a text
that ends in a newline does not depend on what follows (`lexToken_nl`); the parse loop then splits at the newline
(`parseLoop_append`). `lex_number` scans to the last ASCII digit of the whole remaining text; that is harmless because an
accepted literal ends in a digit and every longer candidate is skipped (`lexNumber_eq`). -/
namespace Harper

/-- laws of the Unicode class tables used: a newline is neither a letter nor alphanumeric; a
numeric character is not an ASCII letter or sign (true of Rust's tables, monitored) -/
structure ClsOK (cls : Cls) : Prop where
  nl_lingual : cls.lingual '\n' = false
  nl_alnum : cls.alnum '\n' = false
  numeric_plain : ∀ c, cls.numeric c = true → isAsciiAlpha c = false ∧ c ≠ '+' ∧ c ≠ '-'

/-! # A newline is the end of the text -/

theorem nl_cut {β} {f : List Char → β} {a : List Char} (h : ∀ D, f (a ++ '\n' :: D) = f a) (D : List Char) :
    f (a ++ '\n' :: D) = f (a ++ ['\n']) := (h D).trans (h []).symm

theorem lexWord_nlEnd (cls : Cls) (hl : cls.lingual '\n' = false) (a D : List Char) :
    lexWord cls (a ++ '\n' :: D) = lexWord cls a := by
  unfold lexWord
  rw [cw_stop _ '\n' (by rw [hl]; rfl)]

theorem lexTabs_nlEnd (a D : List Char) : lexTabs (a ++ '\n' :: D) = lexTabs a := by
  unfold lexTabs
  rw [cw_stop _ '\n' (by decide)]

theorem lexSpaces_nlEnd (a D : List Char) : lexSpaces (a ++ '\n' :: D) = lexSpaces a := by
  unfold lexSpaces
  rw [cw_stop _ '\n' (by decide)]

theorem lexPunctuation_nlEnd (a D : List Char) : lexPunctuation (a ++ '\n' :: D) = lexPunctuation a := by
  cases a with
  | nil =>
    show lexPunctuation ('\n' :: D) = none
    rw [lexPunctuation, if_neg (by decide), show punctOfChar '\n' = none by decide]
  | cons c a => rfl

/-- the exception: `lex_newlines` stops where the continuation does not start with a newline -/
theorem lexNewlines_nl (x D : List Char) (hD : D.head? ≠ some '\n') :
    lexNewlines (x ++ D) = lexNewlines x := by
  unfold lexNewlines
  rw [countWhile_tail_zero _ x D]
  cases D with
  | nil => rfl
  | cons d D' =>
    simp only [List.head?_cons, ne_eq, Option.some.injEq] at hD
    simp [countWhile, hD]

theorem pluralTail_nlEnd (i : Nat) (a D : List Char) : pluralTail i (a ++ '\n' :: D) = pluralTail i a := by
  rcases a with _ | ⟨c, a⟩
  · rfl
  · by_cases hc : c = 's'
    · subst hc; cases a <;> rfl
    · simp [pluralTail, hc]

theorem lexPluralDigit_nlEnd (a D : List Char) : lexPluralDigit (a ++ '\n' :: D) = lexPluralDigit a := by
  rcases a with _ | ⟨c, _ | ⟨x, a⟩⟩
  · rfl
  · simp [lexPluralDigit, pluralTail]
  · by_cases hx : x = '\''
    · subst hx; simp only [lexPluralDigit, List.cons_append, pluralTail_nlEnd]
    · have := pluralTail_nlEnd 1 (x :: a) D
      simp only [List.cons_append] at this
      simp [lexPluralDigit, hx, this]

theorem lexLongDecade_nlEnd (cls : Cls) (hnl : cls.alnum '\n' = false) (p D : List Char) :
    lexLongDecade cls (p ++ '\n' :: D) = lexLongDecade cls p := by
  have h1 : isAsciiDigit '\n' = false := by decide
  have h4 : ('\n' == '0') = false := by decide
  have h5 : ('\n' == 's') = false := by decide
  rcases p with _ | ⟨a, _ | ⟨b, _ | ⟨c, _ | ⟨d, _ | ⟨e, _ | ⟨f, p⟩⟩⟩⟩⟩⟩
  · rcases D with _ | ⟨x, _ | ⟨y, _ | ⟨z, _ | ⟨w, D⟩⟩⟩⟩ <;> simp [lexLongDecade]
  · rcases D with _ | ⟨x, _ | ⟨y, _ | ⟨z, D⟩⟩⟩ <;> simp [lexLongDecade, h1]
  · rcases D with _ | ⟨x, _ | ⟨y, D⟩⟩ <;> simp [lexLongDecade, h1]
  · rcases D with _ | ⟨x, D⟩ <;> simp [lexLongDecade, h4]
  · simp [lexLongDecade, h5]
  · simp [lexLongDecade, hnl]
  · rfl

theorem hexScan_nlEnd (cls : Cls) (hnl : cls.alnum '\n' = false) (p D : List Char) :
    hexScan cls (p ++ '\n' :: D) = hexScan cls p := by
  induction p with
  | nil => simp [hexScan, hnl, show isAsciiHex '\n' = false by decide]
  | cons c p ih => simp only [List.cons_append, hexScan, ih]

theorem lexHexNumber_nlEnd (cls : Cls) (hnl : cls.alnum '\n' = false) (p D : List Char) :
    lexHexNumber cls (p ++ '\n' :: D) = lexHexNumber cls p := by
  rcases p with _ | ⟨z, _ | ⟨x, _ | ⟨c, p⟩⟩⟩
  · rcases D with _ | ⟨x, _ | ⟨y, D⟩⟩ <;> simp [lexHexNumber, show ('\n' == '0') = false by decide]
  · rcases D with _ | ⟨x, D⟩ <;> simp [lexHexNumber, show ('\n' == 'x') = false by decide]
  · simp [lexHexNumber, show isAsciiHex '\n' = false by decide]
  · have hs := hexScan_nlEnd cls hnl (c :: p) D
    simp only [lexHexNumber, List.cons_append] at hs ⊢
    rw [hs]
    cases hk : hexScan cls (c :: p) with
    | none => rfl
    | some k =>
      simp only
      rw [← List.cons_append, List.take_append_of_le_length (hexScan_le cls _ _ hk)]

/-- fuel beyond the length of the text is never used, and a newline stops the loop like the end of the text -/
theorem regexishLoop_nlEnd (cls : Cls) (hnl : cls.alnum '\n' = false) (D : List Char) (fuel : Nat) : ∀ (fuel' i : Nat) (q : List Char),
    q.length < fuel → q.length < fuel' →
    regexishLoop cls fuel' i (q ++ '\n' :: D) = regexishLoop cls fuel i q := by
  induction fuel with
  | zero => intro _ _ _ h; exact absurd h (Nat.not_lt_zero _)
  | succ f ih =>
    intro fuel' i q hf hf'
    obtain _ | f' := fuel'
    · exact absurd hf' (Nat.not_lt_zero _)
    have stop : ∀ j, regexishLoop cls (f' + 1) j ('\n' :: D) = none := fun j => by
      simp only [regexishLoop, hnl, Bool.not_false, if_true]
    rcases q with _ | ⟨c, q1⟩
    · exact stop i
    · have hf := Nat.lt_of_succ_lt_succ hf
      have hf' := Nat.lt_of_succ_lt_succ hf'
      cases hca : cls.alnum c with
      | false => simp only [regexishLoop, List.cons_append, hca, Bool.not_false, if_true]
      | true =>
        have ih0 := fun j => ih f' j [] (Nat.zero_lt_of_lt hf) (Nat.zero_lt_of_lt hf')
        simp only [List.nil_append] at ih0
        rcases q1 with _ | ⟨x, q2⟩
        · simp [regexishLoop, hca, ih0]
        · by_cases hx : x = '-'
          · subst hx
            rcases q2 with _ | ⟨d, q3⟩
            · simp [regexishLoop, hca, hnl]
            · cases hda : cls.alnum d with
              | false => simp [regexishLoop, hca, hda]
              | true =>
                rcases q3 with _ | ⟨y, q4⟩
                · simp [regexishLoop, hca, hda, ih0]
                · by_cases hy : y = ']'
                  · subst hy; simp [regexishLoop, hca, hda]
                  · have := ih f' (i + 3) (y :: q4) (Nat.lt_of_succ_lt (Nat.lt_of_succ_lt hf))
                      (Nat.lt_of_succ_lt (Nat.lt_of_succ_lt hf'))
                    simp only [List.cons_append] at this
                    simp [regexishLoop, hca, hda, hy, this]
          · by_cases hx2 : x = ']'
            · subst hx2; simp [regexishLoop, hca]
            · have := ih f' (i + 1) (x :: q2) hf hf'
              simp only [List.cons_append] at this
              simp [regexishLoop, hca, hx, hx2, this]

theorem lexRegexish_nlEnd (cls : Cls) (hnl : cls.alnum '\n' = false) (p D : List Char) :
    lexRegexish cls (p ++ '\n' :: D) = lexRegexish cls p := by
  rcases p with _ | ⟨b, rest⟩
  · rfl
  · by_cases hb : b = '['
    · subst hb
      simp only [lexRegexish, List.cons_append]
      rw [regexishLoop_nlEnd cls hnl D _ _ 1 rest (Nat.lt_succ_self _)
        (by simp only [List.length_append, List.length_cons]; omega)]
    · simp [lexRegexish, hb]

/-! ## `lex_number` -/

def NumChar (c : Char) : Prop := isAsciiDigit c = true ∨ c = '.' ∨ c = 'e' ∨ c = 'E' ∨ c = '+' ∨ c = '-'

/-- all characters are number characters and the last one is a digit -/
def NumShape (s : List Char) : Prop := (∀ c ∈ s, NumChar c) ∧ ∃ d, s.getLast? = some d ∧ isAsciiDigit d = true

theorem dropDigits_eq (s : List Char) : dropDigits s = s.dropWhile isAsciiDigit := by
  induction s with
  | nil => rfl
  | cons c s ih => rw [dropDigits, List.dropWhile_cons, ih]

theorem dropDigits_split (s : List Char) :
    ∃ ds, s = ds ++ dropDigits s ∧ (∀ c ∈ ds, isAsciiDigit c = true) :=
  ⟨s.takeWhile isAsciiDigit, by rw [dropDigits_eq, List.takeWhile_append_dropWhile],
    fun c hc => List.all_eq_true.mp List.all_takeWhile c hc⟩

theorem dropDigits_nil (s : List Char) (h : dropDigits s = []) : ∀ c ∈ s, isAsciiDigit c = true := by
  obtain ⟨ds, e, hd⟩ := dropDigits_split s
  rw [h, List.append_nil] at e
  rw [e]; exact hd

theorem numShape_digits {s : List Char} (hne : s ≠ []) (h : ∀ c ∈ s, isAsciiDigit c = true) : NumShape s :=
  ⟨fun c hc => Or.inl (h c hc), s.getLast hne, List.getLast?_eq_some_getLast hne, h _ (List.getLast_mem hne)⟩

theorem NumShape.append {a b : List Char} (ha : ∀ c ∈ a, NumChar c) (hb : NumShape b) : NumShape (a ++ b) := by
  obtain ⟨hall, d, h1, h2⟩ := hb
  refine ⟨fun c hc => (List.mem_append.mp hc).elim (ha c) (hall c), d, ?_, h2⟩
  rw [List.getLast?_append, h1]; rfl

theorem NumShape.cons {c : Char} {b : List Char} (hc : NumChar c) (hb : NumShape b) : NumShape (c :: b) :=
  NumShape.append (a := [c]) (fun _ hx => List.mem_singleton.mp hx ▸ hc) hb

theorem isExp_shape (t : List Char) (h : isExp t = true) : NumShape t := by
  unfold isExp at h
  match t, h with
  | e :: rest, h =>
    simp only at h
    split at h
    · rename_i he
      simp only [Bool.and_eq_true, bne_iff_ne, ne_eq, beq_iff_eq] at h
      have hE : NumChar e := by
        simp only [Bool.or_eq_true, beq_iff_eq] at he
        rcases he with rfl | rfl
        · exact Or.inr (Or.inr (Or.inl rfl))
        · exact Or.inr (Or.inr (Or.inr (Or.inl rfl)))
      -- the digits after the optional sign
      have key : ∀ r : List Char, r ≠ [] ∧ dropDigits r = [] → NumShape r :=
        fun r h => numShape_digits h.1 (dropDigits_nil r h.2)
      rcases rest with _ | ⟨c, r⟩
      · simp at h
      · by_cases hp : c = '+'
        · subst hp
          exact NumShape.cons hE (NumShape.cons (Or.inr (Or.inr (Or.inr (Or.inr (Or.inl rfl))))) (key r h))
        · by_cases hm : c = '-'
          · subst hm
            exact NumShape.cons hE (NumShape.cons (Or.inr (Or.inr (Or.inr (Or.inr (Or.inr rfl))))) (key r h))
          · exact NumShape.cons hE (key (c :: r) (by simpa [hp, hm] using h))
    · cases h

theorem lowerAscii_nonalpha (c : Char) (h : isAsciiAlpha c = false) : lowerAscii c = c := by
  unfold lowerAscii
  split
  · rename_i hu
    simp only [isAsciiAlpha, Bool.or_eq_false_iff] at h
    rw [hu] at h
    exact absurd h.2 (by simp)
  · rfl

theorem parsesNumber_shape (s : List Char) (hp : parsesNumber s = true) (hl : s.getLast? ≠ some '.') :
    NumShape s := by
  unfold parsesNumber at hp
  obtain ⟨ds, hsplit, hds⟩ := dropDigits_split s
  have hlen : s.length - (dropDigits s).length = ds.length := by
    have := congrArg List.length hsplit
    simp only [List.length_append] at this
    omega
  simp only [hlen] at hp
  have hdsN : ∀ c ∈ ds, NumChar c := fun c hc => Or.inl (hds c hc)
  cases hd : dropDigits s with
  | nil =>
    rw [hd] at hp hsplit
    simp only [decide_eq_true_eq] at hp
    rw [List.append_nil] at hsplit
    rw [hsplit]
    exact numShape_digits (by intro h; rw [h] at hp; simp at hp) hds
  | cons c r =>
    rw [hd] at hp hsplit
    simp only at hp
    split at hp
    · rename_i hdot
      simp only [beq_iff_eq] at hdot
      subst hdot
      simp only [Bool.and_eq_true, decide_eq_true_eq, Bool.or_eq_true, beq_iff_eq] at hp
      obtain ⟨fs, hfsplit, hfs⟩ := dropDigits_split r
      rw [hsplit] at hl ⊢
      refine NumShape.append hdsN (NumShape.cons (Or.inr (Or.inl rfl)) ?_)
      rcases hp.2 with hnil | hexp
      · -- digits '.' digits: the literal must not end in '.'
        rw [hnil, List.append_nil] at hfsplit
        refine numShape_digits ?_ (by rw [hfsplit]; exact hfs)
        intro h; subst h
        apply hl
        simp [List.getLast?_append]
      · rw [hfsplit]
        exact NumShape.append (fun x hx => Or.inl (hfs x hx)) (isExp_shape _ hexp)
    · simp only [Bool.and_eq_true, decide_eq_true_eq] at hp
      rw [hsplit]
      exact NumShape.append hdsN (isExp_shape _ hp.2)

theorem parsesF64_shape (c : Char) (rest : List Char) (hc1 : isAsciiAlpha c = false) (hc2 : c ≠ '+')
    (hc3 : c ≠ '-') (hp : parsesF64 (c :: rest) = true) (hl : (c :: rest).getLast? ≠ some '.') :
    NumShape (c :: rest) := by
  unfold parsesF64 at hp
  have hstrip : stripSign (c :: rest) = c :: rest := by simp [stripSign, hc2, hc3]
  simp only [hstrip] at hp
  have hi : c ≠ 'i' := by intro h; subst h; simp [isAsciiAlpha] at hc1
  have hn : c ≠ 'n' := by intro h; subst h; simp [isAsciiAlpha] at hc1
  have hlow : isSpecialFloat ((c :: rest).map lowerAscii) = false := by
    simp [isSpecialFloat, lowerAscii_nonalpha c hc1, hi, hn]
  rw [hlow] at hp
  simp only [Bool.false_eq_true, if_false] at hp
  exact parsesNumber_shape _ hp hl

theorem numberLoop_skip (src : List Char) (L : Nat) (h : Skipped (src.take (L + 1))) :
    numberLoop src (L + 1) = numberLoop src L := by
  simp only [numberLoop]
  rcases h with h | h
  · rw [if_pos (by simp [h])]
  · split
    · rfl
    · rw [if_neg (by simp [h])]

theorem numberLoop_append (x D : List Char) (L : Nat) (h : L ≤ x.length) :
    numberLoop (x ++ D) L = numberLoop x L := by
  induction L with
  | zero => rfl
  | succ L ih =>
    simp only [numberLoop]
    rw [List.take_append_of_le_length h, ih (by omega)]

theorem nl_not_numChar : ¬ NumChar '\n' := by
  intro h
  rcases h with h | h | h | h | h | h <;> revert h <;> decide

/-- a candidate accepted by the loop starts with the (numeric) first character of the text, so it
has the shape of a plain number: no newline inside, a digit at the end -/
theorem numShape_of_accepted (cls : Cls) (hc : ClsOK cls) (c : Char) (r : List Char) (hnum : cls.numeric c = true)
    (h : ¬ Skipped (c :: r)) : NumShape (c :: r) := by
  have hlaw := hc.numeric_plain c hnum
  simp only [Skipped, not_or, Bool.not_eq_false] at h
  exact parsesF64_shape c _ hlaw.1 hlaw.2.1 hlaw.2.2 h.2 h.1

theorem skipped_of_nl (cls : Cls) (hc : ClsOK cls) (c : Char) (r : List Char) (hnum : cls.numeric c = true)
    (h : '\n' ∈ c :: r) : Skipped (c :: r) :=
  Classical.byContradiction fun hns => nl_not_numChar ((numShape_of_accepted cls hc c r hnum hns).1 _ h)

theorem skipped_of_last (cls : Cls) (hc : ClsOK cls) (c : Char) (r : List Char) (hnum : cls.numeric c = true)
    (d : Char) (hl : (c :: r).getLast? = some d) (hd : isAsciiDigit d = false) : Skipped (c :: r) :=
  Classical.byContradiction fun hns => by
    obtain ⟨d', h1, h2⟩ := (numShape_of_accepted cls hc c r hnum hns).2
    rw [hl] at h1
    cases h1
    rw [hd] at h2
    cases h2

theorem numberLoop_append_skipped (x t : List Char) (h : ∀ k, 0 < k → k ≤ t.length → Skipped (x ++ t.take k)) :
    ∀ k, k ≤ t.length → numberLoop (x ++ t) (x.length + k) = numberLoop x x.length := by
  intro k
  induction k with
  | zero => intro _; exact numberLoop_append x t _ (Nat.le_refl _)
  | succ k ih =>
    intro hk
    rw [← Nat.add_assoc, numberLoop_skip _ _ (by rw [Nat.add_assoc, List.take_length_add_append]; exact h _ (by omega) hk)]
    exact ih (by omega)

theorem numberLoop_trailing (cls : Cls) (hc : ClsOK cls) (c : Char) (hnum : cls.numeric c = true) (r : List Char) (e : Nat)
    (he : e ≤ r.length) (hp : ∀ d ∈ r.drop e, isAsciiDigit d = false) :
    numberLoop (c :: r) (r.length + 1) = numberLoop (c :: r.take e) (e + 1) := by
  have := numberLoop_append_skipped (c :: r.take e) (r.drop e) (fun k h0 hk => by
    have hne : (r.drop e).take k ≠ [] := by
      intro h
      have := congrArg List.length h
      simp only [List.length_take, List.length_nil] at this
      omega
    have hl : (c :: (r.take e ++ (r.drop e).take k)).getLast? = some (((r.drop e).take k).getLast hne) := by
      rw [← List.cons_append, List.getLast?_append, List.getLast?_eq_some_getLast hne]
      rfl
    exact skipped_of_last cls hc c _ hnum _ hl (hp _ (List.mem_of_mem_take (List.getLast_mem hne)))) _ (Nat.le_refl _)
  rw [List.cons_append, List.take_append_drop, List.length_cons, List.length_take, Nat.min_eq_left he, List.length_drop,
    show e + 1 + (r.length - e) = r.length + 1 by omega] at this
  exact this

theorem lexNumber_nonnumeric (cls : Cls) (c : Char) (r : List Char) (h : cls.numeric c = false) :
    lexNumber cls (c :: r) = none := by
  simp only [lexNumber, h, Bool.not_false, if_true]

/-- the scan to the last ASCII digit is harmless: the loop started from the whole text finds the same -/
theorem lexNumber_eq (cls : Cls) (hc : ClsOK cls) (c : Char) (r : List Char) (hnum : cls.numeric c = true) :
    lexNumber cls (c :: r) = match numberLoop (c :: r) (r.length + 1) with
      | some n => some (.number 10 none, n)
      | none => none := by
  simp only [lexNumber, hnum, Bool.not_true, Bool.false_eq_true, if_false]
  rcases lastDigitIdx_go_spec (c :: r) 0 none with ⟨hnd, hl⟩ | ⟨e, hl, he, hnd⟩
  · have h1 : numberLoop (c :: r.take 0) (0 + 1) = none :=
      numberLoop_skip [c] 0 (skipped_of_last cls hc c [] hnum c rfl (hnd c (List.mem_cons_self ..)))
    rw [lastDigitIdx, hl, numberLoop_trailing cls hc c hnum r 0 (Nat.zero_le _) (fun d hd => hnd d (List.mem_cons_of_mem _ hd)), h1]
  · have he : e ≤ r.length := Nat.le_of_lt_succ he
    have h2 := numberLoop_append (c :: r.take e) (r.drop e) (e + 1)
      (by rw [List.length_cons, List.length_take, Nat.min_eq_left he]; exact Nat.le_refl _)
    rw [List.cons_append, List.take_append_drop] at h2
    rw [lastDigitIdx, hl, Nat.zero_add]
    simp only
    rw [numberLoop_trailing cls hc c hnum r e he hnd, h2]
    rfl

theorem numberLoop_nlEnd (cls : Cls) (hc : ClsOK cls) (c : Char) (hnum : cls.numeric c = true) (x D y : List Char)
    (hy : x ++ '\n' :: D = c :: y) : numberLoop (c :: y) (y.length + 1) = numberLoop x x.length := by
  have := numberLoop_append_skipped x ('\n' :: D) (fun k h0 _ => by
    obtain ⟨k, rfl⟩ : ∃ j, k = j + 1 := ⟨k - 1, by omega⟩
    rw [List.take_succ_cons]
    cases x with
    | nil => cases hy; exact skipped_of_nl cls hc '\n' _ hnum (List.mem_cons_self ..)
    | cons c' x => cases hy; exact skipped_of_nl cls hc c _ hnum (by simp)) _ (Nat.le_refl _)
  rw [hy, ← List.length_append, hy] at this
  exact this

theorem lexNumber_nlEnd (cls : Cls) (hc : ClsOK cls) (a D : List Char) :
    lexNumber cls (a ++ '\n' :: D) = lexNumber cls a := by
  cases a with
  | nil =>
    cases hnum : cls.numeric '\n' with
    | false => exact lexNumber_nonnumeric cls _ _ hnum
    | true => rw [List.nil_append, lexNumber_eq cls hc _ _ hnum, numberLoop_nlEnd cls hc '\n' hnum [] D D rfl]; rfl
  | cons c a =>
    cases hnum : cls.numeric c with
    | false => exact (lexNumber_nonnumeric cls c _ hnum).trans (lexNumber_nonnumeric cls c _ hnum).symm
    | true =>
      rw [List.cons_append, lexNumber_eq cls hc _ _ hnum, lexNumber_eq cls hc _ _ hnum,
        numberLoop_nlEnd cls hc c hnum (c :: a) D (a ++ '\n' :: D) rfl]
      rfl

theorem lexNumber_nl (cls : Cls) (hc : ClsOK cls) (p D : List Char) :
    lexNumber cls (p ++ '\n' :: D) = lexNumber cls (p ++ ['\n']) := nl_cut (lexNumber_nlEnd cls hc p) D

/-! ## `lex_token` and the parse loop -/

theorem runLexer_nl (cls : Cls) (hc : ClsOK cls) (ext ext' : Ext) (pos : Nat) (hext : ext' pos = ext pos)
    (p D : List Char) (hD : D.head? ≠ some '\n') (l : LexerName) :
    runLexer cls ext' pos (p ++ '\n' :: D) l = runLexer cls ext pos (p ++ ['\n']) l := by
  cases l <;> simp only [runLexer, hext]
  · exact nl_cut (lexRegexish_nlEnd cls hc.nl_alnum p) D
  · cases p <;> rfl
  · exact nl_cut (lexTabs_nlEnd p) D
  · exact nl_cut (lexSpaces_nlEnd p) D
  · rw [List.append_cons]; exact lexNewlines_nl _ D hD
  · exact nl_cut (lexPluralDigit_nlEnd p) D
  · exact nl_cut (lexHexNumber_nlEnd cls hc.nl_alnum p) D
  · exact nl_cut (lexLongDecade_nlEnd cls hc.nl_alnum p) D
  · exact nl_cut (lexNumber_nlEnd cls hc p) D
  · exact nl_cut (lexWord_nlEnd cls hc.nl_lingual p) D
  · rfl

theorem lexToken_nl (cls : Cls) (hc : ClsOK cls) (ext ext' : Ext) (pos : Nat) (hext : ext' pos = ext pos)
    (p D : List Char) (hD : D.head? ≠ some '\n') :
    lexToken cls ext' pos (p ++ '\n' :: D) = lexToken cls ext pos (p ++ ['\n']) := by
  rw [lexToken, lexToken, firstFound_eq, firstFound_eq]
  exact congrArg (List.findSome? · _) (funext (runLexer_nl cls hc ext ext' pos hext p D hD))

theorem parseLoop_append (cls : Cls) (hc : ClsOK cls) (ext ext' : Ext) (N : Nat) (D : List Char)
    (hloc : ∀ pos, pos < N → ext' pos = ext pos) (hok : ExtOK ext N) (hok' : ExtOK ext' (N + D.length))
    (hD : D.head? ≠ some '\n') (tsD : List Tok) (fD : Nat) (hfD : D.length < fD)
    (htsD : parseLoop cls ext' fD N D = .ok tsD) :
    ∀ (fuel fuel' cursor : Nat) (p : List Char), cursor + (p.length + 1) = N → p.length + 1 < fuel →
      p.length + (1 + D.length) < fuel' →
      ∃ ts, parseLoop cls ext fuel cursor (p ++ ['\n']) = .ok ts ∧
        parseLoop cls ext' fuel' cursor (p ++ '\n' :: D) = .ok (ts ++ tsD) := by
  intro fuel
  induction fuel with
  | zero => intro fuel' cursor p _ h; omega
  | succ fuel ih =>
    intro fuel' cursor p hlen hf hf'
    obtain _ | fuel' := fuel'
    · exact absurd hf' (Nat.not_lt_zero _)
    obtain ⟨k, n, hl, hn1, hn2⟩ := lexToken_progress cls ext cursor (p ++ ['\n']) N hok
      (by rw [List.length_append]; exact hlen) (by simp)
    have hl' := (lexToken_nl cls hc ext ext' cursor (hloc cursor (by omega)) p D hD).trans hl
    rw [parseLoop_step cls ext fuel cursor (by simp) hl, parseLoop_step cls ext' fuel' cursor (by simp) hl']
    rw [List.length_append, List.length_singleton] at hn2
    by_cases hn : n ≤ p.length
    · rw [List.drop_append_of_le_length hn, List.drop_append_of_le_length hn]
      obtain ⟨ts, h1, h2⟩ := ih fuel' (cursor + n) (p.drop n) (length_drop_cursor p hn hlen) (length_drop_lt p hn1 hn hf)
        (length_drop_lt p hn1 hn hf')
      exact ⟨_ :: ts, by rw [h1]; rfl, by rw [h2]; rfl⟩
    · -- the token is all of `p` and the newline: what is left is `D`
      obtain rfl : n = p.length + 1 := Nat.le_antisymm hn2 (Nat.lt_of_not_le hn)
      obtain _ | fuel := fuel
      · exact absurd (Nat.lt_of_succ_lt_succ hf) (Nat.not_lt_zero _)
      have hD' := parseLoop_fuel cls ext' _ hok' fuel' fD (cursor + (p.length + 1)) D (by omega) (by omega) hfD
      rw [hlen, htsD] at hD'
      rw [List.drop_eq_nil_of_le (by rw [List.length_append, List.length_singleton]; exact Nat.le_refl _),
        List.drop_length_add_append, hlen]
      exact ⟨[_], rfl, by rw [List.drop_one, List.tail_cons, hD']; rfl⟩

/-- the boundary between the two texts: the first ends in a newline, the second does not start
with one (every text with a paragraph break splits this way: cut after the run of newlines) -/
def BoundaryOK (P D : List Char) : Prop := P.getLast? = some '\n' ∧ D.head? ≠ some '\n'

instance (P D : List Char) : Decidable (BoundaryOK P D) := inferInstanceAs (Decidable (_ ∧ _))

/-- the url / e-mail / hostname lexers see only their own side of the boundary: their table for
`P ++ D` is the table for `P` followed by the table for `D` -/
def ExtLocal (extP extD extPD : Ext) (n : Nat) : Prop :=
  (∀ pos, pos < n → extPD pos = extP pos) ∧ (∀ i, extPD (n + i) = extD i)

theorem extOK_of_local {extP extD extPD : Ext} {n m : Nat} (h : ExtLocal extP extD extPD n)
    (hP : ExtOK extP n) (hD : ExtOK extD m) : ExtOK extPD (n + m) := by
  intro pos k len hk
  by_cases hp : pos < n
  · rw [h.1 pos hp] at hk
    have := hP pos k len hk
    omega
  · have hpos : pos = n + (pos - n) := by omega
    rw [hpos, h.2] at hk
    have := hD _ k len hk
    omega

theorem lex_append' (cls : Cls) (hc : ClsOK cls) (P D : List Char) (hb : BoundaryOK P D)
    (extP extD extPD : Ext) (hloc : ExtLocal extP extD extPD P.length)
    (hokP : ExtOK extP P.length) (hokD : ExtOK extD D.length) :
    ∃ tp td, parsePlain cls extP P = .ok tp ∧ parsePlain cls extD D = .ok td ∧
      parsePlain cls extPD (P ++ D) = .ok (tp ++ shiftToks P.length td) := by
  have hokPD := extOK_of_local hloc hokP hokD
  obtain ⟨td, htd, _, _⟩ := parseLoop_tiles cls extD D.length hokD (D.length + 1) 0 D (by omega) (by omega)
  have hD' := parseLoop_shift cls extPD P.length (D.length + 1) 0 D
  rw [Nat.add_zero, show (fun i => extPD (P.length + i)) = extD from funext hloc.2, htd] at hD'
  have hne : P ≠ [] := by intro h; subst h; cases hb.1
  obtain ⟨p, rfl⟩ : ∃ p, P = p ++ ['\n'] := ⟨P.dropLast, by
    rw [← Option.some.inj ((List.getLast?_eq_some_getLast hne).symm.trans hb.1), List.dropLast_concat_getLast hne]⟩
  rw [List.length_append, List.length_singleton] at hloc hokP hokPD hD' ⊢
  obtain ⟨tp, h1, h2⟩ := parseLoop_append cls hc extP extPD (p.length + 1) D hloc.1 hokP hokPD hb.2
    (shiftToks (p.length + 1) td) (D.length + 1) (by omega) hD' (p.length + 1 + 1) (p.length + (D.length + 1) + 1) 0 p
    (by omega) (by omega) (by omega)
  refine ⟨tp, td, ?_, htd, ?_⟩
  · rw [parsePlain, List.length_append]; exact h1
  · rw [parsePlain, ← List.append_cons, List.length_append, List.length_cons]; exact h2

end Harper
