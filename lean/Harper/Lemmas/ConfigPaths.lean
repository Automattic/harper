import Harper.Model.ConfigPaths
import Harper.Lemmas.Effects
/-! # Lemmas for C10: which paths a parsed configuration can contain -/
namespace Harper.Effects

/-- what `from_lsp_config` maintains key by key -/
def ConfiguredPaths (e : DirsEnv) (cwd : Path) (c : PathCfg) (P : Paths) : Prop :=
  ConfiguredFile e cwd c P.userDict ∧ ConfiguredDir e cwd c P.fileDir ∧ P.stats = (defaultPaths e).stats

/-- what `from_lsp_config` can put into the three path fields -/
theorem fromLspConfig_fields {e : DirsEnv} {cwd : Path} {c : PathCfg} {P : Paths}
    (h : fromLspConfig e cwd c = some P) : ConfiguredPaths e cwd c P := by
  unfold fromLspConfig at h
  simp only at h
  -- `h` is three keys in sequence, each rejecting (`none`) or handing its paths to the next
  split at h
  · cases h
  rename_i b1 h1
  split at h
  · cases h
  rename_i b2 h2
  have q1 : ConfiguredPaths e cwd c b1 := by
    split at h1
    · cases h1; exact ⟨Or.inl rfl, Or.inl rfl, rfl⟩
    · cases h1
    · rename_i s hs
      cases h1
      by_cases h0 : s = []
      · rw [if_pos h0]; exact ⟨Or.inl rfl, Or.inl rfl, rfl⟩
      · rw [if_neg h0]; exact ⟨Or.inr (Or.inr ⟨s, hs, rfl⟩), Or.inl rfl, rfl⟩
  have q2 : ConfiguredPaths e cwd c b2 := by
    split at h2
    · cases h2; exact q1
    · cases h2
    · rename_i s hs
      cases h2
      by_cases h0 : s = []
      · rw [if_pos h0]; exact q1
      · rw [if_neg h0]; exact ⟨q1.1, Or.inr ⟨s, Or.inl hs, rfl⟩, q1.2.2⟩
  split at h
  · cases h; exact q2
  · cases h
  · rename_i s hs
    cases h
    exact ⟨q2.1, Or.inr ⟨s, Or.inr hs, rfl⟩, q2.2.2⟩

end Harper.Effects
