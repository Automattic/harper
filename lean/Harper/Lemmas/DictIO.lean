import Harper.Model.DictIO
import Harper.Lemmas.Stats
import Harper.Lemmas.Keyed
/-! Helper lemmas for C07: dictionary files, the in-memory word map, the merged accept test, what one
operation (`step_user`, `step_fileDisk`, `step_js`) and a whole history (`runOps_invariant`, `runOps_adds`)
do to each dictionary, every crash point of a save (`crashDisk_writes`); at the end, in `Harper.C07`, the
predicates on histories that C07's theorems are stated with. -/
namespace Harper.DictIO
open Harper.Spell Harper.Stats

/-! ### the predicates the property theorems are stated with -/

/-- what `str::lines` needs to give a word back: no line feed inside, no carriage return at the end.
(The empty word and words made of spaces DO survive: `load_dict` neither trims nor filters.) -/
abbrev WellFormedWord (w : Word) : Prop := '\n' ∉ w ∧ w.getLast? ≠ some '\r'

abbrev WellFormed (ws : List Word) : Prop := ∀ w ∈ ws, WellFormedWord w

/-- what a map keyed by `WordId` guarantees -/
abbrev UniqueKeys (f : Fns) (ws : List Word) : Prop :=
  ws.Pairwise (fun a b => key f a ≠ key f b)

/-- the file reloads to well-formed words (true of every file written by `save_dict` from
well-formed words; false e.g. for a hand-edited file containing `\r\r\n`) -/
abbrev Clean (f : Fns) (d : Disk) : Prop := WellFormed (loadOrEmpty f d)

/-- no two different spellings of one key among the words: what makes the word map behave like a set -/
abbrev NoCollision (f : Fns) (ws : List Word) : Prop :=
  ∀ a ∈ ws, ∀ b ∈ ws, key f a = key f b → a = b

theorem noCollision_of_subset {f : Fns} {a b : List Word} (h : NoCollision f a)
    (hs : ∀ x ∈ b, x ∈ a) : NoCollision f b :=
  fun x hx y hy => h x (hs x hx) y (hs y hy)

/-! ### bytes and chunks -/

theorem utf8Len_pos (c : Char) : 0 < utf8Len c := by
  have h : ∀ (p : Prop) [Decidable p] (a b : Nat), 0 < a → 0 < b → 0 < if p then a else b :=
    fun p _ a b ha hb => by split <;> assumption
  exact h _ _ _ (by decide) (h _ _ _ (by decide) (h _ _ _ (by decide) (by decide)))

theorem byteLen_eq_zero (cs : List Char) (h : byteLen cs = 0) : cs = [] := by
  cases cs with
  | nil => rfl
  | cons c cs => have := utf8Len_pos c; simp [byteLen] at h; omega

theorem pieces_flatten (ws : List Word) : (pieces ws).flatten = writeLog ws := by
  induction ws with
  | nil => rfl
  | cons w ws ih => simp [pieces, writeLog, ih]

theorem flushed_flatten_ne_nil (buf : List Char) :
    (if buf.isEmpty then ([] : List (List Char)) else [buf]).flatten = buf ∧
    ∀ c ∈ (if buf.isEmpty then ([] : List (List Char)) else [buf]), c ≠ [] := by
  cases buf with
  | nil => exact ⟨rfl, fun _ h => nomatch h⟩
  | cons b bs =>
    exact ⟨List.append_nil _, fun c h => by rw [List.mem_singleton.mp h]; exact List.cons_ne_nil _ _⟩

theorem chunkGo_cons (cap : Nat) (buf p : List Char) (ps : List (List Char)) :
    ∃ out buf', chunkGo cap buf (p :: ps) = out ++ chunkGo cap buf' ps ∧
      out.flatten ++ buf' = buf ++ p ∧ (0 < cap → ∀ c ∈ out, c ≠ []) := by
  obtain ⟨hf, hn⟩ := flushed_flatten_ne_nil buf
  have hp : cap ≤ byteLen p → 0 < cap → p ≠ [] := by
    rintro h hc rfl
    exact absurd h (Nat.not_le.mpr hc)
  by_cases h1 : byteLen buf + byteLen p > cap
  · by_cases h2 : byteLen p ≥ cap
    · refine ⟨(if buf.isEmpty then [] else [buf]) ++ [p], [], ?_, ?_, fun hc c h => ?_⟩
      · simp only [chunkGo, if_pos h1, if_pos h2, List.append_assoc, List.singleton_append]
      · rw [List.flatten_append, hf, List.append_nil]; exact congrArg _ (List.append_nil p)
      · rcases List.mem_append.mp h with h | h
        · exact hn c h
        · rw [List.mem_singleton.mp h]; exact hp h2 hc
    · exact ⟨_, p, by simp only [chunkGo, if_pos h1, if_neg h2], by rw [hf], fun _ => hn⟩
  · by_cases h2 : byteLen p ≥ cap
    · have hb : buf = [] := byteLen_eq_zero buf (by omega)
      refine ⟨[p], buf, by simp only [chunkGo, if_neg h1, if_pos h2, List.singleton_append], ?_,
        fun hc c h => by rw [List.mem_singleton.mp h]; exact hp h2 hc⟩
      simp [hb]
    · exact ⟨[], buf ++ p, by simp only [chunkGo, if_neg h1, if_neg h2, List.nil_append], rfl,
        fun _ _ h => nomatch h⟩

theorem chunkGo_flatten (cap : Nat) (ps : List (List Char)) :
    ∀ buf, (chunkGo cap buf ps).flatten = buf ++ ps.flatten := by
  induction ps with
  | nil => intro buf; rw [List.flatten_nil, List.append_nil]; exact (flushed_flatten_ne_nil buf).1
  | cons p ps ih =>
    intro buf
    obtain ⟨out, buf', he, hf, _⟩ := chunkGo_cons cap buf p ps
    rw [he, List.flatten_append, ih, ← List.append_assoc, hf, List.flatten_cons, List.append_assoc]

theorem chunks_flatten (ws : List Word) : (chunks ws).flatten = writeLog ws := by
  unfold chunks
  rw [chunkGo_flatten bufCap, pieces_flatten]; rfl

theorem chunkGo_ne_nil (cap : Nat) (hcap : 0 < cap) (ps : List (List Char)) :
    ∀ buf, ∀ c ∈ chunkGo cap buf ps, c ≠ [] := by
  induction ps with
  | nil => intro buf; exact (flushed_flatten_ne_nil buf).2
  | cons p ps ih =>
    intro buf c hc
    obtain ⟨out, buf', he, _, hn⟩ := chunkGo_cons cap buf p ps
    rw [he] at hc
    rcases List.mem_append.mp hc with h | h
    · exact hn hcap c h
    · exact ih buf' c h

theorem run_writes (cs : List (List Char)) :
    ∀ a t, run (cs.map Sys.write ++ [Sys.close]) (.file a t) = .file (a ++ cs.flatten) t := by
  induction cs with
  | nil => intro a t; simp [run, exec]
  | cons c cs ih =>
    intro a t
    have := ih (a ++ c) t
    simp only [run] at this ⊢
    simp only [List.map_cons, List.cons_append, List.foldl_cons, exec, this, List.flatten_cons,
      List.append_assoc]

/-- a completed `save_dict` leaves exactly `word ⏎ word ⏎ …` in the file, whatever was there -/
theorem run_saveTrace (ws : List Word) (d : Disk) :
    run (saveTrace ws) d = .file (writeLog ws) false := by
  have h := run_writes (chunks ws) [] false
  simp only [run] at h ⊢
  simp only [saveTrace, List.foldl_cons, exec, h, chunks_flatten, List.nil_append]

theorem takeBytes_all (cs : List Char) : ∀ j, byteLen cs ≤ j → takeBytes cs j = (cs, false) := by
  induction cs with
  | nil => intro j _; rfl
  | cons c cs ih =>
    intro j h
    have hp := utf8Len_pos c
    simp only [byteLen] at h
    rw [takeBytes, if_neg (by omega), if_pos (by omega), ih _ (by omega)]

theorem takeBytes_zero (cs : List Char) : takeBytes cs 0 = ([], false) := by
  cases cs <;> simp [takeBytes]

theorem takeBytes_prefix (cs : List Char) :
    ∀ j, (takeBytes cs j).1 <+: cs ∧ ((takeBytes cs j).2 = true → (takeBytes cs j).1.length < cs.length) := by
  induction cs with
  | nil => intro j; simp [takeBytes]
  | cons c cs ih =>
    intro j
    simp only [takeBytes]
    split
    · simp
    · split
      · have := ih (j - utf8Len c)
        exact ⟨(List.prefix_cons_inj c).mpr this.1, fun h => by simpa using this.2 h⟩
      · simp

theorem crashDisk_cons_succ (x : Sys) (tr : List Sys) (n j : Nat) (d : Disk) :
    crashDisk (x :: tr) (n + 1) j d = crashDisk tr n j (exec d x) := by
  simp only [crashDisk, run, List.take_succ_cons, List.foldl_cons, List.getElem?_cons_succ]

theorem crashDisk_writes (cs : List (List Char)) :
    ∀ (a : List Char) (n j : Nat), ∃ p torn,
      crashDisk (cs.map Sys.write ++ [Sys.close]) n j (.file a false) = .file (a ++ p) torn ∧
      p <+: cs.flatten ∧ (torn = true → p ≠ cs.flatten) ∧
      (cs.length ≤ n → p = cs.flatten ∧ torn = false) := by
  induction cs with
  | nil =>
    intro a n j
    refine ⟨[], false, ?_, List.nil_prefix, by simp, fun _ => ⟨rfl, rfl⟩⟩
    cases n with
    | zero => simp [crashDisk, run]
    | succ n => simp [crashDisk, run, exec]
  | cons c cs ih =>
    intro a n j
    cases n with
    | zero =>
      have ht := takeBytes_prefix c j
      refine ⟨(takeBytes c j).1, (takeBytes c j).2, by simp [crashDisk, run], ?_, ?_,
        fun h => absurd h (Nat.not_succ_le_zero _)⟩
      · exact ht.1.trans (by simp)
      · intro h he
        have := ht.2 h
        rw [he] at this
        simp at this
        omega
    | succ n =>
      obtain ⟨p, torn, h1, h2, h3, h4⟩ := ih (a ++ c) n j
      refine ⟨c ++ p, torn, ?_, ?_, ?_, fun h => ?_⟩
      · rw [List.map_cons, List.cons_append, crashDisk_cons_succ]
        simpa [exec] using h1
      · simpa using (List.prefix_append_right_inj c).mpr h2
      · intro h he
        exact h3 h (by simpa using he)
      · obtain ⟨rfl, rfl⟩ := h4 (Nat.le_of_succ_le_succ h)
        exact ⟨(List.flatten_cons ..).symm, rfl⟩

theorem crashDisk_saveTrace (ws : List Word) (old : Disk) (n j : Nat) :
    crashDisk (saveTrace ws) (n + 1) j old
      = crashDisk ((chunks ws).map Sys.write ++ [Sys.close]) n j (.file [] false) := by
  rw [saveTrace, crashDisk_cons_succ]
  cases old <;> rfl

/-! ### the word map -/

theorem mem_insert_self (f : Fns) (w : Word) (d : List Word) : w ∈ insert f w d := by
  induction d with
  | nil => simp [insert]
  | cons e d ih => simp only [insert]; split <;> simp [ih]

theorem mem_of_mem_insert (f : Fns) (w x : Word) (d : List Word) (h : x ∈ insert f w d) :
    x = w ∨ x ∈ d := by
  induction d with
  | nil => exact Or.inl (List.mem_singleton.mp h)
  | cons e d ih =>
    simp only [insert] at h
    split at h
    · exact (List.mem_cons.mp h).imp_right (List.mem_cons_of_mem _)
    · rcases List.mem_cons.mp h with h | h
      · exact Or.inr (h ▸ List.mem_cons_self)
      · exact (ih h).imp_right (List.mem_cons_of_mem _)

theorem mem_insert_of_ne (f : Fns) (w x : Word) (d : List Word) (hx : x ∈ d)
    (hk : key f x ≠ key f w) : x ∈ insert f w d := by
  induction d with
  | nil => cases hx
  | cons e d ih =>
    simp only [insert]
    rcases List.mem_cons.mp hx with rfl | hx
    · have : (key f x == key f w) = false := beq_eq_false_iff_ne.mpr hk
      simp [this]
    · split
      · exact List.mem_cons_of_mem _ hx
      · exact List.mem_cons_of_mem _ (ih hx)

theorem mem_insert_of_benign (f : Fns) (w x : Word) (d : List Word) (hx : x ∈ d)
    (hk : key f w = key f x → w = x) : x ∈ insert f w d := by
  by_cases h : key f x = key f w
  · rw [← hk h.symm]; exact mem_insert_self f w d
  · exact mem_insert_of_ne f w x d hx h

theorem uniqueKeys_iff (f : Fns) (d : List Word) : UniqueKeys f d ↔ (d.map (key f)).Nodup :=
  List.pairwise_map.symm

theorem keyLaw_insert (f : Fns) : KeyLaw (key f) (key f) fun d w => insert f w d := by
  intro d w
  induction d with
  | nil => exact ⟨fun h => (nomatch h), fun _ => rfl⟩
  | cons e d ih =>
    simp only [insert]
    by_cases hk : key f e = key f w
    · simp [hk]
    · have hk' : ¬ key f w = key f e := fun h => hk h.symm
      simpa only [beq_iff_eq, hk, if_false, List.map_cons, List.mem_cons, hk', false_or, List.cons_append,
        List.cons.injEq, true_and] using ih

theorem uniqueKeys_insert (f : Fns) (w : Word) (d : List Word) (hu : UniqueKeys f d) :
    UniqueKeys f (insert f w d) :=
  (uniqueKeys_iff f _).mpr ((keyLaw_insert f).nodup ((uniqueKeys_iff f d).mp hu) w)

theorem noCollision_of_uniqueKeys (f : Fns) (d : List Word) (hu : UniqueKeys f d) : NoCollision f d :=
  fun _ ha _ hb => List.Pairwise.forall_of_forall_of_flip (R := fun a b => key f a = key f b → a = b)
    (fun _ _ _ => rfl) (hu.imp fun h e => absurd e h) (hu.imp fun h e => absurd e.symm h) ha hb

/-- under unique keys, an entry other than the inserted word survives only with another key -/
theorem key_ne_of_mem_insert (f : Fns) (w x : Word) (d : List Word) (hu : UniqueKeys f d)
    (h : x ∈ insert f w d) : x = w ∨ (x ∈ d ∧ key f x ≠ key f w) := by
  by_cases hx : x = w
  · exact Or.inl hx
  · exact Or.inr ⟨(mem_of_mem_insert f w x d h).resolve_left hx, fun hk =>
      hx (noCollision_of_uniqueKeys f _ (uniqueKeys_insert f w d hu) x h w (mem_insert_self f w d) hk)⟩

theorem insert_fresh (f : Fns) (w : Word) (d : List Word) (h : ∀ e ∈ d, key f e ≠ key f w) :
    insert f w d = d ++ [w] := by
  induction d with
  | nil => rfl
  | cons e d ih =>
    have : (key f e == key f w) = false := beq_eq_false_iff_ne.mpr (h e (by simp))
    simp only [insert, this, List.cons_append]
    rw [ih (fun x hx => h x (List.mem_cons_of_mem _ hx))]
    simp

theorem uniqueKeys_insertAll (f : Fns) (ws d : List Word) (hu : UniqueKeys f d) :
    UniqueKeys f (insertAll f d ws) :=
  (uniqueKeys_iff f _).mpr ((keyLaw_insert f).nodup_foldl ws ((uniqueKeys_iff f d).mp hu))

theorem uniqueKeys_loadOrEmpty (f : Fns) (d : Disk) : UniqueKeys f (loadOrEmpty f d) := by
  unfold loadOrEmpty loadDict
  cases readToString d with
  | none => exact List.Pairwise.nil
  | some s => exact uniqueKeys_insertAll f _ [] List.Pairwise.nil

theorem insertAll_unique (f : Fns) (ws d : List Word) (h : UniqueKeys f (d ++ ws)) :
    insertAll f d ws = d ++ ws :=
  foldl_insert_fresh (key f) (fun d w => insert f w d) (fun m w hw => insert_fresh f w m fun e he hk =>
    hw (List.mem_map.mpr ⟨e, he, hk⟩)) ws d ((uniqueKeys_iff f _).mp h)

theorem mem_of_mem_insertAll (f : Fns) (x : Word) (ws : List Word) :
    ∀ d, x ∈ insertAll f d ws → x ∈ d ∨ x ∈ ws := by
  induction ws with
  | nil => intro d h; exact Or.inl h
  | cons w ws ih =>
    intro d h
    rcases ih (insert f w d) h with h | h
    · rcases mem_of_mem_insert f w x d h with h | h
      · exact Or.inr (by simp [h])
      · exact Or.inl h
    · exact Or.inr (List.mem_cons_of_mem _ h)

/-- `extend_words` keeps (or brings in) `w` when no word of the batch with `w`'s key is spelt differently -/
theorem mem_insertAll (f : Fns) (w : Word) (ws : List Word) :
    (∀ x ∈ ws, key f x = key f w → x = w) → ∀ d, (w ∈ d ∨ w ∈ ws) → w ∈ insertAll f d ws := by
  induction ws with
  | nil =>
    intro _ d h
    rcases h with h | h
    · exact h
    · cases h
  | cons x ws ih =>
    intro hk d h
    refine ih (fun y hy => hk y (List.mem_cons_of_mem _ hy)) (insert f x d) ?_
    rcases h with h | h
    · exact Or.inl (mem_insert_of_benign f x w d h (hk x List.mem_cons_self))
    · rcases List.mem_cons.mp h with rfl | h
      · exact Or.inl (mem_insert_self f w d)
      · exact Or.inr h

theorem mem_insertAll_iff (f : Fns) (x : Word) (ws d : List Word) (hcol : NoCollision f (d ++ ws)) :
    x ∈ insertAll f d ws ↔ x ∈ d ∨ x ∈ ws := by
  refine ⟨mem_of_mem_insertAll f x ws d, fun hx => ?_⟩
  have hx' : x ∈ d ++ ws := List.mem_append.mpr hx
  exact mem_insertAll f x ws (fun y hy hk => hcol y (List.mem_append_right _ hy) x hx' hk) d hx

/-! ### save then load -/

theorem loadWords_writeLog (f : Fns) (ws : List Word) (hw : WellFormed ws)
    (hu : UniqueKeys f ws) : loadWords f (writeLog ws) = ws := by
  unfold loadWords
  rw [lines_writeLog ws hw]
  simpa using insertAll_unique f ws [] (by simpa using hu)

theorem orderOf_perm (ord d : List Word) : (orderOf ord d).Perm d := by
  unfold orderOf
  split
  · rename_i h; exact List.isPerm_iff.mp h
  · exact List.Perm.refl _

theorem uniqueKeys_perm (f : Fns) {a b : List Word} (p : a.Perm b) (h : UniqueKeys f b) :
    UniqueKeys f a :=
  (p.pairwise_iff (fun h => Ne.symm h)).mpr h

theorem loadDict_writeLog (f : Fns) (ws : List Word) (hw : WellFormed ws) (hu : UniqueKeys f ws) :
    loadDict f (.file (writeLog ws) false) = some ws :=
  congrArg some (loadWords_writeLog f ws hw hu)

/-- one `HarperAddToUserDict` on a clean file: the sequence written, a permutation of (old dictionary with
`w` inserted), is read back as written, so the file is clean again and reloads to those words -/
theorem add_reload (f : Fns) (disk : Disk) (w : Word) (ord : List Word) (hc : Clean f disk)
    (hw : WellFormedWord w) :
    Clean f (run (saveTrace (savedWords f disk w ord)) disk) ∧
    ∀ x, x ∈ loadOrEmpty f (run (saveTrace (savedWords f disk w ord)) disk)
      ↔ x ∈ insert f w (loadOrEmpty f disk) := by
  have hp := orderOf_perm ord (insert f w (loadOrEmpty f disk))
  have hu : UniqueKeys f (savedWords f disk w ord) :=
    uniqueKeys_perm f hp (uniqueKeys_insert f w _ (uniqueKeys_loadOrEmpty f disk))
  have hwf : WellFormed (savedWords f disk w ord) := fun x hx =>
    (mem_of_mem_insert f w x _ (hp.mem_iff.mp hx)).elim (· ▸ hw) (hc x)
  rw [run_saveTrace, Clean, loadOrEmpty, loadDict_writeLog f _ hwf hu]
  exact ⟨hwf, fun x => hp.mem_iff⟩

/-! ### lookup / accept on word lists -/

theorem lookup_entries_of_mem (f : Fns) (d : List Word) (hu : UniqueKeys f d) (w : Word)
    (hw : w ∈ d) (q : Word) (hk : key f q = key f w) :
    lookup f (entries d) q = some ⟨w, true⟩ := by
  induction d with
  | nil => cases hw
  | cons e d ih =>
    have ⟨h1, h2⟩ := List.pairwise_cons.mp hu
    unfold lookup entries
    rw [List.map_cons, List.find?_cons]
    rcases List.mem_cons.mp hw with rfl | hw'
    · have : (key f w == key f q) = true := by rw [hk]; exact beq_self_eq_true _
      simp [this]
    · have hne : (key f e == key f q) = false := by
        rw [hk]; exact beq_eq_false_iff_ne.mpr (h1 w hw')
      simp only [hne]
      exact ih h2 hw'

theorem lookup_entries_none (f : Fns) (d : List Word) (q : Word)
    (h : ∀ e ∈ d, key f e ≠ key f q) : lookup f (entries d) q = none := by
  unfold lookup entries
  rw [List.find?_eq_none]
  intro e he
  obtain ⟨x, hx, rfl⟩ := List.mem_map.mp he
  simpa using h x hx

theorem lookup_entries_dialectOk (f : Fns) (d : List Word) (q : Word) (e : Entry)
    (h : lookup f (entries d) q = some e) : e.dialectOk = true := by
  have := List.mem_of_find?_eq_some h
  obtain ⟨x, _, rfl⟩ := List.mem_map.mp this
  rfl

theorem containsExact_entries (f : Fns) (d : List Word) (hu : UniqueKeys f d) (w : Word)
    (hw : w ∈ d) (hn : f.normalize w = w) : containsExact f (entries d) w = true := by
  unfold containsExact
  rw [hn, lookup_entries_of_mem f d hu w hw w rfl]
  simp

theorem acceptM_head (f : Fns) (d : List Word) (rest : List (List Entry)) (hd : UniqueKeys f d)
    (w : Word) (hw : w ∈ d) (hn : f.normalize w = w) : acceptM f (entries d :: rest) w = true := by
  simp [acceptM, lookupM, containsExactM, lookup_entries_of_mem f d hd w hw w rfl,
    containsExact_entries f d hd w hw hn]

/-- a child in front (the curated dictionary, the user dictionary) that lacks the key, or
admits it for the active dialect, does not turn an accept into a report -/
theorem acceptM_cons (f : Fns) (c : List Entry) (ch : List (List Entry)) (w : Word)
    (hc : ∀ e, lookup f c w = some e → e.dialectOk = true) (h : acceptM f ch w = true) :
    acceptM f (c :: ch) w = true := by
  unfold acceptM lookupM containsExactM at h ⊢
  cases hm : List.findSome? (fun c => lookup f c w) ch with
  | none => simp [hm] at h
  | some e' =>
    simp only [hm, Bool.and_eq_true, Bool.or_eq_true] at h
    cases hl : lookup f c w <;>
      simp only [List.findSome?_cons, hl, hm, List.any_cons, Bool.and_eq_true, Bool.or_eq_true]
    · exact ⟨h.1, h.2.imp Or.inr Or.inr⟩
    · exact ⟨hc _ hl, h.2.imp Or.inr Or.inr⟩

/-! ### the file dictionaries of a state, by name -/

theorem fileDisk_cons_ne (files : List (Nat × Disk)) (n m : Nat) (d : Disk) (h : m ≠ n) :
    fileDisk ((n, d) :: files) m = fileDisk files m := by
  unfold fileDisk
  have : (m == n) = false := by simpa using h
  simp [List.lookup, this]

theorem fileDisk_cons_self (files : List (Nat × Disk)) (n : Nat) (d : Disk) :
    fileDisk ((n, d) :: files) n = d := by
  simp [fileDisk, List.lookup]

/-! ### the document URL (`UrlKind`) in `HarperAddToFileDict` and in a document check -/

theorem loadFileDict_file (f : Fns) (disk : Disk) :
    loadFileDict f fileUrl disk = some (loadOrEmpty f disk) := rfl

theorem loadFileDict_untitled (f : Fns) (u : UrlKind) (disk : Disk) (h : u.untitled = true) :
    loadFileDict f u disk = some [] := by simp [loadFileDict, h]

theorem childrenOf_file (f : Fns) (cur : List Entry) (s : State) (n : Nat) :
    childrenOf f cur s fileUrl n = some (children f cur s n) := rfl

theorem step_addFile_file (f : Fns) (cur : List Entry) (s : State) (n : Nat) (w : Word)
    (ord : List Word) :
    step f cur s (.addFile fileUrl n w ord) =
      ({ s with
          files := (n, run (saveTrace (savedWords f (fileDisk s.files n) w ord)) (fileDisk s.files n))
            :: s.files,
          mem := loadOrEmpty f s.user }, []) := rfl

theorem step_lint_file (f : Fns) (cur : List Entry) (s : State) (n : Nat) (qs : List Word) :
    step f cur s (.lint fileUrl n qs) =
      ({ s with mem := loadOrEmpty f s.user }, qs.map (acceptM f (children f cur s n))) := rfl

/-- `HarperAddToFileDict` by the two tests on the URL: a scheme other than `untitled` with a path saves
(as `step_addFile_file`); `untitled:/a/b.md` saves nothing (`save_file_dictionary` returns before writing)
and the document is re-read from its path; without a path nothing happens at all -/
theorem step_addFile (f : Fns) (cur : List Entry) (s : State) (u : UrlKind) (n : Nat) (w : Word)
    (ord : List Word) :
    step f cur s (.addFile u n w ord) =
      if u.path = true ∧ u.untitled = false then
        ({ s with
            files := (n, run (saveTrace (savedWords f (fileDisk s.files n) w ord)) (fileDisk s.files n))
              :: s.files,
            mem := loadOrEmpty f s.user }, [])
      else if u.path = true then ({ s with mem := loadOrEmpty f s.user }, [])
      else (s, []) := by
  obtain ⟨_ | _, _ | _⟩ := u <;> rfl

theorem step_lint_frame (f : Fns) (cur : List Entry) (s : State) (u : UrlKind) (n : Nat)
    (qs : List Word) :
    (step f cur s (.lint u n qs)).1.user = s.user ∧ (step f cur s (.lint u n qs)).1.files = s.files ∧
    (step f cur s (.lint u n qs)).1.js = s.js := by
  simp only [step]
  split <;> exact ⟨rfl, rfl, rfl⟩

/-! ### what one operation does to the user dictionary file, to one file dictionary, to the JS linter -/

theorem step_user (f : Fns) (cur : List Entry) (s : State) (op : Op) :
    (step f cur s op).1.user = match op with
      | .add w ord => run (saveTrace (savedWords f s.user w ord)) s.user
      | .crashAdd w ord k j => crashDisk (saveTrace (savedWords f s.user w ord)) k j s.user
      | _ => s.user := by
  cases op with
  | addFile u n w ord => rw [step_addFile]; split; rfl; split <;> rfl
  | lint u n qs => exact (step_lint_frame f cur s u n qs).1
  | _ => rfl

theorem step_fileDisk (f : Fns) (cur : List Entry) (s : State) (op : Op) (n : Nat) :
    fileDisk (step f cur s op).1.files n = match op with
      | .addFile u m w ord =>
        if u.path = true ∧ u.untitled = false ∧ m = n then
          run (saveTrace (savedWords f (fileDisk s.files n) w ord)) (fileDisk s.files n)
        else fileDisk s.files n
      | _ => fileDisk s.files n := by
  cases op with
  | addFile u m w ord =>
    rw [step_addFile]
    dsimp only
    by_cases hu : u.path = true ∧ u.untitled = false
    · rw [if_pos hu]
      by_cases hm : m = n
      · rw [if_pos ⟨hu.1, hu.2, hm⟩, hm]; exact fileDisk_cons_self _ _ _
      · rw [if_neg (fun h => hm h.2.2)]; exact fileDisk_cons_ne _ _ _ _ (Ne.symm hm)
    · have hn : ¬(u.path = true ∧ u.untitled = false ∧ m = n) := fun h => hu ⟨h.1, h.2.1⟩
      rw [if_neg hu, if_neg hn]
      split <;> rfl
  | lint u m qs => rw [(step_lint_frame f cur s u m qs).2.1]
  | _ => rfl

theorem step_js (f : Fns) (cur : List Entry) (s : State) (op : Op) :
    (step f cur s op).1.js = match op with
      | .jsImport ws => s.js.importWords f ws
      | .jsRestart ord => Js.importWords f (orderOf ord s.js.user) {}
      | _ => s.js := by
  cases op with
  | addFile u n w ord => rw [step_addFile]; split; rfl; split <;> rfl
  | lint u n qs => exact (step_lint_frame f cur s u n qs).2.2
  | _ => rfl

/-! ### histories -/

theorem runOps_invariant (f : Fns) (cur : List Entry) (I : State → Prop) (ok : Op → Prop)
    (hstep : ∀ s op, ok op → I s → I (step f cur s op).1) (ops : List Op) :
    ∀ s, (∀ op ∈ ops, ok op) → I s → I (runOps f cur s ops) := by
  induction ops with
  | nil => intro s _ h; exact h
  | cons op ops ih =>
    intro s hok h
    exact ih _ (fun o ho => hok o (List.mem_cons_of_mem _ ho)) (hstep s op (hok op List.mem_cons_self) h)

/-- `g` is a dictionary held by the state (a file as it reloads, the JS `user_dictionary`), `adds` the
words a history adds to it, `W` what is known of those words. If one operation, on a state satisfying `I`
and with no two spellings of one key among the words held and added, keeps `I` and makes `g` hold what it
held and the words added, then a whole history does. -/
theorem runOps_adds (f : Fns) (cur : List Entry) (g : State → List Word) (I : State → Prop)
    (ok : Op → Prop) (W : Word → Prop) (adds : List Op → List Word) (hnil : adds [] = [])
    (hcons : ∀ op ops, adds (op :: ops) = adds [op] ++ adds ops)
    (hstep : ∀ s op, I s → ok op → (∀ w ∈ adds [op], W w) → NoCollision f (g s ++ adds [op]) →
      I (step f cur s op).1 ∧ ∀ x, x ∈ g (step f cur s op).1 ↔ x ∈ g s ∨ x ∈ adds [op])
    (ops : List Op) : ∀ s, I s → (∀ op ∈ ops, ok op) → (∀ w ∈ adds ops, W w) →
      NoCollision f (g s ++ adds ops) →
      I (runOps f cur s ops) ∧ ∀ x, x ∈ g (runOps f cur s ops) ↔ x ∈ g s ++ adds ops := by
  induction ops with
  | nil => intro s hI _ _ _; exact ⟨hI, fun x => by rw [hnil, List.append_nil]; rfl⟩
  | cons op ops ih =>
    intro s hI hok hW hcol
    rw [hcons] at hW hcol ⊢
    obtain ⟨hI', hm⟩ := hstep s op hI (hok op List.mem_cons_self)
      (fun w hw => hW w (List.mem_append_left _ hw))
      (noCollision_of_subset hcol fun x hx => by
        rw [← List.append_assoc]; exact List.mem_append_left _ hx)
    obtain ⟨hI'', hm'⟩ := ih (step f cur s op).1 hI' (fun o ho => hok o (List.mem_cons_of_mem _ ho))
      (fun w hw => hW w (List.mem_append_right _ hw))
      (noCollision_of_subset hcol fun x hx => by
        simpa only [List.mem_append, hm, or_assoc] using hx)
    refine ⟨hI'', fun x => ?_⟩
    show x ∈ g (runOps f cur (step f cur s op).1 ops) ↔ _
    simp only [hm', List.mem_append, hm, or_assoc]

/-! ### the JS linter — `import_words`, `export_words` + `new Linter` (`harper-wasm/src/lib.rs`) -/

/-- `word_count` grows when the batch holds a word whose key the map lacks -/
theorem length_insertAll_lt (f : Fns) (w : Word) (ws : List Word) (hw : w ∈ ws) (d : List Word)
    (hd : ∀ e ∈ d, key f e ≠ key f w) : d.length < (insertAll f d ws).length :=
  (keyLaw_insert f).length_foldl_lt hw fun h => by
    obtain ⟨e, he, hk⟩ := List.mem_map.mp h
    exact hd e he hk

theorem insert_eq_or_append (f : Fns) (w : Word) (d : List Word)
    (h : ∀ e ∈ d, key f e = key f w → e = w) : insert f w d = d ∨ insert f w d = d ++ [w] := by
  induction d with
  | nil => exact Or.inr rfl
  | cons e d ih =>
    simp only [insert]
    split
    · rename_i hk
      have hk : key f e = key f w := by simpa using hk
      rw [h e (by simp) hk]; exact Or.inl rfl
    · rcases ih (fun x hx => h x (List.mem_cons_of_mem _ hx)) with h' | h'
      · rw [h']; exact Or.inl rfl
      · rw [h']; exact Or.inr rfl

/-- without collisions a batch either changes nothing or makes the map longer -/
theorem insertAll_eq_or_longer (f : Fns) (ws : List Word) :
    ∀ d, NoCollision f (d ++ ws) → insertAll f d ws = d ∨ d.length < (insertAll f d ws).length := by
  induction ws with
  | nil => intro d _; exact Or.inl rfl
  | cons w ws ih =>
    intro d hc
    have hw : ∀ e ∈ d, key f e = key f w → e = w :=
      fun e he hk => hc e (by simp [he]) w (by simp) hk
    show insertAll f (insert f w d) ws = d ∨ d.length < (insertAll f (insert f w d) ws).length
    rcases insert_eq_or_append f w d hw with h | h
    · rw [h]
      exact ih d (noCollision_of_subset hc fun x hx => by
        rcases List.mem_append.mp hx with hx | hx <;> simp [hx])
    · rw [h]
      have h2 : (d ++ [w]).length ≤ (insertAll f (d ++ [w]) ws).length :=
        (keyLaw_insert f).length_foldl_ge ws _
      rw [List.length_append] at h2
      exact Or.inr h2

/-- what a later operation may be for the imported word `w` to stay accepted by the JS linter: a later
`import_words` batch must not hold a DIFFERENT spelling of `w`'s key (the case-variant staleness of
`C07.js_import_case_variant_stale`); everything else — `new Linter` + `import_words(export_words())` in any
order, lints, and all the language-server operations, which do not touch the JS linter — is harmless -/
def BenignJs (f : Fns) (w : Word) : Op → Prop
  | .jsImport ws => ∀ x ∈ ws, key f x = key f w → x = w
  | _ => True

instance (f : Fns) (w : Word) : DecidablePred (BenignJs f w) := fun op => by
  cases op <;> unfold BenignJs <;> infer_instance

/-- the invariant of "accepted from then on" for the JS linter: both dictionaries are keyed maps and both
hold `w` (the lint dictionary may lag behind `user_dictionary`, so both are carried) -/
abbrev JsHolds (f : Fns) (w : Word) (js : Js) : Prop :=
  UniqueKeys f js.user ∧ UniqueKeys f js.lint ∧ w ∈ js.user ∧ w ∈ js.lint

/-- `import_words` of a batch that holds `w`, whose key is new: the count grows, the lint dictionary is rebuilt -/
theorem jsHolds_import_new (f : Fns) (w : Word) (ws : List Word) (js : Js)
    (hu : UniqueKeys f js.user) (hnew : ∀ e ∈ js.user, key f e ≠ key f w) (hw : w ∈ ws)
    (hk : ∀ x ∈ ws, key f x = key f w → x = w) : JsHolds f w (js.importWords f ws) := by
  have hu' := uniqueKeys_insertAll f ws js.user hu
  have hm' := mem_insertAll f w ws hk js.user (Or.inr hw)
  have hlt := length_insertAll_lt f w ws hw js.user hnew
  simp only [JsHolds, Js.importWords, gt_iff_lt, hlt, if_true]
  exact ⟨hu', hu', hm', hm'⟩

/-- `new Linter` + `import_words(export_words())` rebuilds exactly the exported sequence, in both
dictionaries -/
theorem js_restart_exact (f : Fns) (ord : List Word) (js : Js) (hu : UniqueKeys f js.user) :
    Js.importWords f (orderOf ord js.user) {} = ⟨orderOf ord js.user, orderOf ord js.user⟩ := by
  have hi : insertAll f [] (orderOf ord js.user) = orderOf ord js.user :=
    insertAll_unique f _ [] (uniqueKeys_perm f (orderOf_perm ord js.user) hu)
  simp only [Js.importWords, hi]
  cases orderOf ord js.user <;> simp

theorem benignJs_runOps (f : Fns) (cur : List Entry) (w : Word) (rest : List Op) (s : State)
    (hb : ∀ op ∈ rest, BenignJs f w op) (h : JsHolds f w s.js) :
    JsHolds f w (runOps f cur s rest).js := by
  refine runOps_invariant f cur (fun s => JsHolds f w s.js) (BenignJs f w) (fun s op hb h => ?_) rest s
    hb h
  obtain ⟨hu, hl, hwu, hwl⟩ := h
  rw [step_js]
  cases op with
  | jsImport ws =>
    have hu' := uniqueKeys_insertAll f ws s.js.user hu
    have hm' := mem_insertAll f w ws hb s.js.user (Or.inl hwu)
    simp only [JsHolds, Js.importWords]
    split
    · exact ⟨hu', hu', hm', hm'⟩
    · exact ⟨hu', hl, hm', hwl⟩
  | jsRestart ord =>
    have hp := orderOf_perm ord s.js.user
    dsimp only
    rw [js_restart_exact f ord s.js hu]
    exact ⟨uniqueKeys_perm f hp hu, uniqueKeys_perm f hp hu, hp.mem_iff.mpr hwu, hp.mem_iff.mpr hwu⟩
  | _ => exact ⟨hu, hl, hwu, hwl⟩

/-- the words of the `import_words` calls of a history -/
def jsImports : List Op → List Word
  | [] => []
  | .jsImport ws :: ops => ws ++ jsImports ops
  | _ :: ops => jsImports ops

theorem jsImports_cons (op : Op) (ops : List Op) :
    jsImports (op :: ops) = jsImports [op] ++ jsImports ops := by
  cases op <;> simp [jsImports]

theorem js_step_adds (f : Fns) (cur : List Entry) (s : State) (op : Op)
    (hs : s.js.lint = s.js.user ∧ UniqueKeys f s.js.user)
    (hcol : NoCollision f (s.js.user ++ jsImports [op])) :
    ((step f cur s op).1.js.lint = (step f cur s op).1.js.user ∧
      UniqueKeys f (step f cur s op).1.js.user) ∧
    ∀ x, x ∈ (step f cur s op).1.js.user ↔ x ∈ s.js.user ∨ x ∈ jsImports [op] := by
  rw [step_js]
  cases op with
  | jsImport ws =>
    have he : jsImports [.jsImport ws] = ws := List.append_nil ws
    rw [he] at hcol ⊢
    refine ⟨⟨?_, uniqueKeys_insertAll f ws _ hs.2⟩, fun x => mem_insertAll_iff f x ws _ hcol⟩
    -- without collisions a batch that does not raise the count changes nothing
    simp only [Js.importWords]
    split
    · rfl
    · rename_i hgt
      rcases insertAll_eq_or_longer f ws s.js.user hcol with h | h
      · rw [h, hs.1]
      · exact absurd h hgt
  | jsRestart ord =>
    have hp := orderOf_perm ord s.js.user
    dsimp only
    rw [js_restart_exact f ord s.js hs.2]
    exact ⟨⟨rfl, uniqueKeys_perm f hp hs.2⟩, fun x => by simp [hp.mem_iff, jsImports]⟩
  | _ => exact ⟨hs, fun x => by simp [jsImports]⟩

end Harper.DictIO

/-! ### the histories of the property theorems: what a later operation may be, which words were added -/

namespace Harper.C07
open Harper.Spell Harper.Stats Harper.DictIO

/-- what a later operation may be for the word `w` to stay accepted -/
def Benign (f : Fns) (w : Word) : Op → Prop
  | .add w' _ => WellFormedWord w' ∧ (key f w' = key f w → w' = w)
  | .crashAdd _ _ _ _ => False
  | _ => True

instance (f : Fns) (w : Word) : DecidablePred (Benign f w) := fun op => by
  cases op <;> unfold Benign <;> infer_instance

theorem benign_runOps (f : Fns) (cur : List Entry) (w : Word) (rest : List Op) (s : State)
    (hb : ∀ op ∈ rest, Benign f w op) (hc : Clean f s.user) (hm : w ∈ loadOrEmpty f s.user) :
    w ∈ loadOrEmpty f (runOps f cur s rest).user := by
  refine (runOps_invariant f cur (fun s => Clean f s.user ∧ w ∈ loadOrEmpty f s.user) (Benign f w)
    (fun s op hb h => ?_) rest s hb ⟨hc, hm⟩).2
  rw [step_user]
  cases op with
  | add w' ord =>
    obtain ⟨hc', hm'⟩ := add_reload f s.user w' ord h.1 hb.1
    exact ⟨hc', (hm' w).mpr (mem_insert_of_benign f w' w _ h.2 hb.2)⟩
  | crashAdd _ _ _ _ => cases hb
  | _ => exact h

/-- the words of the `HarperAddToUserDict` commands of a history -/
def userAdds : List Op → List Word
  | [] => []
  | .add w _ :: ops => w :: userAdds ops
  | _ :: ops => userAdds ops

def isCrash : Op → Bool
  | .crashAdd _ _ _ _ => true
  | _ => false

theorem userAdds_cons (op : Op) (ops : List Op) :
    userAdds (op :: ops) = userAdds [op] ++ userAdds ops := by
  cases op <;> rfl

/-- what a later `HarperAddToFileDict` for the same dictionary file `n` may be for `w` to stay in it:
issued from a URL without a path, or from an `untitled:` URL (with or without a path), it is harmless
(nothing is written: `add_file_untitled_writes_nothing`, `untitled_path_add_replaces_file`); issued from
any other URL with a path the word must be well-formed and must not replace `w` by a case variant. -/
abbrev BenignFileAdd (f : Fns) (w : Word) (u : UrlKind) (w' : Word) : Prop :=
  (u.path = true ∧ u.untitled = false) → WellFormedWord w' ∧ (key f w' = key f w → w' = w)

theorem benignFile_runOps (f : Fns) (cur : List Entry) (n : Nat) (w : Word) (rest : List Op) (s : State)
    (hb : ∀ u w' ord, Op.addFile u n w' ord ∈ rest → BenignFileAdd f w u w')
    (hc : Clean f (fileDisk s.files n)) (hm : w ∈ loadOrEmpty f (fileDisk s.files n)) :
    w ∈ loadOrEmpty f (fileDisk (runOps f cur s rest).files n) := by
  refine (runOps_invariant f cur
    (fun s => Clean f (fileDisk s.files n) ∧ w ∈ loadOrEmpty f (fileDisk s.files n))
    (fun op => ∀ u w' ord, op = .addFile u n w' ord → BenignFileAdd f w u w') (fun s op hb h => ?_) rest s
    (fun op hop u w' ord e => hb u w' ord (e ▸ hop)) ⟨hc, hm⟩).2
  rw [step_fileDisk]
  cases op with
  | addFile u m w' ord =>
    by_cases hu : u.path = true ∧ u.untitled = false ∧ m = n
    · obtain ⟨hw', hk⟩ := hb u w' ord (by rw [hu.2.2]) ⟨hu.1, hu.2.1⟩
      obtain ⟨hc', hm'⟩ := add_reload f (fileDisk s.files n) w' ord h.1 hw'
      simp only [if_pos hu]
      exact ⟨hc', (hm' w).mpr (mem_insert_of_benign f w' w _ h.2 hk)⟩
    · simp only [if_neg hu]
      exact h
  | _ => exact h

/-- the words of the `HarperAddToFileDict` commands of a history that reach the dictionary file `n` -/
def fileAdds (n : Nat) : List Op → List Word
  | [] => []
  | .addFile u m w _ :: ops =>
    if u.path = true ∧ u.untitled = false ∧ m = n then w :: fileAdds n ops else fileAdds n ops
  | _ :: ops => fileAdds n ops

theorem fileAdds_cons (n : Nat) (op : Op) (ops : List Op) :
    fileAdds n (op :: ops) = fileAdds n [op] ++ fileAdds n ops := by
  cases op with
  | addFile u m w ord => simp only [fileAdds]; split <;> rfl
  | _ => rfl

end Harper.C07
