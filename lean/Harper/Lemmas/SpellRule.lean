import Harper.Model.SpellRule
import Harper.Lemmas.Rules
import Harper.Lemmas.LintGroup
import Harper.Lemmas.Leaves
import Harper.Lemmas.Span
/-!
Lemmas for `Model/SpellRule.lean`: the rule per token (total, local, where its lint lies), the word cache (invariant, transparency
for any key the suggestions factor through), the composition with `Model/Spell.lean` (`dataOf`, `FaithfulTo`), the run as a
filter-map over the flagged tokens (`ruleSpellCheck_cases`), counting lints per span.
-/
namespace Harper.SpellRule
open Harper Harper.Rules Harper.Leaves Harper.LG

/-! ## the rule without a cache -/

/-- the uncached search never panics on a word the rule flags (C15's subject: every fuzzy result is a dictionary word) -/
def SuggestOK (senv : SpellEnv) : Prop := ∀ w, accepted (senv.data w) = false → (senv.data w).suggest ≠ none

theorem postProcess_length (senv : SpellEnv) (w : List Char) (sg : List (List Char)) : (postProcess senv w sg).length ≤ 3 := by
  unfold postProcess
  cases w with
  | nil => simp only [List.length_take]; omega
  | cons c cs =>
    simp only []
    split
    · simp only [List.length_map, List.length_take]; omega
    · simp only [List.length_take]; omega

/-- what one token yields: nothing, or one lint on exactly its span with at most three `ReplaceWith` suggestions -/
theorem spellTok_shape (senv : SpellEnv) (src : List Char) (t : Tok) (ls : List RuleLint) (h : spellTok senv src t = .ok ls) :
    ∀ l ∈ ls, t.kind.isWord = true ∧ l.span = t.span ∧ l.suggs.length ≤ 3 ∧ (∀ s ∈ l.suggs, ∃ cs, s = .replaceWith cs) ∧ l.msg = 60 := by
  simp only [spellTok] at h
  split at h
  · cases h; intro l hl; cases hl
  · rename_i hw
    cases hc : t.span.getContent src with
    | error e => rw [hc] at h; cases h
    | ok w =>
      rw [hc] at h
      simp only [] at h
      split at h
      · cases h; intro l hl; cases hl
      · cases hs : (senv.data w).suggest with
        | none => rw [hs] at h; cases h
        | some sg =>
          rw [hs] at h
          cases h
          intro l hl
          simp only [List.mem_singleton] at hl
          subst hl
          refine ⟨by simpa using hw, rfl, ?_, ?_, rfl⟩
          · simp only [spellLintOf, List.length_map]; exact postProcess_length senv w sg
          · intro s hs'
            simp only [spellLintOf, List.mem_map] at hs'
            obtain ⟨cs, _, rfl⟩ := hs'
            exact ⟨cs, rfl⟩

theorem spellTok_ok (senv : SpellEnv) (hs : SuggestOK senv) (src : List Char) (t : Tok) (ht : TokIn src t) :
    ∃ ls, spellTok senv src t = .ok ls ∧ ∀ l ∈ ls, LintOK src.length l := by
  simp only [spellTok, getContent_textOf src t ht]
  split
  · exact ⟨[], rfl, by simp⟩
  · split
    · exact ⟨[], rfl, by simp⟩
    · rename_i hacc
      cases hsg : (senv.data (textOf src t.span)).suggest with
      | none => exact absurd hsg (hs _ (by simpa using hacc))
      | some sg =>
        refine ⟨_, rfl, ?_⟩
        intro l hl
        simp only [List.mem_singleton] at hl
        subst hl
        exact ht

theorem spellTok_tokLocal (senv : SpellEnv) : TokLocal (spellTok senv) where
  left := by
    intro P D t _ h
    simp only [spellTok, Span.getContent_append_left P D t.span h]
  right := by
    intro P D t j _
    simp only [spellTok, shTok_kind, isWord_shiftTwin, shTok_span, getContent_shift']
    split
    · rfl
    · cases t.span.getContent D with
      | error e => rfl
      | ok w =>
        simp only []
        split
        · rfl
        · cases (senv.data w).suggest with
          | none => rfl
          | some sg => rfl

theorem ruleSpellCheck_cons (senv : SpellEnv) (src : List Char) (t : Tok) (ts : List Tok) :
    ruleSpellCheck senv src (t :: ts) =
      match spellTok senv src t with
      | .error e => .error e
      | .ok a => (ruleSpellCheck senv src ts).map (a ++ ·) := by
  simp only [ruleSpellCheck, perTok, collectE]
  cases spellTok senv src t with
  | error e => rfl
  | ok a => cases collectE (spellTok senv src) ts <;> rfl

/-! ## the word cache -/

/-- the suggestions are a function of the cache key -/
def KeySound (senv : SpellEnv) (key : List Char → List Char) : Prop :=
  ∀ w w', key w = key w' → (senv.data w).suggest = (senv.data w').suggest

/-- **the cache invariant**: every entry holds what the uncached search returns for every word with that key — i.e. the cache
only holds entries produced by this rule for this dictionary -/
def KeyInv (senv : SpellEnv) (key : List Char → List Char) (st : WordCache) : Prop :=
  ∀ e ∈ st, ∀ w, key w = e.1 → (senv.data w).suggest = some e.2

/-- the code's cache (keyed by the word itself) -/
def CacheInv (senv : SpellEnv) (st : WordCache) : Prop := ∀ e ∈ st, (senv.data e.1).suggest = some e.2

theorem keyInv_id (senv : SpellEnv) (st : WordCache) : KeyInv senv id st ↔ CacheInv senv st :=
  ⟨fun h e he => h e he e.1 rfl, fun h e he w hw => by simp only [id] at hw; subst hw; exact h e he⟩

theorem keySound_id (senv : SpellEnv) : KeySound senv id := fun w w' h => by simp only [id] at h; rw [h]

theorem keyInv_nil (senv : SpellEnv) (key : List Char → List Char) : KeyInv senv key [] := fun e he => by cases he

/-- **one memoised call**: the answer is the uncached one, the invariant is kept — for any capacity -/
theorem cachedSuggest_spec (senv : SpellEnv) (key : List Char → List Char) (hk : KeySound senv key) (cap : Nat) (w : List Char)
    (st : WordCache) (hi : KeyInv senv key st) :
    (cachedSuggest senv key cap w st).1 = (match (senv.data w).suggest with | none => .error .unwrapNone | some v => .ok v) ∧
      KeyInv senv key (cachedSuggest senv key cap w st).2 := by
  -- `KeyInv` is `Lru.All` of "every word with this key has this search result"
  have hi' : Lru.All (fun k v => ∀ w', key w' = k → (senv.data w').suggest = some v) st := hi
  unfold cachedSuggest
  cases hg : Lru.get (key w) st with
  | some r =>
    obtain ⟨hv, hst⟩ := hi'.get hg
    exact ⟨by simp only [hv w rfl], hst⟩
  | none =>
    cases hs : (senv.data w).suggest with
    | none => exact ⟨rfl, hi⟩
    | some v => exact ⟨rfl, hi'.put cap fun w' hw' => hs ▸ hk w' w hw'⟩

/-- **the word cache is transparent**: whatever state (satisfying the invariant) and capacity the instance has, `lint` returns what
the cache-less rule returns — lints and panics — and leaves a cache that satisfies the invariant -/
theorem spellGo_spec (senv : SpellEnv) (key : List Char → List Char) (hk : KeySound senv key) (cap : Nat) (src : List Char) :
    ∀ (toks : List Tok) (st : WordCache), KeyInv senv key st →
      (spellGo senv key cap src st toks).1 = ruleSpellCheck senv src toks ∧ KeyInv senv key (spellGo senv key cap src st toks).2
  | [], st, hi => ⟨rfl, hi⟩
  | t :: ts, st, hi => by
    -- a token that yields no lint leaves the rest of the run as it is
    have skip : (spellGo senv key cap src st ts).1 = (ruleSpellCheck senv src ts).map ([] ++ ·) ∧
        KeyInv senv key (spellGo senv key cap src st ts).2 := by
      have ih := spellGo_spec senv key hk cap src ts st hi
      exact ⟨by rw [ih.1]; cases ruleSpellCheck senv src ts <;> rfl, ih.2⟩
    rw [ruleSpellCheck_cons]
    simp only [spellGo, spellTok]
    by_cases hw : t.kind.isWord = true
    · simp only [hw, Bool.not_true, Bool.false_eq_true, if_false]
      cases hc : t.span.getContent src with
      | error e => exact ⟨rfl, hi⟩
      | ok w =>
        simp only []
        by_cases ha : accepted (senv.data w) = true
        · simp only [ha, if_true]; exact skip
        · simp only [ha, Bool.false_eq_true, if_false]
          obtain ⟨h1, h2⟩ := cachedSuggest_spec senv key hk cap w st hi
          cases hr : cachedSuggest senv key cap w st with
          | mk r st1 =>
            rw [hr] at h1 h2
            simp only [] at h1 h2
            subst h1
            cases hsg : (senv.data w).suggest with
            | none => exact ⟨rfl, h2⟩
            | some sg =>
              have ih := spellGo_spec senv key hk cap src ts st1 h2
              exact ⟨by simp only []; rw [ih.1]; rfl, ih.2⟩
    · have hw' : t.kind.isWord = false := by simpa using hw
      simp only [hw', Bool.not_false, if_true]; exact skip

theorem spellCheckLint_spec (senv : SpellEnv) (cap : Nat) (st : WordCache) (hi : CacheInv senv st) (src : List Char)
    (toks : List Tok) : (spellCheckLint senv cap st src toks).1 = ruleSpellCheck senv src toks ∧
      CacheInv senv (spellCheckLint senv cap st src toks).2 :=
  let h := spellGo_spec senv id (keySound_id senv) cap src toks st ((keyInv_id senv st).mpr hi)
  ⟨h.1, (keyInv_id senv _).mp h.2⟩

/-- a long-lived instance reports on every document what the cache-less rule reports -/
theorem spellSession_spec (senv : SpellEnv) (key : List Char → List Char) (hk : KeySound senv key) (cap : Nat) :
    ∀ (docs : List (List Char × List Tok)) (st : WordCache), KeyInv senv key st →
      spellSession senv key cap st docs = docs.map fun d => ruleSpellCheck senv d.1 d.2
  | [], _, _ => rfl
  | d :: ds, st, hi => by
    have h := spellGo_spec senv key hk cap d.1 d.2 st hi
    simp only [spellSession, List.map_cons, h.1, spellSession_spec senv key hk cap ds _ h.2]

/-! ## composition with `Model/Spell.lean` (C06) -/

/-- the `WordData` of a word when the dictionary is a `Spell` dictionary -/
def dataOf (f : Spell.Fns) (dict : List Spell.Entry) (sugg : List Char → Option (List (List Char))) (w : List Char) : WordData where
  known := (Spell.lookup f dict w).isSome
  dialectOk := match Spell.lookup f dict w with | some e => e.dialectOk | none => false
  exact := Spell.containsExact f dict w
  exactLower := Spell.containsExact f dict (f.lower w)
  suggest := sugg w

/-- the rule's `continue` condition IS `Spell.accept` (C06's subject) -/
theorem accepted_dataOf (f : Spell.Fns) (dict : List Spell.Entry) (sugg : List Char → Option (List (List Char))) (w : List Char) :
    accepted (dataOf f dict sugg w) = Spell.accept f dict w := by
  simp only [accepted, dataOf, Spell.accept]
  cases Spell.lookup f dict w with
  | none => rfl
  | some e => simp

/-- the `continue` condition of `senv` is `Spell.accept` over `dict` for every word (whatever the suggestions are) -/
def FaithfulTo (senv : SpellEnv) (f : Spell.Fns) (dict : List Spell.Entry) : Prop :=
  ∀ w, accepted (senv.data w) = Spell.accept f dict w

/-- the `SpellEnv` built from a `Spell` dictionary (`dataOf`) is faithful to it -/
theorem faithfulTo_dataOf (f : Spell.Fns) (dict : List Spell.Entry) (sugg : List Char → Option (List (List Char)))
    (isUpper : Char → Bool) (up : Char → Char) : FaithfulTo ⟨dataOf f dict sugg, isUpper, up⟩ f dict :=
  fun w => accepted_dataOf f dict sugg w

/-- the rule's post-processing IS `Spell.suggestions` after its dialect filter -/
theorem postProcess_eq_suggestions (senv : SpellEnv) (f : Spell.Fns) (dict : List Spell.Entry) (fuzzy : List (List Char))
    (w : List Char) :
    postProcess senv w (fuzzy.filter fun s => match Spell.lookup f dict s with | some e => e.dialectOk | none => false) =
      Spell.suggestions f dict fuzzy (match w with | c :: _ => senv.isUpper c | [] => false) (capitaliseFirst senv.upperFirst) := by
  cases w with
  | nil =>
    simp only [postProcess, Spell.suggestions, Bool.false_eq_true, if_false]
    congr 1
  | cons c cs =>
    simp only [postProcess, Spell.suggestions]
    split
    · congr 2
    · congr 1


/-! ## the loop reports EXACTLY the word tokens its `continue` condition does not accept (C06 at sentence level)

`SpellCheck::lint` is `for word in document.iter_words() { if accepted { continue }; … lints.push(Lint { span: word.span, .. }) }`:
one lint per word token that is not accepted, on that token's span, in token order, nothing else. -/

/-- the rule's own test for one token lying inside the text: a word token whose characters the `continue` condition rejects -/
def flagged (senv : SpellEnv) (src : List Char) (t : Tok) : Bool :=
  t.kind.isWord && !accepted (senv.data (textOf src t.span))

/-- the lint the loop body pushes for a flagged token (`[]` stands for a search result that is never looked at: the search of a
flagged word that panics ends the run) -/
def lintAt (senv : SpellEnv) (src : List Char) (t : Tok) : RuleLint :=
  spellLintOf senv t.span (textOf src t.span) (((senv.data (textOf src t.span)).suggest).getD [])

theorem lintAt_span (senv : SpellEnv) (src : List Char) (t : Tok) : (lintAt senv src t).span = t.span := rfl

/-- under `FaithfulTo` the rule's test on a token is `Spell.accept` on the token's characters -/
theorem flagged_faithful (senv : SpellEnv) (f : Spell.Fns) (dict : List Spell.Entry) (hf : FaithfulTo senv f dict)
    (src : List Char) (t : Tok) : flagged senv src t = (t.kind.isWord && !Spell.accept f dict (textOf src t.span)) := by
  simp only [flagged, hf _]

/-- the loop body for a token inside the text, as one equation -/
theorem spellTok_eq (senv : SpellEnv) (src : List Char) (t : Tok) (ht : TokIn src t) :
    spellTok senv src t =
      if flagged senv src t = true then
        (match (senv.data (textOf src t.span)).suggest with
         | none => .error .unwrapNone
         | some _ => .ok [lintAt senv src t])
      else .ok [] := by
  simp only [spellTok, getContent_textOf src t ht, flagged, lintAt]
  by_cases hw : t.kind.isWord = true
  · by_cases ha : accepted (senv.data (textOf src t.span)) = true
    · simp [hw, ha]
    · have ha' : accepted (senv.data (textOf src t.span)) = false := by simpa using ha
      simp only [hw, ha', Bool.not_true, Bool.false_eq_true, if_false, Bool.not_false, Bool.and_self, if_true]
      cases (senv.data (textOf src t.span)).suggest <;> rfl
  · have hw' : t.kind.isWord = false := by simpa using hw
    simp [hw']

/-- **the whole run, without any hypothesis on the dictionary**: on tokens inside the text the rule either returns, in token
order, exactly the lints of the flagged tokens (and then the search of every flagged word returned), or it panics with the
`unwrap` of the search of some flagged word -/
theorem ruleSpellCheck_cases (senv : SpellEnv) (src : List Char) : ∀ (toks : List Tok), InText src toks →
    (ruleSpellCheck senv src toks = .ok ((toks.filter (flagged senv src)).map (lintAt senv src)) ∧
      ∀ t ∈ toks, flagged senv src t = true → (senv.data (textOf src t.span)).suggest ≠ none) ∨
    (ruleSpellCheck senv src toks = .error .unwrapNone ∧
      ∃ t ∈ toks, flagged senv src t = true ∧ (senv.data (textOf src t.span)).suggest = none)
  | [], _ => Or.inl ⟨rfl, fun t ht => by cases ht⟩
  | t :: ts, h => by
    have ht := h t (List.mem_cons_self ..)
    have ih := ruleSpellCheck_cases senv src ts (fun x hx => h x (List.mem_cons_of_mem _ hx))
    simp only [ruleSpellCheck, perTok, collectE] at ih ⊢
    rw [spellTok_eq senv src t ht]
    by_cases hf : flagged senv src t = true
    · simp only [hf, if_true]
      cases hs : (senv.data (textOf src t.span)).suggest with
      | none => exact Or.inr ⟨rfl, t, List.mem_cons_self .., hf, hs⟩
      | some sg =>
        simp only []
        rcases ih with ⟨e, hall⟩ | ⟨e, x, hx, hfx, hsx⟩
        · refine Or.inl ⟨by rw [e]; simp only [List.filter_cons_of_pos hf, List.map_cons, List.singleton_append], ?_⟩
          intro x hx hfx
          rcases List.mem_cons.mp hx with rfl | hx
          · rw [hs]; exact Option.some_ne_none _
          · exact hall x hx hfx
        · exact Or.inr ⟨by rw [e], x, List.mem_cons_of_mem _ hx, hfx, hsx⟩
    · have hf' : flagged senv src t = false := by simpa using hf
      simp only [hf', Bool.false_eq_true, if_false]
      rcases ih with ⟨e, hall⟩ | ⟨e, x, hx, hfx, hsx⟩
      · refine Or.inl ⟨by rw [e]; simp only [List.filter_cons_of_neg hf, List.nil_append], ?_⟩
        intro x hx hfx
        rcases List.mem_cons.mp hx with rfl | hx
        · exact absurd hfx hf
        · exact hall x hx hfx
      · exact Or.inr ⟨by rw [e], x, List.mem_cons_of_mem _ hx, hfx, hsx⟩

/-- when the uncached search never panics on a flagged word: the result, as an equation -/
theorem ruleSpellCheck_eq (senv : SpellEnv) (hs : SuggestOK senv) (src : List Char) (toks : List Tok) (h : InText src toks) :
    ruleSpellCheck senv src toks = .ok ((toks.filter (flagged senv src)).map (lintAt senv src)) := by
  rcases ruleSpellCheck_cases senv src toks h with ⟨e, _⟩ | ⟨_, t, _, hf, hn⟩
  · exact e
  · simp only [flagged, Bool.and_eq_true, Bool.not_eq_true'] at hf
    exact absurd hn (hs _ hf.2)

/-- a run that returned, returned exactly the lints of the flagged tokens -/
theorem ruleSpellCheck_eq_of_ok (senv : SpellEnv) (src : List Char) (toks : List Tok) (h : InText src toks) (ls : List RuleLint)
    (e : ruleSpellCheck senv src toks = .ok ls) : ls = (toks.filter (flagged senv src)).map (lintAt senv src) := by
  rcases ruleSpellCheck_cases senv src toks h with ⟨e', _⟩ | ⟨e', _⟩
  · rw [e'] at e; cases e; rfl
  · rw [e'] at e; cases e

/-! ### counting the lints on one span -/

/-- in a list of tokens with pairwise different spans, the sub-list picked by `p` holds exactly one token with the span of a
member `t` that `p` picks and none with the span of a member it does not pick -/
theorem count_span_filter (p : Tok → Bool) : ∀ (toks : List Tok), toks.Pairwise (fun a b => a.span ≠ b.span) → ∀ t ∈ toks,
    ((toks.filter p).filter (fun x => decide (x.span = t.span))).length = if p t = true then 1 else 0
  | [], _, t, ht => by cases ht
  | a :: r, hp, t, ht => by
    obtain ⟨h1, h2⟩ := List.pairwise_cons.mp hp
    rcases List.mem_cons.mp ht with rfl | ht'
    · have hr : (r.filter p).filter (fun x => decide (x.span = t.span)) = [] := by
        rw [List.filter_eq_nil_iff]
        intro x hx
        have := h1 x (List.mem_filter.mp hx).1
        simpa using fun e => this e.symm
      by_cases hpa : p t = true
      · rw [List.filter_cons_of_pos hpa, List.filter_cons_of_pos (by simp), hr, if_pos hpa]; rfl
      · rw [List.filter_cons_of_neg hpa, hr, if_neg hpa]; rfl
    · have ih := count_span_filter p r h2 t ht'
      have hne : a.span ≠ t.span := h1 t ht'
      by_cases hpa : p a = true
      · rw [List.filter_cons_of_pos hpa, List.filter_cons_of_neg (by simpa using hne)]; exact ih
      · rw [List.filter_cons_of_neg hpa]; exact ih

/-- the lints of the flagged tokens lying on a given span are as many as the flagged tokens with that span -/
theorem count_lints_on_span (senv : SpellEnv) (src : List Char) (toks : List Tok) (sp : Span) :
    (((toks.filter (flagged senv src)).map (lintAt senv src)).filter (fun l => decide (l.span = sp))).length =
      ((toks.filter (flagged senv src)).filter (fun t => decide (t.span = sp))).length := by
  rw [List.filter_map, List.length_map]
  rfl

/-- tokens that tile a stretch of text lie inside it, are not empty and have pairwise different spans -/
theorem tiles_spans_distinct : ∀ (toks : List Tok) (a b : Nat), Tiles toks a b →
    (∀ t ∈ toks, a ≤ t.span.start ∧ t.span.start < t.span.stop ∧ t.span.stop ≤ b) ∧
      toks.Pairwise (fun x y => x.span ≠ y.span)
  | [], _, _, _ => ⟨nofun, List.Pairwise.nil⟩
  | t :: ts, a, b, h =>
    ⟨fun x hx => ⟨(h.gap.mem x hx).1, h.pos x hx, (h.gap.mem x hx).2.2⟩,
      List.pairwise_cons.mpr ⟨fun x hx e => by
        have h1 := (h.2.2.gap.mem x hx).1
        have h2 := h.pos t List.mem_cons_self
        rw [← e] at h1
        omega, (tiles_spans_distinct ts _ b h.2.2).2⟩⟩

theorem inText_of_tiles (src : List Char) (toks : List Tok) (h : Tiles toks 0 src.length) : InText src toks := by
  intro t ht
  have := (tiles_spans_distinct toks 0 src.length h).1 t ht
  exact ⟨by omega, this.2.2⟩

end Harper.SpellRule
