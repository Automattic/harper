import Harper.Lemmas.DictIO
/-!
# C07 — words the user adds to a dictionary are accepted from then on and never lost

Model: `Harper/Model/DictIO.lean` (the dictionary file as written by `save_dict` syscall by syscall,
`load_dict`, the word map keyed by the lower-cased normalized spelling, the merged dictionary's
accept test, the add / restart / crash / lint state machine, the JS linter's two dictionaries).
Helper lemmas, and the predicates on histories the theorems are stated with (`Benign`, `userAdds`,
`BenignFileAdd`, `fileAdds`, `BenignJs`, `jsImports`): `Harper/Lemmas/DictIO.lean`. `lower` / `normalize` are
parameters (`Spell.Fns`).

The property as stated is FALSE of the code in the ways listed (each proved below on a concrete history
and recorded in `known_findings.json`; the last one was repaired in the project); further recorded
classes are named where they arise (`eq_ignores_word_boundaries`, `other_lints_unchanged`,
`file_dict_isolated`):
* `case_collision` — `add zqxv; add Zqxv` re-flags `zqxv` and drops it from the file;
* `crash_loses_all` (+ `crash_loses_old_word_and_invents_one`, `crash_torn_character_loses_all`) —
  `save_dict` truncates and then writes: a crash in between loses every word;
* `unnormalized_word_never_accepted` — a word spelt with `’` is stored as typed but looked up
  normalized, so adding it has no effect;
* `other_dialect_word_never_accepted` — a word the curated dictionary lists for another dialect
  stays flagged after being added (the merged dictionary answers metadata from its first child);
* `js_import_case_variant_stale` — `import_words` does not re-synchronise when the count does not
  grow;
* `untitled_file_dict_add_ignored` — `HarperAddToFileDict` on an `untitled:` document saves
  nothing, keeps nothing, says nothing: the word stays reported;
* (`untitled_path_overwrites_file_dict`: until repo commit 861d597 (`save_file_dictionary` returns without
  writing for the `untitled` scheme) the same command on `untitled:/a/b.md` REPLACED the file dictionary
  of `/a/b.md` by the one new word; the theorem named after that defect states that the dictionary of
  `/a/b.md` is untouched.)
What does hold is proved as `…_partial` theorems with the hypotheses spelled out. Operations that concern
a document carry its URL kind (`fileUrl`, `untitledUrl`, `untitledPathUrl`, `opaqueUrl`).
-/
namespace Harper.C07
open Harper.Spell Harper.Stats Harper.DictIO

/-! ### a concrete instance for the witnesses: ASCII lower-casing, `’` ↦ `'` -/

def asciiLower (w : List Char) : List Char :=
  w.map fun c => if 'A' ≤ c ∧ c ≤ 'Z' then Char.ofNat (c.toNat + 32) else c
def normApos (w : List Char) : List Char := w.map fun c => if c = '’' then '\'' else c
def fnsAscii : Fns := ⟨asciiLower, normApos⟩

def zqxv : Word := ['z', 'q', 'x', 'v']
def Zqxv : Word := ['Z', 'q', 'x', 'v']
def abcq : Word := ['a', 'b', 'c', 'q']
def zqé : Word := ['z', 'q', 'é']
def zqApos : Word := ['z', 'q', '’', 'x', 'v']
def colour : Word := ['c', 'o', 'l', 'o', 'u', 'r']

/-! ## the saved file reloads to what was saved -/

/-- **load ∘ save = id.** Whatever was in the file before, a completed `save_dict` of the word
sequence `ws` (well-formed, pairwise different keys — the latter holds of every `MutableDictionary`)
is read back by `load_dict` as exactly `ws`, in order. -/
theorem load_save (f : Fns) (ws : List Word) (hw : WellFormed ws) (hu : UniqueKeys f ws)
    (old : Disk) : loadDict f (run (saveTrace ws) old) = some ws := by
  rw [run_saveTrace]
  exact loadDict_writeLog f ws hw hu

/-- the bytes on disk are `word ⏎ word ⏎ …` and nothing else -/
theorem save_contents (ws : List Word) (old : Disk) :
    run (saveTrace ws) old = .file (writeLog ws) false := run_saveTrace ws old

/-- every `write` syscall of a save carries at least one byte, and together they carry the file -/
theorem save_writes (ws : List Word) :
    (chunks ws).flatten = writeLog ws ∧ ∀ c ∈ chunks ws, c ≠ [] :=
  ⟨chunks_flatten ws, chunkGo_ne_nil bufCap (by decide) _ []⟩

-- the shape `strace` shows: open(O_TRUNC), one write for a small dictionary, close; no write at all
-- for an empty one
example : saveTrace [zqxv, abcq] =
    [.openTrunc, .write ['z', 'q', 'x', 'v', '\n', 'a', 'b', 'c', 'q', '\n'], .close] := by decide +kernel
example : saveTrace [] = [.openTrunc, .close] := by decide +kernel
-- non-vacuity of `load_save`, with an empty word and a word made of a space: both survive
example : WellFormed [zqxv, [], [' '], Zqxv ++ ['\r', 'a']] ∧
    UniqueKeys fnsAscii [zqxv, [], [' '], Zqxv ++ ['\r', 'a']] := by decide +kernel
example : loadDict fnsAscii (run (saveTrace [zqxv, [], [' ']]) .absent) = some [zqxv, [], [' ']] := by
  decide +kernel
-- each hypothesis is needed: a line feed inside a word splits it …
example : loadDict fnsAscii (run (saveTrace [['a', '\n', 'b']]) .absent) = some [['a'], ['b']] := by
  decide +kernel
-- … a trailing carriage return is eaten …
example : loadDict fnsAscii (run (saveTrace [['a', '\r']]) .absent) = some [['a']] := by decide +kernel
-- … and two spellings with one key collapse to the later one
example : loadDict fnsAscii (run (saveTrace [zqxv, Zqxv]) .absent) = some [Zqxv] := by decide +kernel

/-- non-vacuity of `load_save`: the theorem applied to four words (one empty, one of a space, one with
an inner `\r`), both hypotheses together, over an old file -/
example : loadDict fnsAscii (run (saveTrace [zqxv, [], [' '], Zqxv.reverse ++ ['\r', 'a']])
      (.file abcq true)) = some [zqxv, [], [' '], Zqxv.reverse ++ ['\r', 'a']] :=
  load_save fnsAscii _ (by decide +kernel) (by decide +kernel) _

/-! ## an added word is accepted from then on -/

/-- non-vacuity of `benign_runOps`: a non-empty clean file that holds the word, a
later add of another word -/
example : Benign fnsAscii zqxv (.add abcq []) ∧
    Clean fnsAscii (State.user { user := .file (zqxv ++ ['\n']) false }) ∧
    zqxv ∈ loadOrEmpty fnsAscii (State.user { user := .file (zqxv ++ ['\n']) false }) := by
  refine ⟨⟨by decide +kernel, by decide +kernel⟩, by decide +kernel, by decide +kernel⟩

example : zqxv ∈ loadOrEmpty fnsAscii
    (runOps fnsAscii [] { user := .file (zqxv ++ ['\n']) false } [.add abcq [], .restart]).user :=
  benign_runOps fnsAscii [] zqxv [.add abcq [], .restart] _ (by decide +kernel) (by decide +kernel)
    (by decide +kernel)

/-- **Accepted from then on (partial).** After `HarperAddToUserDict w` on a clean dictionary file,
`w` is not reported in any document (`name` arbitrary), immediately and after any sequence of later
adds, file-dictionary adds, restarts and document checks, PROVIDED
(1) `w` is well-formed and already normalized (`hn`; fails for `’`: `unnormalized_word_never_accepted`),
(2) the curated dictionary does not list `w`'s key for another dialect only (`hcur`; fails for
    `colour` under American English: `other_dialect_word_never_accepted`),
(3) no later add has a different word with the same lower-cased normalized key (fails:
    `case_collision`), later added words are well-formed, and
(4) no save crashes (`crash_loses_all`).
Missing for the full property: exactly (1)–(4); and that the word reaches `SpellCheck` as one
`Word` token (C02). -/
theorem add_then_accepted_partial (f : Fns) (cur : List Entry) (s : State) (w : Word)
    (ord : List Word) (rest : List Op) (name : Nat)
    (hclean : Clean f s.user) (hw : WellFormedWord w) (hn : f.normalize w = w)
    (hcur : ∀ e, lookup f cur w = some e → e.dialectOk = true)
    (hrest : ∀ op ∈ rest, Benign f w op) :
    acceptM f (children f cur (runOps f cur (step f cur s (.add w ord)).1 rest) name) w = true := by
  obtain ⟨hc', hm'⟩ := add_reload f s.user w ord hclean hw
  have hm := benign_runOps f cur w rest (step f cur s (.add w ord)).1 hrest hc'
    ((hm' w).mpr (mem_insert_self f w _))
  exact acceptM_cons f cur _ w hcur (acceptM_head f _ _ (uniqueKeys_loadOrEmpty f _) w hm hn)

-- non-vacuity: a clean non-empty file, a curated slice that lists another word, later operations
-- of every benign kind (incl. a restart and another add); the answers computed by the kernel
example : Clean fnsAscii (.file (abcq ++ ['\n']) false) ∧ WellFormedWord zqxv ∧
    fnsAscii.normalize zqxv = zqxv ∧
    (∀ op ∈ [Op.restart, .add Zqxv.reverse [], .addFile fileUrl 3 abcq [], .lint fileUrl 1 [abcq]],
      Benign fnsAscii zqxv op) := by
  decide +kernel
example : (step fnsAscii [⟨colour, false⟩]
      (runOps fnsAscii [] { user := .file (abcq ++ ['\n']) false }
        [.add zqxv [], .restart, .add Zqxv.reverse [], .addFile fileUrl 3 abcq []])
      (.lint fileUrl 1 [zqxv, abcq, Zqxv, ['Z', 'Q', 'X', 'V'], ['z', 'q']])).2
    = [true, true, true, true, false] := by decide +kernel

/-- non-vacuity of `add_then_accepted_partial`: the theorem applied with ALL hypotheses — a clean
non-empty file, a curated slice that lists the word's key (capitalised, dialect admitted) and another
word for another dialect, later operations of every benign kind -/
example : acceptM fnsAscii (children fnsAscii [⟨colour, false⟩, ⟨Zqxv, true⟩]
      (runOps fnsAscii [⟨colour, false⟩, ⟨Zqxv, true⟩]
        (step fnsAscii [⟨colour, false⟩, ⟨Zqxv, true⟩] { user := .file (abcq ++ ['\n']) false }
          (.add zqxv [])).1
        [.restart, .add Zqxv.reverse [], .addFile fileUrl 3 abcq [], .lint fileUrl 1 [abcq]]) 1) zqxv = true :=
  add_then_accepted_partial fnsAscii _ _ zqxv [] _ 1 (by decide +kernel) (by decide +kernel) (by decide +kernel)
    (by decide +kernel) (by decide +kernel)

/-- **Case collision: the full property is false.** `add zqxv; add Zqxv; lint "zqxv"` reports `zqxv`
again, and the saved file holds only `Zqxv` — the earlier word is lost without any crash.
(Confirmed on the real code; finding `c07-case-collision`, not fixed.) -/
theorem case_collision :
    (step fnsAscii [] (runOps fnsAscii [] {} [.add zqxv []]) (.lint fileUrl 0 [zqxv])).2 = [true] ∧
    (step fnsAscii [] (runOps fnsAscii [] {} [.add zqxv [], .add Zqxv []]) (.lint fileUrl 0 [zqxv])).2
      = [false] ∧
    (runOps fnsAscii [] {} [.add zqxv [], .add Zqxv []]).user
      = .file ['Z', 'q', 'x', 'v', '\n'] false := by decide +kernel

-- in the other order nothing is lost from the user's point of view: the lower-case entry also
-- admits the capitalised form
example : (step fnsAscii [] (runOps fnsAscii [] {} [.add Zqxv [], .add zqxv []])
    (.lint fileUrl 0 [zqxv, Zqxv])).2 = [true, true] := by decide +kernel

/-- **A word typed with `’` is never accepted.** The word map stores the spelling as typed but
`contains_exact_word` compares it with the NORMALIZED query (`’` ↦ `'`): adding `zq’xv` (the code
action takes the word from the document) has no effect. (Finding `c07-unnormalized-word`.) -/
theorem unnormalized_word_never_accepted :
    (runOps fnsAscii [] {} [.add zqApos []]).user = .file (zqApos ++ ['\n']) false ∧
    (step fnsAscii [] (runOps fnsAscii [] {} [.add zqApos []])
      (.lint fileUrl 0 [zqApos, ['z', 'q', '\'', 'x', 'v']])).2 = [false, false] := by decide +kernel

/-- **A word of another dialect is never accepted.** `colour` is in the curated dictionary, tagged
British; the merged dictionary answers `get_word_metadata` from its first child, so under American
English the token keeps the British tag and stays reported after `add colour`.
(Finding `c07-other-dialect-word`.) -/
theorem other_dialect_word_never_accepted :
    (runOps fnsAscii [⟨colour, false⟩] {} [.add colour []]).user = .file (colour ++ ['\n']) false ∧
    (step fnsAscii [⟨colour, false⟩] (runOps fnsAscii [⟨colour, false⟩] {} [.add colour []])
      (.lint fileUrl 0 [colour])).2 = [false] := by decide +kernel

/-! ## nothing is lost without a crash or a collision -/

/-- **Restarts lose nothing.** Starting without a dictionary file, after any history of adds,
file-dictionary adds, document checks and server restarts in which no save crashes, the added
words are well-formed and no two different added words share a lower-cased normalized key, the
user dictionary file reloads to exactly the set of words added so far (pairwise different keys,
hence no duplicates) — and a restart itself does not touch the file. -/
theorem restart_preserves (f : Fns) (cur : List Entry) (ops : List Op)
    (hwf : WellFormed (userAdds ops)) (hnc : ∀ op ∈ ops, isCrash op = false)
    (hcol : ∀ a ∈ userAdds ops, ∀ b ∈ userAdds ops, key f a = key f b → a = b) :
    (∀ w, w ∈ loadOrEmpty f (runOps f cur {} ops).user ↔ w ∈ userAdds ops) ∧
    UniqueKeys f (loadOrEmpty f (runOps f cur {} ops).user) ∧
    (step f cur (runOps f cur {} ops) .restart).1.user = (runOps f cur {} ops).user := by
  refine ⟨?_, uniqueKeys_loadOrEmpty f _, rfl⟩
  refine (runOps_adds f cur (fun s => loadOrEmpty f s.user) (fun s => Clean f s.user)
    (isCrash · = false) WellFormedWord userAdds rfl userAdds_cons
    (fun s op hc hok hw hcol => ?_) ops {} (fun w hw => nomatch hw) hnc hwf hcol).2
  rw [step_user]
  cases op with
  | add w ord =>
    obtain ⟨hc', hm⟩ := add_reload f s.user w ord hc (hw w List.mem_cons_self)
    exact ⟨hc', fun x => (hm x).trans (mem_insertAll_iff f x [w] _ hcol)⟩
  | crashAdd _ _ _ _ => cases hok
  | _ => exact ⟨hc, fun x => (or_iff_left List.not_mem_nil).symm⟩

-- non-vacuity: a history with restarts, a file-dictionary add and a repeated add
example : WellFormed (userAdds [.add zqxv [], .restart, .add abcq [], .addFile fileUrl 1 Zqxv [], .restart,
      .add zqxv [], .lint fileUrl 0 [zqxv]]) ∧
    (loadOrEmpty fnsAscii (runOps fnsAscii [] {} [.add zqxv [], .restart, .add abcq [],
      .addFile fileUrl 1 Zqxv [], .restart, .add zqxv [], .lint fileUrl 0 [zqxv]]).user) = [zqxv, abcq] := by decide +kernel

/-- non-vacuity of `restart_preserves`: the theorem applied to a history with restarts, a
file-dictionary add, a repeated add and a document check — all three hypotheses together -/
example : (∀ w, w ∈ loadOrEmpty fnsAscii (runOps fnsAscii [] {} [.add zqxv [], .restart, .add abcq [],
      .addFile fileUrl 1 Zqxv [], .restart, .add zqxv [], .lint fileUrl 0 [zqxv]]).user ↔ w ∈ [zqxv, abcq, zqxv]) :=
  (restart_preserves fnsAscii [] [.add zqxv [], .restart, .add abcq [], .addFile fileUrl 1 Zqxv [], .restart,
    .add zqxv [], .lint fileUrl 0 [zqxv]] (by decide +kernel) (by decide +kernel) (by decide +kernel)).1

/-- the language server's in-memory copy is never stale: after an add or a document check it equals
what the file reloads to (every handler re-reads the files) -/
theorem mem_fresh (f : Fns) (cur : List Entry) (s : State) (w : Word) (ord : List Word)
    (n : Nat) (qs : List Word) :
    (step f cur s (.add w ord)).1.mem = loadOrEmpty f (step f cur s (.add w ord)).1.user ∧
    (step f cur s (.lint fileUrl n qs)).1.mem
      = loadOrEmpty f (step f cur s (.lint fileUrl n qs)).1.user :=
  ⟨by simp only [step], by rw [step_lint_file]⟩

/-! ## a crash during a save -/

/-- a crash before `File::create` leaves the file as it was -/
theorem crash_before_open_keeps (f : Fns) (cur : List Entry) (s : State) (w : Word)
    (ord : List Word) (j : Nat) : (step f cur s (.crashAdd w ord 0 j)).1.user = s.user := by
  simp [step, crashDisk, saveTrace, run]

/-- **A crash right after the open loses everything (general form).** Whatever the dictionary held,
if the process dies after `File::create` and before the first byte is written, the dictionary
reloads EMPTY — not "all words but the one being added". -/
theorem crash_after_open_empty (f : Fns) (cur : List Entry) (s : State) (w : Word)
    (ord : List Word) : loadOrEmpty f (step f cur s (.crashAdd w ord 1 0)).1.user = [] := by
  have h : ∀ ws, crashDisk (saveTrace ws) 1 0 s.user = .file [] false := fun ws => by
    rw [crashDisk_saveTrace]
    cases chunks ws <;> simp [crashDisk, run, takeBytes_zero]
  simp only [step, h]
  rfl

/-- **Crash during save: the full property is false.** `add zqxv; add abcq;` then a third add whose
save dies right after the open: the file exists and is empty, both earlier words are gone, and
`zqxv` is reported again. The property allows losing at most the word being added.
(Finding `c07-crash-during-save`; an atomic temp-file + rename save would create a file C10 does
not allow, so it is recorded, not fixed.) -/
theorem crash_loses_all :
    (runOps fnsAscii [] {} [.add zqxv [], .add abcq [], .crashAdd zqé [] 1 0]).user
      = .file [] false ∧
    loadOrEmpty fnsAscii (runOps fnsAscii [] {} [.add zqxv [], .add abcq []]).user = [zqxv, abcq] ∧
    loadOrEmpty fnsAscii
      (runOps fnsAscii [] {} [.add zqxv [], .add abcq [], .crashAdd zqé [] 1 0]).user = [] ∧
    (step fnsAscii [] (runOps fnsAscii [] {} [.add zqxv [], .add abcq [], .crashAdd zqé [] 1 0])
      (.lint fileUrl 0 [zqxv, abcq])).2 = [false, false] := by decide +kernel

/-- a crash after 7 of the 15 bytes: an OLD word (`abcq`) is lost and a word nobody added (`ab`)
is now in the dictionary -/
theorem crash_loses_old_word_and_invents_one :
    (runOps fnsAscii [] {} [.add zqxv [], .add abcq [], .crashAdd zqé [] 1 7]).user
      = .file ['z', 'q', 'x', 'v', '\n', 'a', 'b'] false ∧
    (step fnsAscii [] (runOps fnsAscii [] {} [.add zqxv [], .add abcq [], .crashAdd zqé [] 1 7])
      (.lint fileUrl 0 [zqxv, abcq, ['a', 'b']])).2 = [true, false, true] := by decide +kernel

/-- a crash inside the two bytes of `é`: the file is not UTF-8, `load_dict` fails, the server
falls back to the empty dictionary — and the next add overwrites the file with one word -/
theorem crash_torn_character_loses_all :
    (runOps fnsAscii [] {} [.add zqxv [], .add abcq [], .crashAdd zqé [] 1 13]).user
      = .file ['z', 'q', 'x', 'v', '\n', 'a', 'b', 'c', 'q', '\n', 'z', 'q'] true ∧
    loadOrEmpty fnsAscii
      (runOps fnsAscii [] {} [.add zqxv [], .add abcq [], .crashAdd zqé [] 1 13]).user = [] ∧
    (runOps fnsAscii [] {} [.add zqxv [], .add abcq [], .crashAdd zqé [] 1 13, .add Zqxv []]).user
      = .file ['Z', 'q', 'x', 'v', '\n'] false := by decide +kernel

/-- **A crash after the last write is harmless.** Once every `write` of the save has completed —
the process dies before the file is closed — the file reloads to exactly the words that were being
saved, the new word included (`j` is irrelevant there). -/
theorem crash_after_full_write_ok (f : Fns) (ws : List Word) (hw : WellFormed ws)
    (hu : UniqueKeys f ws) (old : Disk) (j : Nat) :
    loadDict f (crashDisk (saveTrace ws) ((chunks ws).length + 1) j old) = some ws := by
  obtain ⟨p, torn, h1, _, _, h4⟩ := crashDisk_writes (chunks ws) [] (chunks ws).length j
  obtain ⟨rfl, rfl⟩ := h4 (Nat.le_refl _)
  rw [crashDisk_saveTrace, h1, chunks_flatten]
  exact loadDict_writeLog f ws hw hu

-- non-vacuity: the crash point "after the only write, before close" of a two-word save
example : loadDict fnsAscii (crashDisk (saveTrace [zqxv, abcq]) 2 5 (.file zqxv false))
    = some [zqxv, abcq] := by decide +kernel
/-- non-vacuity of `crash_after_full_write_ok`: the theorem applied (both hypotheses), old file present -/
example : loadDict fnsAscii (crashDisk (saveTrace [zqxv, abcq, []]) ((chunks [zqxv, abcq, []]).length + 1) 5
    (.file zqxv false)) = some [zqxv, abcq, []] :=
  crash_after_full_write_ok fnsAscii _ (by decide +kernel) (by decide +kernel) _ 5

-- `locate` maps byte offsets to crash points: offset 0 = after the open, 7 = inside the write,
-- 10 = all written
example : locate (saveTrace [zqxv, abcq]) 0 = (1, 0) ∧ locate (saveTrace [zqxv, abcq]) 7 = (1, 7) ∧
    locate (saveTrace [zqxv, abcq]) 10 = (2, 0) := by decide +kernel

/-! ## file dictionaries -/

/-- **A file-dictionary word affects only its file.** `HarperAddToFileDict` for a document whose
dictionary file name is `n` leaves the accept answer of every word unchanged in every document
whose dictionary file name `m` is different — whatever the kind `u` of the command's URL (only a URL with a
path and a scheme other than `untitled` writes at all). (`file_dict_name` itself is per-op data: it is NOT
injective on paths — `/a/b` and `/a%b` share a name — which the oracle records as
`c07-file-dict-name-collision`.) -/
theorem file_dict_isolated (f : Fns) (cur : List Entry) (s : State) (u : UrlKind) (n m : Nat)
    (w : Word) (ord : List Word) (h : m ≠ n) (q : Word) :
    acceptM f (children f cur (step f cur s (.addFile u n w ord)).1 m) q
      = acceptM f (children f cur s m) q := by
  have hn : ¬(u.path = true ∧ u.untitled = false ∧ n = m) := fun c => h c.2.2.symm
  simp only [children, step_user, step_fileDisk, if_neg hn]

/-! ### a file-dictionary word is accepted from then on -/

/-- **A file-dictionary word is accepted from then on (partial).** After `HarperAddToFileDict w` for a
document (`file:` URL) whose dictionary file is `n` (clean), `w` is not reported in that document
immediately and after any later sequence of operations — user-dictionary adds, CRASHED
user-dictionary saves, restarts, checks (of documents of any URL kind), adds to other file
dictionaries, adds from URLs without a path or from `untitled:` URLs (nothing is written), and adds to
the same file dictionary from `file:` URLs that are well-formed and do not replace `w` by a case variant
(`BenignFileAdd`) — under provisos (1), (2) of `add_then_accepted_partial`.
(`file_dict_accepted_partial` is the case `rest = []`.) -/
theorem file_dict_then_accepted_partial (f : Fns) (cur : List Entry) (s : State) (n : Nat) (w : Word)
    (ord : List Word) (rest : List Op) (hclean : Clean f (fileDisk s.files n))
    (hw : WellFormedWord w) (hn : f.normalize w = w)
    (hcur : ∀ e, lookup f cur w = some e → e.dialectOk = true)
    (hrest : ∀ u w' ord', Op.addFile u n w' ord' ∈ rest → BenignFileAdd f w u w') :
    acceptM f (children f cur (runOps f cur (step f cur s (.addFile fileUrl n w ord)).1 rest) n) w
      = true := by
  obtain ⟨hc', hm'⟩ := add_reload f (fileDisk s.files n) w ord hclean hw
  have hs : fileDisk (step f cur s (.addFile fileUrl n w ord)).1.files n
      = run (saveTrace (savedWords f (fileDisk s.files n) w ord)) (fileDisk s.files n) :=
    fileDisk_cons_self _ _ _
  rw [← hs] at hc' hm'
  have hm := benignFile_runOps f cur n w rest _ hrest hc' ((hm' w).mpr (mem_insert_self f w _))
  simp only [children]
  exact acceptM_cons f cur _ w hcur (acceptM_cons f _ _ w (lookup_entries_dialectOk f _ w)
    (acceptM_head f _ [] (uniqueKeys_loadOrEmpty f _) w hm hn))

/-- in particular at once (`rest = []`) — for a `file:` URL; for an `untitled:` URL see
`add_file_untitled_not_accepted` below -/
theorem file_dict_accepted_partial (f : Fns) (cur : List Entry) (s : State) (n : Nat) (w : Word)
    (ord : List Word) (hclean : Clean f (fileDisk s.files n)) (hw : WellFormedWord w)
    (hn : f.normalize w = w) (hcur : ∀ e, lookup f cur w = some e → e.dialectOk = true) :
    acceptM f (children f cur (step f cur s (.addFile fileUrl n w ord)).1 n) w = true :=
  file_dict_then_accepted_partial f cur s n w ord [] hclean hw hn hcur fun _ _ _ h => nomatch h

/-- non-vacuity of `file_dict_then_accepted_partial`: later a user add of a case variant, a crashed
user save, an add to another file, an add to the same file, a case-variant add to the same
name from an `untitled:Untitled-1` URL (nothing is written) and a check of that document, a restart -/
example : acceptM fnsAscii (children fnsAscii [⟨colour, false⟩]
      (runOps fnsAscii [⟨colour, false⟩]
        (step fnsAscii [⟨colour, false⟩] { files := [(1, .file (abcq ++ ['\n']) false)] }
          (.addFile fileUrl 1 zqxv [])).1
        [.add Zqxv [], .crashAdd zqé [] 1 0, .addFile fileUrl 2 Zqxv [], .addFile fileUrl 1 zqé [],
          .addFile untitledUrl 1 Zqxv [], .lint untitledUrl 1 [zqxv], .restart]) 1)
      zqxv = true :=
  file_dict_then_accepted_partial fnsAscii _ _ 1 zqxv [] _ (by decide +kernel) (by decide +kernel) (by decide +kernel)
    (by decide +kernel)
    (by intro u w' ord' hop
        simp only [List.mem_cons, List.not_mem_nil, or_false, reduceCtorEq, false_or, or_false,
          Op.addFile.injEq] at hop
        rcases hop with ⟨_, h, _⟩ | ⟨rfl, _, rfl, _⟩ | ⟨rfl, _, rfl, _⟩
        · cases h
        · decide +kernel
        · decide +kernel)

-- non-vacuity: two documents, the word is accepted in document 1 only
example : (step fnsAscii [] (runOps fnsAscii [] {} [.addFile fileUrl 1 zqxv []]) (.lint fileUrl 1 [zqxv])).2 = [true] ∧
    (step fnsAscii [] (runOps fnsAscii [] {} [.addFile fileUrl 1 zqxv []]) (.lint fileUrl 2 [zqxv])).2 = [false] := by
  decide +kernel

/-- non-vacuity of `file_dict_isolated` / `file_dict_accepted_partial`: the theorems applied; the file
dictionary already holds a word, the curated slice lists the added word's key -/
example : acceptM fnsAscii (children fnsAscii [⟨Zqxv, true⟩]
      (step fnsAscii [⟨Zqxv, true⟩] { files := [(1, .file (abcq ++ ['\n']) false)] }
        (.addFile fileUrl 1 zqxv [])).1 1) zqxv = true :=
  file_dict_accepted_partial fnsAscii _ _ 1 zqxv [] (by decide +kernel) (by decide +kernel) (by decide +kernel) (by decide +kernel)
example : acceptM fnsAscii (children fnsAscii []
      (step fnsAscii [] { files := [(1, .file (abcq ++ ['\n']) false)] } (.addFile fileUrl 1 zqxv [])).1 2) zqxv
    = acceptM fnsAscii (children fnsAscii [] { files := [(1, .file (abcq ++ ['\n']) false)] } 2) zqxv :=
  file_dict_isolated fnsAscii [] _ fileUrl 1 2 zqxv [] (by decide +kernel) zqxv

/-! ## the other lints -/

/-- **All other lints are unchanged** — under the modelling assumption that non-spelling rules are
a function `other` of the text alone (C11's independence; monitored by the oracle, which compares
every non-spelling lint of the text before and after each add): no operation changes them.
The assumption is FALSE of two rules, which read the dictionary / the metadata an added word
acquires (recorded findings `c07-capitalization-consults-dictionary`: SentenceCapitalization skips a
sentence-initial word whose dictionary spelling is mixed-case; `c07-oxford-comma-reads-word-metadata`:
OxfordComma inspects the first two words that HAVE metadata); the monitor excepts exactly these. -/
theorem other_lints_unchanged (f : Fns) (cur : List Entry) (other : List Char → List Nat)
    (s : State) (op : Op) (name : Nat) (text : List Char) (qs : List Word) :
    (lintAll f cur other (step f cur s op).1 name text qs).2
      = (lintAll f cur other s name text qs).2 := rfl

/-! ## the rebuild decision (`doc_state.dict != dict`) -/

/-- the assumption on the hash: the character sequences seen get pairwise different hashes
(decidable for a concrete hash; for foldhash it is a 64-bit collision assumption) -/
abbrev HashInjectiveOnSeen (h : List Char → Nat) (seen : List (List Char)) : Prop :=
  ∀ a ∈ seen, ∀ b ∈ seen, h a = h b → a = b

/-- an add of a non-empty word with a new key lengthens the character stream, so a hash that separates
the two streams seen tells them apart -/
theorem hash_ne_of_add (h : List Char → Nat) (old oldIt newIt : List Word) (w : Word)
    (hold : oldIt.Perm old) (hnew : newIt.Perm (old ++ [w])) (hw : w ≠ [])
    (hinj : HashInjectiveOnSeen h [stream oldIt, stream newIt]) :
    h (stream oldIt) ≠ h (stream newIt) := by
  have hlen : (stream newIt).length = (stream oldIt).length + w.length := by
    rw [stream, stream, hnew.flatten.length_eq, hold.flatten.length_eq]
    simp
  refine fun e => hw (List.eq_nil_of_length_eq_zero ?_)
  rw [hinj _ (by simp) _ (by simp) e] at hlen
  omega

/-- **The rebuild decision is sound for an add to the user dictionary.** The document holds a merged
dictionary whose user child enumerated the words `old` (in any order `oldIt`); the add of a
non-empty word `w` with a new key makes the user dictionary `old ++ [w]`, reloaded and enumerated
in any order `newIt`. If the hash separates the two character streams, `MergedDictionary`'s `==`
reports a change, so `update_document` installs the new dictionary and rebuilds the linter —
whatever the file-dictionary children are. (This is what lets `Model/DictIO.step` and
`Server.dictDiffers` treat the comparison as exact.) -/
theorem rebuild_decision_sound (h : List Char → Nat) (old oldIt newIt : List Word) (w : Word)
    (fileHeld fileLoaded : Child) (hold : oldIt.Perm old) (hnew : newIt.Perm (old ++ [w]))
    (hw : w ≠ []) (hinj : HashInjectiveOnSeen h [stream oldIt, stream newIt]) :
    mergedEq h [.curated, .words oldIt, fileHeld] [.curated, .words newIt, fileLoaded] = false ∧
    heldAfter h [.curated, .words oldIt, fileHeld] [.curated, .words newIt, fileLoaded]
      = [.curated, .words newIt, fileLoaded] := by
  have hh := hash_ne_of_add h old oldIt newIt w hold hnew hw hinj
  have hfalse : mergedEq h [.curated, .words oldIt, fileHeld]
      [.curated, .words newIt, fileLoaded] = false := by
    simp [mergedEq, fingerprint, childHash, hh]
  exact ⟨hfalse, by simp [heldAfter, hfalse]⟩

/-- the same for an add to the document's file dictionary (third child) -/
theorem rebuild_decision_sound_file (h : List Char → Nat) (old oldIt newIt : List Word) (w : Word)
    (userHeld userLoaded : Child) (hold : oldIt.Perm old) (hnew : newIt.Perm (old ++ [w]))
    (hw : w ≠ []) (hinj : HashInjectiveOnSeen h [stream oldIt, stream newIt]) :
    mergedEq h [.curated, userHeld, .words oldIt] [.curated, userLoaded, .words newIt] = false := by
  have hh := hash_ne_of_add h old oldIt newIt w hold hnew hw hinj
  simp [mergedEq, fingerprint, childHash, hh]

-- non-vacuity: the injective stand-in hash on a concrete add, orders shuffled
example : HashInjectiveOnSeen hashInj [stream [abcq, zqxv], stream [Zqxv.reverse, zqxv, abcq]] ∧
    mergedEq hashInj [.curated, .words [abcq, zqxv], .words []]
      [.curated, .words [Zqxv.reverse, zqxv, abcq], .words []] = false := by decide +kernel

/-- non-vacuity of `rebuild_decision_sound(_file)`: the theorems applied, all four hypotheses
(two shuffled enumerations, a non-empty word, the injective stand-in hash) -/
example : mergedEq hashInj [.curated, .words [abcq, zqxv], .words [colour]]
      [.curated, .words [Zqxv.reverse, zqxv, abcq], .words []] = false :=
  (rebuild_decision_sound hashInj [zqxv, abcq] [abcq, zqxv] [Zqxv.reverse, zqxv, abcq] Zqxv.reverse
    (.words [colour]) (.words []) (List.isPerm_iff.mp (by decide +kernel)) (List.isPerm_iff.mp (by decide +kernel))
    (by decide +kernel) (by decide +kernel)).1
example : mergedEq hashInj [.curated, .words [colour], .words [abcq, zqxv]]
      [.curated, .words [], .words [Zqxv.reverse, zqxv, abcq]] = false :=
  rebuild_decision_sound_file hashInj [zqxv, abcq] [abcq, zqxv] [Zqxv.reverse, zqxv, abcq] Zqxv.reverse
    (.words [colour]) (.words []) (List.isPerm_iff.mp (by decide +kernel)) (List.isPerm_iff.mp (by decide +kernel))
    (by decide +kernel) (by decide +kernel)

/-- **An XOR-combining fingerprint breaks the decision.** For ANY per-character hash `g`, a word in
which every character occurs an even number of times (`xoxo`) leaves the XOR fingerprint of the
stream unchanged: the hypothesis `HashInjectiveOnSeen` fails, `==` reports "no change", … -/
theorem xor_fingerprint_misses_xoxo (g : Char → Nat) (s : List Char) :
    xorHash g (s ++ ['x', 'o', 'x', 'o']) = xorHash g s ∧
    ¬ HashInjectiveOnSeen (xorHash g) [s, s ++ ['x', 'o', 'x', 'o']] := by
  have h1 : xorHash g (s ++ ['x', 'o', 'x', 'o']) = xorHash g s := by
    simp only [xorHash, List.foldl_append, List.foldl_cons, List.foldl_nil]
    generalize List.foldl (fun acc c => acc ^^^ g c) 0 s = a
    rw [Nat.xor_assoc (a ^^^ g 'x'), Nat.xor_comm (g 'o'), ← Nat.xor_assoc (a ^^^ g 'x'),
      Nat.xor_assoc a, Nat.xor_self, Nat.xor_zero, Nat.xor_assoc, Nat.xor_self, Nat.xor_zero]
  refine ⟨h1, fun hinj => ?_⟩
  have := hinj s (by simp) (s ++ ['x', 'o', 'x', 'o']) (by simp) h1.symm
  have hl := congrArg List.length this
  simp at hl

/-- … and the open document keeps its old dictionary: after `add xoxo` the file holds the word, a
fresh check accepts it, but the document's held dictionary still reports it. -/
theorem xor_fingerprint_keeps_stale_linter :
    mergedEq (xorHash Char.toNat) [.curated, .words [zqxv], .words []]
      [.curated, .words [zqxv, ['x', 'o', 'x', 'o']], .words []] = true ∧
    heldAfter (xorHash Char.toNat) [.curated, .words [zqxv], .words []]
      [.curated, .words [zqxv, ['x', 'o', 'x', 'o']], .words []]
      = [.curated, .words [zqxv], .words []] ∧
    acceptM fnsAscii [[], entries [zqxv], []] ['x', 'o', 'x', 'o'] = false ∧
    acceptM fnsAscii [[], entries [zqxv, ['x', 'o', 'x', 'o']], []] ['x', 'o', 'x', 'o'] = true := by
  decide +kernel

/-- **The real `==` ignores word boundaries.** Whatever the hash, `{ab, c}` and `{a, bc}` compare
equal when enumerated in these orders: a hand-edited dictionary file can change without the open
document noticing. Not reachable by add commands alone (`rebuild_decision_sound`: the stream grows).
(Finding `c07-dict-eq-no-word-boundaries`.) -/
theorem eq_ignores_word_boundaries (h : List Char → Nat) :
    mergedEq h [.curated, .words [['a', 'b'], ['c']], .words []]
      [.curated, .words [['a'], ['b', 'c']], .words []] = true := by
  simp [mergedEq, fingerprint, childHash, stream]

/-- … and a REPLACING add (same key, other case) can be invisible too: `{A, aA}` enumerated `A, aA`
and `{A, Aa}` enumerated `Aa, A` have the same stream -/
theorem replacing_add_can_be_invisible (h : List Char → Nat) :
    mergedEq h [.curated, .words [['A'], ['a', 'A']], .words []]
      [.curated, .words [['A', 'a'], ['A']], .words []] = true := by
  simp [mergedEq, fingerprint, childHash, stream]

/-! ## the JS API -/

/-- `import_words [w]` of a word with a NEW key makes the linter accept it at once
(`word_count` grows, so the lint dictionary is rebuilt) -/
theorem js_import_accepted_partial (f : Fns) (cur : List Entry) (js : Js) (w : Word)
    (hu : UniqueKeys f js.user) (hnew : ∀ e ∈ js.user, key f e ≠ key f w)
    (hn : f.normalize w = w) (hcur : ∀ e, lookup f cur w = some e → e.dialectOk = true) :
    acceptM f [cur, entries (js.importWords f [w]).lint] w = true := by
  obtain ⟨_, hl, _, hwl⟩ := jsHolds_import_new f w [w] js hu hnew List.mem_cons_self
    fun x hx _ => List.mem_singleton.mp hx
  exact acceptM_cons f cur _ w hcur (acceptM_head f _ [] hl w hwl hn)

/-- non-vacuity of `js_import_accepted_partial`: the theorem applied to a linter that already holds a
word, the curated slice listing the new word's key -/
example : acceptM fnsAscii [[⟨Zqxv, true⟩, ⟨colour, false⟩],
    entries ((⟨[abcq], [abcq]⟩ : Js).importWords fnsAscii [zqxv]).lint] zqxv = true :=
  js_import_accepted_partial fnsAscii _ ⟨[abcq], [abcq]⟩ zqxv (by decide +kernel) (by decide +kernel) (by decide +kernel)
    (by decide +kernel)

/-- **`import_words` with a case variant leaves the lint dictionary stale.** `import ["Zqxv"]`,
then `import ["zqxv"]`: the user dictionary (and `export_words`) now holds `zqxv`, the count did
not grow, `synchronize_lint_dict` is skipped, and the just-imported `zqxv` is reported. A new
`Linter` importing the export accepts it. (Matches `c07-case-collision`.) -/
theorem js_import_case_variant_stale :
    (runOps fnsAscii [] {} [.jsImport [Zqxv], .jsImport [zqxv]]).js = ⟨[zqxv], [Zqxv]⟩ ∧
    (step fnsAscii [] (runOps fnsAscii [] {} [.jsImport [Zqxv], .jsImport [zqxv]])
      (.jsLint [zqxv, Zqxv])).2 = [false, true] ∧
    (step fnsAscii [] (runOps fnsAscii [] {} [.jsImport [Zqxv], .jsImport [zqxv], .jsRestart []])
      (.jsLint [zqxv, Zqxv])).2 = [true, true] := by decide +kernel

/-! ## a dictionary file on disk -/

/-- **A dictionary file on disk** (the property's third way of adding a word; no command involved):
whatever state the server is in, if the user dictionary file — hand-written or saved — reloads to a
list containing the normalized word `w`, the next check of ANY document (of any URL kind `u` —
also an `untitled:` one, whose file dictionary is empty) accepts `w`, under the
same proviso on the curated dictionary as `add_then_accepted_partial`. -/
theorem disk_word_accepted_partial (f : Fns) (cur : List Entry) (s : State) (w : Word) (u : UrlKind)
    (name : Nat) (hw : w ∈ loadOrEmpty f s.user) (hn : f.normalize w = w)
    (hcur : ∀ e, lookup f cur w = some e → e.dialectOk = true) :
    (step f cur s (.lint u name [w])).2 = [true] := by
  simp only [step, childrenOf]
  cases loadFileDict f u (fileDisk s.files name) with
  | none => rfl
  | some fd =>
    simp only [Option.map_some, List.map_cons, List.map_nil]
    rw [acceptM_cons f cur _ w hcur (acceptM_head f _ _ (uniqueKeys_loadOrEmpty f _) w hw hn)]

/-- non-vacuity of `disk_word_accepted_partial`: a hand-edited file with CRLF line ends and a
duplicate key; the later spelling is the one that counts -/
example : (step fnsAscii [⟨colour, false⟩]
      { user := .file (Zqxv ++ ['\r', '\n'] ++ abcq ++ ['\n'] ++ zqxv ++ ['\n']) false }
      (.lint fileUrl 7 [zqxv])).2 = [true] :=
  disk_word_accepted_partial fnsAscii _ _ zqxv fileUrl 7 (by decide +kernel) (by decide +kernel) (by decide +kernel)

/-! ## every crash point of a save -/

/-- **Every crash point of a save.** Whatever crash point `(k, j)` — `k` completed syscalls of the
traced save, `j` bytes of the next `write` — either nothing has happened yet (`k = 0`: the file is
untouched), or the file holds a character-prefix `p` of the new contents `word ⏎ word ⏎ …`
(followed, if `torn`, by an incomplete UTF-8 sequence, and then `p` is a proper prefix): the OLD
contents are gone from the first syscall on. So a crashed save never leaves "the old dictionary"
except before the open, and leaves "the new dictionary" only once all bytes are out; in between, the
words lost are all those of the old dictionary that lie beyond the cut — not "at most the word being
added". The three named crash points and the counter-histories above are instances. -/
theorem crash_any_point_prefix (ws : List Word) (old : Disk) (k j : Nat) :
    (k = 0 ∧ crashDisk (saveTrace ws) k j old = old) ∨
    (0 < k ∧ ∃ p torn, crashDisk (saveTrace ws) k j old = .file p torn ∧ p <+: writeLog ws ∧
      (torn = true → p ≠ writeLog ws)) := by
  cases k with
  | zero => left; simp [crashDisk, saveTrace, run]
  | succ n =>
    right
    refine ⟨Nat.succ_pos n, ?_⟩
    obtain ⟨p, torn, h1, h2, h3, _⟩ := crashDisk_writes (chunks ws) [] n j
    rw [chunks_flatten] at h2 h3
    exact ⟨p, torn, crashDisk_saveTrace ws old n j ▸ h1, h2, h3⟩

/-- what reloads after a crash at ANY point of the save of `ws` comes from a prefix of the new
file: every reloaded word is a line of that prefix (general form of `crash_loses_all`, … ) -/
theorem crash_any_point_reload (f : Fns) (ws : List Word) (old : Disk) (k j : Nat) (hk : 0 < k) :
    ∃ p, p <+: writeLog ws ∧
      (loadOrEmpty f (crashDisk (saveTrace ws) k j old) = [] ∨
       loadOrEmpty f (crashDisk (saveTrace ws) k j old) = loadWords f p) := by
  rcases crash_any_point_prefix ws old k j with ⟨h0, _⟩ | ⟨_, p, torn, h1, h2, _⟩
  · omega
  · refine ⟨p, h2, ?_⟩
    rw [h1]
    cases torn
    · right; rfl
    · left; rfl

/-- the instances: the crash points of `crash_loses_all`, `crash_loses_old_word_and_invents_one`
and `crash_torn_character_loses_all` are prefixes `[]`, `zqxv⏎ab`, `zqxv⏎abcq⏎zq`+torn of
`zqxv⏎abcq⏎zqé⏎` -/
example : crashDisk (saveTrace [zqxv, abcq, zqé]) 1 7 (.file (zqxv ++ ['\n'] ++ abcq ++ ['\n']) false)
      = .file ['z', 'q', 'x', 'v', '\n', 'a', 'b'] false ∧
    crashDisk (saveTrace [zqxv, abcq, zqé]) 1 13 (.file (zqxv ++ ['\n'] ++ abcq ++ ['\n']) false)
      = .file ['z', 'q', 'x', 'v', '\n', 'a', 'b', 'c', 'q', '\n', 'z', 'q'] true := by decide +kernel

/-! ## the document URL — `HarperAddToFileDict` on an `untitled:` document

`backend.rs` tests the URL twice (`Model/DictIO.UrlKind`): `scheme() == "untitled"` and
`to_file_path()`. The theorems above that mention `fileUrl` are about `file:` URLs; these are about the
other three kinds. One behaviour contradicts the property as written (kernel-checked history below,
reproduced on the real server by the `server-url` stream of `harness/src/c07.rs`):
* `untitled_file_dict_add_ignored` — on an unsaved buffer (`untitled:Untitled-1` and `untitled:/a/b.md`
  alike) the command does nothing, silently.
A second one was repaired in the project (see the head of this file): `untitled_path_add_replaces_file`
and `untitled_path_overwrites_file_dict` state that the file is untouched. -/

/-- **`HarperAddToFileDict` on a URL without a path does nothing.** If `to_file_path()` fails —
`untitled:Untitled-1`, but also `zq:opaque` or a URL with a host — the command leaves the WHOLE state as
it was: no dictionary file is created or touched (`fileDisk` of every name, the user dictionary), and
nothing is kept in memory either (the server holds no file dictionary between commands; the document
keeps its linter). The answer list is empty and the response is `null`: the client is told nothing. -/
theorem add_file_untitled_writes_nothing (f : Fns) (cur : List Entry) (s : State) (u : UrlKind)
    (n : Nat) (w : Word) (ord : List Word) (h : u.path = false) :
    step f cur s (.addFile u n w ord) = (s, []) := by
  have hp : ¬ u.path = true := by simp [h]
  rw [step_addFile, if_neg (fun c => hp c.1), if_neg hp]

/-- … in particular the file on disk under ANY name, and what it reloads to, are unchanged … -/
theorem add_file_untitled_disk_unchanged (f : Fns) (cur : List Entry) (s : State) (u : UrlKind)
    (n m : Nat) (w : Word) (ord : List Word) (h : u.path = false) :
    fileDisk (step f cur s (.addFile u n w ord)).1.files m = fileDisk s.files m ∧
    (step f cur s (.addFile u n w ord)).1.user = s.user := by
  rw [add_file_untitled_writes_nothing f cur s u n w ord h]
  exact ⟨rfl, rfl⟩

/-- … and every later operation (a check of any document, another command, a restart) answers and
acts exactly as if the command had never been issued -/
theorem add_file_untitled_no_trace (f : Fns) (cur : List Entry) (s : State) (u : UrlKind)
    (n : Nat) (w : Word) (ord : List Word) (h : u.path = false) (rest : List Op) (op : Op) :
    step f cur (runOps f cur (step f cur s (.addFile u n w ord)).1 rest) op
      = step f cur (runOps f cur s rest) op := by
  rw [add_file_untitled_writes_nothing f cur s u n w ord h]

-- non-vacuity: both pathless kinds satisfy the hypothesis; a state with a user dictionary, a file
-- dictionary under the very name used, and a JS linter; the order argument is junk
example : untitledUrl.path = false ∧ opaqueUrl.path = false := ⟨rfl, rfl⟩
example : step fnsAscii [⟨colour, false⟩]
      { user := .file (abcq ++ ['\n']) false, files := [(4, .file (Zqxv ++ ['\n']) false)],
        mem := [abcq], js := ⟨[zqé], []⟩ } (.addFile untitledUrl 4 zqxv [abcq, zqxv])
    = ({ user := .file (abcq ++ ['\n']) false, files := [(4, .file (Zqxv ++ ['\n']) false)],
         mem := [abcq], js := ⟨[zqé], []⟩ }, []) :=
  add_file_untitled_writes_nothing fnsAscii _ _ untitledUrl 4 zqxv _ rfl
-- the hypothesis is needed: with a path and a scheme other than `untitled` a file appears; with the
-- `untitled` scheme none does, path or not
example : (step fnsAscii [] {} (.addFile fileUrl 4 zqxv [])).1.files
      = [(4, .file (zqxv ++ ['\n']) false)] ∧
    (step fnsAscii [] {} (.addFile untitledPathUrl 4 zqxv [])).1.files = [] := by decide +kernel

/-- **The document the command was issued for does not accept the word.** For an `untitled:` URL — with
or without a path — the next check of that document answers exactly what it answered before the
command, for every word: `load_file_dictionary` gives an `untitled:` document the empty file
dictionary whatever is on disk. So a word that was reported stays reported. -/
theorem add_file_untitled_not_accepted (f : Fns) (cur : List Entry) (s : State) (u : UrlKind)
    (n : Nat) (w : Word) (ord qs : List Word) (h : u.untitled = true) :
    (step f cur (step f cur s (.addFile u n w ord)).1 (.lint u n qs)).2
      = (step f cur s (.lint u n qs)).2 := by
  have hl : ∀ s' : State, (step f cur s' (.lint u n qs)).2
      = qs.map (acceptM f [cur, entries (loadOrEmpty f s'.user), entries []]) := by
    intro s'
    simp only [step, childrenOf, loadFileDict_untitled f u _ h, Option.map_some]
  rw [hl, hl, step_user]

-- non-vacuity: both `untitled:` kinds; the word is reported before and after, an unrelated user word
-- is accepted before and after
example : untitledUrl.untitled = true ∧ untitledPathUrl.untitled = true := ⟨rfl, rfl⟩
example : (step fnsAscii [] { user := .file (abcq ++ ['\n']) false } (.lint untitledPathUrl 1 [zqxv, abcq])).2
      = [false, true] ∧
    (step fnsAscii [] (step fnsAscii [] { user := .file (abcq ++ ['\n']) false }
      (.addFile untitledPathUrl 1 zqxv [])).1 (.lint untitledPathUrl 1 [zqxv, abcq])).2 = [false, true] := by
  decide +kernel

/-- **Finding: `HarperAddToFileDict` on an unsaved buffer is silently ignored — the property is false.**
`didOpen untitled:Untitled-1` with the text `… zqxv …`; `HarperAddToFileDict zqxv` (the code action is
offered for every document): the state afterwards is the initial state — no file, nothing in memory —
and the next check of the document reports `zqxv` again, as does every later one. The same command
on a `file:` document makes the word accepted. (Class `c07-untitled-url-file-dict-add-ignored`; the
real server: same diagnostics published again, response `null`, no file created.) -/
theorem untitled_file_dict_add_ignored :
    runOps fnsAscii [] {} [.lint untitledUrl 0 [zqxv], .addFile untitledUrl 0 zqxv []] = {} ∧
    (step fnsAscii [] (runOps fnsAscii [] {} [.lint untitledUrl 0 [zqxv], .addFile untitledUrl 0 zqxv []])
      (.lint untitledUrl 0 [zqxv])).2 = [false] ∧
    (step fnsAscii [] (runOps fnsAscii [] {} [.addFile untitledUrl 0 zqxv [], .restart,
      .addFile untitledUrl 0 zqxv []]) (.lint untitledUrl 0 [zqxv])).2 = [false] ∧
    (step fnsAscii [] (runOps fnsAscii [] {} [.lint fileUrl 0 [zqxv], .addFile fileUrl 0 zqxv []])
      (.lint fileUrl 0 [zqxv])).2 = [true] := by decide +kernel

/-- An `untitled:` URL, with or without a path: NOTHING is written — the whole list of dictionary files
and the user dictionary are as before; `save_file_dictionary` returns `Ok(())` before `save_dict` for the
`untitled` scheme (the same guard as `load_file_dictionary`). -/
theorem add_file_untitled_scheme_writes_nothing (f : Fns) (cur : List Entry) (s : State) (u : UrlKind)
    (n : Nat) (w : Word) (ord : List Word) (h : u.untitled = true) :
    (step f cur s (.addFile u n w ord)).1.files = s.files ∧
    (step f cur s (.addFile u n w ord)).1.user = s.user ∧
    (step f cur s (.addFile u n w ord)).2 = [] := by
  have hu : ¬ u.untitled = false := by simp [h]
  rw [step_addFile, if_neg (fun c => hu c.2)]
  split <;> exact ⟨rfl, rfl, rfl⟩

theorem untitled_path_add_replaces_file (f : Fns) (cur : List Entry) (s : State) (n : Nat) (w : Word)
    (ord : List Word) (m : Nat) :
    fileDisk (step f cur s (.addFile untitledPathUrl n w ord)).1.files m = fileDisk s.files m ∧
    (step f cur s (.addFile untitledPathUrl n w ord)).1.user = s.user := by
  obtain ⟨hf, hu, _⟩ := add_file_untitled_scheme_writes_nothing f cur s untitledPathUrl n w ord rfl
  exact ⟨by rw [hf], hu⟩

-- non-vacuity: a dictionary file under the very name used, a user dictionary; both `untitled:` kinds
example : fileDisk (step fnsAscii []
      { user := .file (abcq ++ ['\n']) false, files := [(4, .file (Zqxv ++ ['\n']) false)] }
      (.addFile untitledPathUrl 4 zqxv [])).1.files 4
    = .file (Zqxv ++ ['\n']) false :=
  (untitled_path_add_replaces_file fnsAscii [] _ 4 zqxv [] 4).1
example : (step fnsAscii [] { files := [(4, .file (Zqxv ++ ['\n']) false)] }
      (.addFile untitledUrl 4 zqxv [])).1.files = [(4, .file (Zqxv ++ ['\n']) false)] :=
  (add_file_untitled_scheme_writes_nothing fnsAscii [] _ untitledUrl 4 zqxv [] rfl).1

/-- **The repaired finding, as a regression statement: an add from `untitled:/a/b.md` leaves the file
dictionary of `/a/b.md` alone.** `HarperAddToFileDict zqxv`, `HarperAddToFileDict abcq` from
`file:///a/b.md`; then an unsaved buffer with that file name (`untitled:/a/b.md`: same `file_dict_name`)
adds `zqé`: the dictionary file still reloads to `zqxv`, `abcq`, `file:///a/b.md` still accepts both
(and does not accept `zqé`), and the untitled document itself reports all three (its file dictionary is
always empty: that is `untitled_file_dict_add_ignored`, still recorded). -/
theorem untitled_path_overwrites_file_dict :
    loadOrEmpty fnsAscii (fileDisk (runOps fnsAscii [] {}
      [.addFile fileUrl 1 zqxv [], .addFile fileUrl 1 abcq []]).files 1) = [zqxv, abcq] ∧
    loadOrEmpty fnsAscii (fileDisk (runOps fnsAscii [] {} [.addFile fileUrl 1 zqxv [],
      .addFile fileUrl 1 abcq [], .addFile untitledPathUrl 1 zqé []]).files 1) = [zqxv, abcq] ∧
    (step fnsAscii [] (runOps fnsAscii [] {} [.addFile fileUrl 1 zqxv [], .addFile fileUrl 1 abcq [],
      .addFile untitledPathUrl 1 zqé []]) (.lint fileUrl 1 [zqxv, abcq, zqé])).2 = [true, true, false] ∧
    (step fnsAscii [] (runOps fnsAscii [] {} [.addFile fileUrl 1 zqxv [], .addFile fileUrl 1 abcq [],
      .addFile untitledPathUrl 1 zqé []]) (.lint untitledPathUrl 1 [zqxv, abcq, zqé])).2
      = [false, false, false] := by decide +kernel

/-- … so `BenignFileAdd` (hypothesis of `file_dict_then_accepted_partial`) admits adds from `untitled:`
URLs of either kind, whatever the word -/
example : BenignFileAdd fnsAscii zqxv untitledPathUrl zqé ∧ BenignFileAdd fnsAscii zqxv fileUrl zqé ∧
    BenignFileAdd fnsAscii zqxv untitledUrl Zqxv ∧ ¬ BenignFileAdd fnsAscii zqxv fileUrl Zqxv := by decide +kernel

/-- … and `file_dict_then_accepted_partial` applied to the history of the repaired finding: `zqxv` added
from `file:///a/b.md` stays accepted there after an add from `untitled:/a/b.md` -/
example : acceptM fnsAscii (children fnsAscii [] (runOps fnsAscii []
      (step fnsAscii [] {} (.addFile fileUrl 1 zqxv [])).1 [.addFile untitledPathUrl 1 zqé []]) 1) zqxv
    = true :=
  file_dict_then_accepted_partial fnsAscii [] {} 1 zqxv [] [.addFile untitledPathUrl 1 zqé []]
    (by decide +kernel) (by decide +kernel) (by decide +kernel) (by decide +kernel) (by
      intro u w' ord' h
      simp only [List.mem_singleton, Op.addFile.injEq] at h
      obtain ⟨rfl, _, rfl, _⟩ := h
      intro hu; exact absurd hu.2 (by decide +kernel))

/-- a URL whose dictionary cannot be generated at all (`zq:opaque`, a URL with a host): the document
is never parsed, no word is ever reported, and a command issued for it returns before doing anything -/
theorem opaque_url_never_checked (f : Fns) (cur : List Entry) (s : State) (n : Nat) (w : Word)
    (ord qs : List Word) :
    step f cur s (.lint opaqueUrl n qs) = (s, qs.map fun _ => true) ∧
    step f cur s (.addFile opaqueUrl n w ord) = (s, []) := ⟨rfl, rfl⟩

/-- what still works for an unsaved buffer: a word added to the USER dictionary is accepted at the
document's next check (instance of `disk_word_accepted_partial`, which holds for every URL kind) -/
example : (step fnsAscii [⟨colour, false⟩] (step fnsAscii [⟨colour, false⟩] {} (.add zqxv [])).1
    (.lint untitledUrl 9 [zqxv])).2 = [true] :=
  disk_word_accepted_partial fnsAscii _ _ zqxv untitledUrl 9 (by decide +kernel) (by decide +kernel) (by decide +kernel)

/-- `file_dict_isolated` for an `untitled:/…` command: no other name is touched (nor its own:
`untitled_path_add_replaces_file`) -/
example : acceptM fnsAscii (children fnsAscii []
      (step fnsAscii [] { files := [(1, .file (abcq ++ ['\n']) false), (2, .file (zqxv ++ ['\n']) false)] }
        (.addFile untitledPathUrl 1 zqé [])).1 2) zqxv
    = acceptM fnsAscii (children fnsAscii []
      { files := [(1, .file (abcq ++ ['\n']) false), (2, .file (zqxv ++ ['\n']) false)] } 2) zqxv :=
  file_dict_isolated fnsAscii [] _ untitledPathUrl 1 2 zqé [] (by decide +kernel) zqxv

/-! ## FILE dictionaries reload to exactly the words added

`restart_preserves` is about the user dictionary only. The same statement for a per-file dictionary: no crash
hypothesis is needed (`crashAdd` is a crash of the USER dictionary's save; the model has no crash point for
`save_file_dictionary`), and only commands issued from a document with a `file:`-like URL
(`untitled = false`, `path = true`) count — every other URL kind writes nothing (`add_file_untitled_writes_nothing`,
`opaque_url_never_checked`). -/

/-- **Per-file dictionaries lose nothing either.** Starting without dictionary files, after ANY history (user-dictionary
adds and their crashes, adds to this and to other file dictionaries from documents of every URL kind, document checks,
restarts, JS calls) in which the words added to the file dictionary `n` from `file:` documents are well-formed and no
two different ones share a lower-cased normalized key, the file `n` reloads to exactly the set of those words, with
pairwise different keys. -/
theorem file_dict_restart_preserves (f : Fns) (cur : List Entry) (n : Nat) (ops : List Op)
    (hwf : WellFormed (fileAdds n ops))
    (hcol : ∀ a ∈ fileAdds n ops, ∀ b ∈ fileAdds n ops, key f a = key f b → a = b) :
    (∀ w, w ∈ loadOrEmpty f (fileDisk (runOps f cur {} ops).files n) ↔ w ∈ fileAdds n ops) ∧
    UniqueKeys f (loadOrEmpty f (fileDisk (runOps f cur {} ops).files n)) := by
  refine ⟨?_, uniqueKeys_loadOrEmpty f _⟩
  refine (runOps_adds f cur (fun s => loadOrEmpty f (fileDisk s.files n))
    (fun s => Clean f (fileDisk s.files n)) (fun _ => True) WellFormedWord (fileAdds n) rfl
    (fileAdds_cons n) (fun s op hc _ hw hcol => ?_) ops {} (fun w hw => nomatch hw)
    (fun _ _ => trivial) hwf hcol).2
  rw [step_fileDisk]
  cases op with
  | addFile u m w ord =>
    by_cases hu : u.path = true ∧ u.untitled = false ∧ m = n
    · simp only [fileAdds, if_pos hu] at hw hcol ⊢
      obtain ⟨hc', hm⟩ := add_reload f (fileDisk s.files n) w ord hc (hw w List.mem_cons_self)
      exact ⟨hc', fun x => (hm x).trans (mem_insertAll_iff f x [w] _ hcol)⟩
    · simp only [fileAdds, if_neg hu]
      exact ⟨hc, fun x => (or_iff_left List.not_mem_nil).symm⟩
  | _ => exact ⟨hc, fun x => (or_iff_left List.not_mem_nil).symm⟩

/-- non-vacuity: adds to file 1 from a `file:` document interleaved with a crashed user-dictionary save, an add to
file 2, adds for name 1 from an `untitled:/…` and an opaque URL (which write nothing), restarts and a repeated add -/
def fileHistory : List Op :=
  [.addFile fileUrl 1 zqxv [], .crashAdd abcq [] 1 0, .addFile fileUrl 2 zqé [], .restart,
   .addFile untitledPathUrl 1 zqApos [], .addFile opaqueUrl 1 Zqxv [], .addFile fileUrl 1 abcq [],
   .lint fileUrl 1 [zqxv], .addFile fileUrl 1 zqxv []]

example : fileAdds 1 fileHistory = [zqxv, abcq, zqxv] ∧ WellFormed (fileAdds 1 fileHistory) ∧
    loadOrEmpty fnsAscii (fileDisk (runOps fnsAscii [] {} fileHistory).files 1) = [zqxv, abcq] ∧
    loadOrEmpty fnsAscii (fileDisk (runOps fnsAscii [] {} fileHistory).files 2) = [zqé] := by decide +kernel

example : (∀ w, w ∈ loadOrEmpty fnsAscii (fileDisk (runOps fnsAscii [] {} fileHistory).files 1) ↔
      w ∈ fileAdds 1 fileHistory) ∧
    UniqueKeys fnsAscii (loadOrEmpty fnsAscii (fileDisk (runOps fnsAscii [] {} fileHistory).files 1)) :=
  file_dict_restart_preserves fnsAscii [] 1 fileHistory (by decide +kernel) (by decide +kernel)

/-! ## the JS linter: imported words are accepted FROM THEN ON and survive `new Linter`

`js_import_accepted_partial` is about the lint right after `import_words`. Here: any later sequence of JS calls
(`import_words`, `lint`, `new Linter` + `import_words(export_words())` with the export in any order) and language-server
operations (which do not touch the JS linter). The lint dictionary is rebuilt only when `word_count` grew
(`harper-wasm/src/lib.rs`, `import_words`), so it may LAG behind `user_dictionary`; the invariant carried
(`Lemmas/DictIO.JsHolds`) is "both are keyed maps and both hold `w`". -/

/-- **A word imported into the JS linter is accepted from then on (partial).** `Linter::import_words(ws)` with `w` in
the batch, on a linter whose `user_dictionary` lacks `w`'s key (`hnew`: so `word_count` grows and
`synchronize_lint_dict` runs), no other spelling of `w`'s key in the batch (`hws`); then ANY sequence `rest` of later
operations that are `BenignJs` for `w` — `import_words` batches without a different spelling of `w`'s key, `lint`,
`new Linter` + `import_words(export_words())` in any order, and every language-server operation: `w` is not reported
by `Linter::lint` afterwards, under provisos (1) normalized and (2) curated dialect of `add_then_accepted_partial`.
Missing for the full property: exactly these provisos; `hnew` is needed (`js_import_case_variant_stale`: the
just-imported `zqxv` is reported) and so is `BenignJs` (`js_import_case_variant_lost`). -/
theorem js_import_then_accepted_partial (f : Fns) (cur : List Entry) (s : State) (w : Word)
    (ws : List Word) (rest : List Op)
    (hu : UniqueKeys f s.js.user) (hnew : ∀ e ∈ s.js.user, key f e ≠ key f w) (hw : w ∈ ws)
    (hws : ∀ x ∈ ws, key f x = key f w → x = w)
    (hn : f.normalize w = w) (hcur : ∀ e, lookup f cur w = some e → e.dialectOk = true)
    (hrest : ∀ op ∈ rest, BenignJs f w op) :
    acceptM f [cur, entries (runOps f cur (step f cur s (.jsImport ws)).1 rest).js.lint] w = true := by
  have h0 : JsHolds f w (step f cur s (.jsImport ws)).1.js :=
    jsHolds_import_new f w ws s.js hu hnew hw hws
  obtain ⟨_, hl, _, hwl⟩ := benignJs_runOps f cur w rest _ hrest h0
  exact acceptM_cons f cur _ w hcur (acceptM_head f _ [] hl w hwl hn)

/-- the same, read off the answer of a later `Linter::lint` call whose word tokens are `qs`: the answer for
every occurrence of `w` is "accepted" -/
theorem js_import_then_lint_accepts (f : Fns) (cur : List Entry) (s : State) (w : Word)
    (ws : List Word) (rest : List Op) (qs : List Word)
    (hu : UniqueKeys f s.js.user) (hnew : ∀ e ∈ s.js.user, key f e ≠ key f w) (hw : w ∈ ws)
    (hws : ∀ x ∈ ws, key f x = key f w → x = w)
    (hn : f.normalize w = w) (hcur : ∀ e, lookup f cur w = some e → e.dialectOk = true)
    (hrest : ∀ op ∈ rest, BenignJs f w op) :
    (step f cur (runOps f cur (step f cur s (.jsImport ws)).1 rest) (.jsLint qs)).2
        = qs.map (acceptM f [cur, entries (runOps f cur (step f cur s (.jsImport ws)).1 rest).js.lint]) ∧
    ∀ i (hi : i < qs.length), qs[i] = w →
      (step f cur (runOps f cur (step f cur s (.jsImport ws)).1 rest) (.jsLint qs)).2[i]? = some true := by
  refine ⟨rfl, fun i hi hq => ?_⟩
  simp only [step, List.getElem?_map, List.getElem?_eq_getElem hi, Option.map_some, hq]
  exact congrArg some (js_import_then_accepted_partial f cur s w ws rest hu hnew hw hws hn hcur hrest)

/-- a linter that already holds a word; the batch brings `zqé` and `zqxv`; later: a lint, a batch with another new
word and a re-import of an old one, a `new Linter` fed the export in a PERMUTED order, a language-server add of a case
variant (does not reach the JS linter), another import, another `new Linter` (junk order: the model's own is used) -/
def jsHistory : List Op :=
  [.jsLint [zqxv], .jsImport [Zqxv.reverse, abcq], .jsRestart [Zqxv.reverse, zqxv, abcq, zqé],
   .add Zqxv [], .jsImport [colour], .jsRestart [abcq]]

-- non-vacuity of `js_import_then_accepted_partial`: all hypotheses together, the curated slice listing `w`'s key
-- (capitalised) and `colour` for another dialect …
example : UniqueKeys fnsAscii (State.js { js := ⟨[abcq], [abcq]⟩ }).user ∧
    (∀ e ∈ (State.js { js := ⟨[abcq], [abcq]⟩ }).user, key fnsAscii e ≠ key fnsAscii zqxv) ∧
    zqxv ∈ [zqé, zqxv] ∧ (∀ x ∈ [zqé, zqxv], key fnsAscii x = key fnsAscii zqxv → x = zqxv) ∧
    fnsAscii.normalize zqxv = zqxv ∧
    (∀ e, lookup fnsAscii [⟨Zqxv, true⟩, ⟨colour, false⟩] zqxv = some e → e.dialectOk = true) ∧
    (∀ op ∈ jsHistory, BenignJs fnsAscii zqxv op) := by decide +kernel
-- … the theorem applied …
example : acceptM fnsAscii [[⟨Zqxv, true⟩, ⟨colour, false⟩],
      entries (runOps fnsAscii [⟨Zqxv, true⟩, ⟨colour, false⟩]
        (step fnsAscii [⟨Zqxv, true⟩, ⟨colour, false⟩] { js := ⟨[abcq], [abcq]⟩ } (.jsImport [zqé, zqxv])).1
        jsHistory).js.lint] zqxv = true :=
  js_import_then_accepted_partial fnsAscii _ _ zqxv _ jsHistory (by decide +kernel) (by decide +kernel) (by decide +kernel)
    (by decide +kernel) (by decide +kernel) (by decide +kernel) (by decide +kernel)
-- … and what the kernel computes: the permuted export order IS the new linter's order, the final linter holds all
-- five words (the language-server add did not reach it), and the lint answers
example : (runOps fnsAscii [] { js := ⟨[abcq], [abcq]⟩ }
      [.jsImport [zqé, zqxv], .jsLint [zqxv], .jsImport [Zqxv.reverse, abcq],
       .jsRestart [Zqxv.reverse, zqxv, abcq, zqé]]).js
      = ⟨[Zqxv.reverse, zqxv, abcq, zqé], [Zqxv.reverse, zqxv, abcq, zqé]⟩ ∧
    (runOps fnsAscii [] { js := ⟨[abcq], [abcq]⟩ } (.jsImport [zqé, zqxv] :: jsHistory)).js
      = ⟨[Zqxv.reverse, zqxv, abcq, zqé, colour], [Zqxv.reverse, zqxv, abcq, zqé, colour]⟩ ∧
    (step fnsAscii [⟨Zqxv, true⟩, ⟨colour, false⟩]
      (runOps fnsAscii [⟨Zqxv, true⟩, ⟨colour, false⟩] { js := ⟨[abcq], [abcq]⟩ }
        (.jsImport [zqé, zqxv] :: jsHistory))
      (.jsLint [zqxv, Zqxv, zqé, colour, ['z', 'q']])).2 = [true, true, true, false, false] := by decide +kernel

/-- **`BenignJs` is needed: a later case-variant import loses the word.** `import ["zqxv"]`, `import ["Zqxv"]`:
`user_dictionary` (and `export_words`) now holds `Zqxv` only; the count did not grow, so the STALE lint dictionary
still accepts `zqxv` — until the next synchronise: a `new Linter` fed the export, or any later import of a new word,
reports `zqxv`. (The JS face of `case_collision`.) -/
theorem js_import_case_variant_lost :
    ¬ BenignJs fnsAscii zqxv (.jsImport [Zqxv]) ∧
    (runOps fnsAscii [] {} [.jsImport [zqxv], .jsImport [Zqxv]]).js = ⟨[Zqxv], [zqxv]⟩ ∧
    (step fnsAscii [] (runOps fnsAscii [] {} [.jsImport [zqxv], .jsImport [Zqxv]]) (.jsLint [zqxv])).2
      = [true] ∧
    (step fnsAscii [] (runOps fnsAscii [] {} [.jsImport [zqxv], .jsImport [Zqxv], .jsRestart []])
      (.jsLint [zqxv])).2 = [false] ∧
    (step fnsAscii [] (runOps fnsAscii [] {} [.jsImport [zqxv], .jsImport [Zqxv], .jsImport [abcq]])
      (.jsLint [zqxv])).2 = [false] := by decide +kernel

/-- in a `BenignJs` history the lint dictionary may still lag behind `user_dictionary` — for OTHER words: `abcq` is
replaced by `Abcq` in `user_dictionary`, the lint dictionary keeps `abcq`; `zqxv` is in both -/
theorem js_lint_lags_in_benign_history :
    (∀ op ∈ [Op.jsImport [abcq], .jsImport [['A', 'b', 'c', 'q']]], BenignJs fnsAscii zqxv op) ∧
    (runOps fnsAscii [] {} [.jsImport [zqxv], .jsImport [abcq], .jsImport [['A', 'b', 'c', 'q']]]).js
      = ⟨[zqxv, ['A', 'b', 'c', 'q']], [zqxv, abcq]⟩ := by decide +kernel

/-! ### the JS linter loses nothing: `export_words` / `new Linter` round trips -/

/-- **`new Linter` + `import_words(export_words())` rebuilds exactly the export.** Whatever order `export_words`
(`words_iter` of the hash map) returns, the new linter's `user_dictionary` AND its lint dictionary are exactly that
sequence: no word is dropped, none invented, and the two are in sync — even if the old linter's lint dictionary was
stale. -/
theorem js_restart_rebuilds_export (f : Fns) (cur : List Entry) (s : State) (ord : List Word)
    (hu : UniqueKeys f s.js.user) :
    (step f cur s (.jsRestart ord)).1.js = ⟨orderOf ord s.js.user, orderOf ord s.js.user⟩ ∧
    (orderOf ord s.js.user).Perm s.js.user :=
  ⟨js_restart_exact f ord s.js hu, orderOf_perm ord s.js.user⟩

-- non-vacuity: a stale linter (`js_import_case_variant_stale`), the export handed over in another order
example : UniqueKeys fnsAscii (State.js { js := ⟨[zqxv, abcq, zqé], [Zqxv, abcq]⟩ }).user ∧
    (step fnsAscii [] { js := ⟨[zqxv, abcq, zqé], [Zqxv, abcq]⟩ } (.jsRestart [zqé, zqxv, abcq])).1.js
      = ⟨[zqé, zqxv, abcq], [zqé, zqxv, abcq]⟩ := by decide +kernel

/-- **The JS linter loses nothing and stays in sync (the JS `restart_preserves`).** Starting from a fresh `Linter`,
after ANY history — `import_words` batches, `lint`s, `new Linter` + `import_words(export_words())` in any order, and
any language-server operations in between — in which no two different imported words share a lower-cased normalized
key (`NoCollision`), `user_dictionary` holds exactly the set of words imported so far, with pairwise different keys,
and the lint dictionary EQUALS it (the "only synchronise when the count grew" shortcut of `import_words` is then
sound). With a collision the last claim fails: `js_import_case_variant_stale`, `js_import_case_variant_lost`. -/
theorem js_restart_preserves (f : Fns) (cur : List Entry) (ops : List Op)
    (hcol : NoCollision f (jsImports ops)) :
    (∀ w, w ∈ (runOps f cur {} ops).js.user ↔ w ∈ jsImports ops) ∧
    (runOps f cur {} ops).js.lint = (runOps f cur {} ops).js.user ∧
    UniqueKeys f (runOps f cur {} ops).js.user := by
  obtain ⟨⟨hs, hu⟩, hm⟩ := runOps_adds f cur (·.js.user)
    (fun s => s.js.lint = s.js.user ∧ UniqueKeys f s.js.user) (fun _ => True) (fun _ => True)
    jsImports rfl jsImports_cons
    (fun s op hs _ _ hcol => js_step_adds f cur s op hs hcol) ops {} ⟨rfl, List.Pairwise.nil⟩
    (fun _ _ => trivial) (fun _ _ => trivial) hcol
  exact ⟨hm, hs, hu⟩

/-- … hence every word imported so far (normalized, curated dialect condition met) is accepted by `Linter::lint` at
every point of such a history -/
theorem js_imported_words_accepted (f : Fns) (cur : List Entry) (ops : List Op) (w : Word)
    (hcol : NoCollision f (jsImports ops)) (hw : w ∈ jsImports ops)
    (hn : f.normalize w = w) (hcur : ∀ e, lookup f cur w = some e → e.dialectOk = true) :
    (step f cur (runOps f cur {} ops) (.jsLint [w])).2 = [true] := by
  obtain ⟨hm, hs, hu⟩ := js_restart_preserves f cur ops hcol
  simp only [step, List.map_cons, List.map_nil, hs]
  rw [acceptM_cons f cur _ w hcur (acceptM_head f _ [] hu w ((hm w).mpr hw) hn)]

/-- a history with repeated imports (inside a batch and across batches), two `new Linter`s (one with a permuted, one
with a junk export order), a lint and language-server operations (one of them a case variant of an imported word) -/
def jsHistory2 : List Op :=
  [.jsImport [zqxv, abcq, zqxv], .jsLint [zqxv], .jsRestart [abcq, zqxv], .add Zqxv [], .jsImport [zqé, abcq],
   .restart, .jsRestart [zqxv], .jsImport [colour], .lint fileUrl 0 [zqxv]]

-- non-vacuity of `js_restart_preserves` / `js_imported_words_accepted`: the hypothesis, the computed state, the
-- theorems applied
example : jsImports jsHistory2 = [zqxv, abcq, zqxv, zqé, abcq, colour] ∧
    NoCollision fnsAscii (jsImports jsHistory2) ∧
    (runOps fnsAscii [] {} jsHistory2).js = ⟨[abcq, zqxv, zqé, colour], [abcq, zqxv, zqé, colour]⟩ := by decide +kernel
example : (∀ w, w ∈ (runOps fnsAscii [] {} jsHistory2).js.user ↔ w ∈ jsImports jsHistory2) ∧
    (runOps fnsAscii [] {} jsHistory2).js.lint = (runOps fnsAscii [] {} jsHistory2).js.user ∧
    UniqueKeys fnsAscii (runOps fnsAscii [] {} jsHistory2).js.user :=
  js_restart_preserves fnsAscii [] jsHistory2 (by decide +kernel)
example : (step fnsAscii [⟨Zqxv, true⟩, ⟨colour, false⟩]
    (runOps fnsAscii [⟨Zqxv, true⟩, ⟨colour, false⟩] {} jsHistory2) (.jsLint [zqxv])).2 = [true] :=
  js_imported_words_accepted fnsAscii _ jsHistory2 zqxv (by decide +kernel) (by decide +kernel) (by decide +kernel) (by decide +kernel)
-- the hypothesis is needed: the history of `js_import_case_variant_stale` has a collision and ends out of sync
example : ¬ NoCollision fnsAscii (jsImports [.jsImport [Zqxv], .jsImport [zqxv]]) ∧
    (runOps fnsAscii [] {} [.jsImport [Zqxv], .jsImport [zqxv]]).js.lint
      ≠ (runOps fnsAscii [] {} [.jsImport [Zqxv], .jsImport [zqxv]]).js.user := by decide +kernel

end Harper.C07
