import Harper.Props.C02c
import Harper.Lemmas.MarkdownWrap
/-!
# C02 / C01 (fourth part) — the Markdown parser's own logic and the two wrapper parsers

Model: `Harper/Model/Markdown.lean` (`Markdown::parse` over pulldown-cmark's events given as data,
`remove_hidden_wikilink_tokens`, `remove_wikilink_brackets`, `CollapseIdentifiers`,
`IsolateEnglish` + `is_likely_english`). Helper lemmas: `Lemmas/Markdown.lean`,
`Lemmas/MarkdownWrap.lean`.

* `mdParse_inbounds` — UNCONDITIONAL: for every text, inner parser and EVERY event list, every
  token `Markdown::parse` returns lies inside the text. `mdParse_total` — no panic for every event
  list whose starts can be sliced (`StartsOK`, far weaker than `EventsOK`; nothing about ends,
  order, disjointness, lengths). They rest on the two clamps of
  `markdown.rs` (the inner-parser slice; the final `retain_mut` pass).
* `mdParse_sorted_covering` — for every event list satisfying the decidable assumption `EventsOK`
  (evaluated by the driver on every real event list, op `evok`): the tokens that cover characters
  are increasing and pairwise disjoint, and (if no event has an empty unlintable text, `solidOK`)
  zero-width tokens are only `ParagraphBreak` / `Newline`.
  `mdParseSrc_*`: the same for exactly what the driver runs.
* `removeIndices_arbitrary_spec` and corollaries — what `Vec::remove_indices` does for ANY queue;
  `wikilink_cleanup_safe`; the two-pipe witness: the queue really is duplicated and unsorted, and
  a `remove_indices` that calls `Vec::remove` back to front panics on it.
* `collapseIdentifiers_sublist_spans`, `collapseIdentifiers_preserves_*`, `isolateEnglish_sublist`,
  `isolateEnglish_spec`.

pulldown-cmark itself (which events it emits) is not modelled: `EventsOK` is where it enters.
-/
namespace Harper.C02
open Harper Harper.Md

/-! ## Markdown -/

/-- `PlainEnglish::parse` satisfies what the Markdown theorems need of the inner parser -/
theorem plainEnglish_innerOK (cls : Cls) : Md.InnerOK (parsePlainFull cls) := by
  intro s
  obtain ⟨toks, h, ht, _⟩ := parsePlainFull_tiles cls s
  exact ⟨toks, h, ht⟩

/-- the bytes the model computes for a text have one well-formed group per character -/
theorem utf8Bytes_charCount (src : List Char) : charCount (utf8Bytes src) = src.length :=
  charCount_utf8Bytes src

/-- NO PANIC, FOR EVERY EVENT LIST WHOSE STARTS CAN BE SLICED (`StartsOK`: an event start that is
ahead of the cursor is a char boundary inside the text — the one thing `source_str[a..b]` needs;
implied by `EventsOK`, monitored on every real event list). Nothing is assumed about range ends,
order, nesting, disjointness or text lengths: the slice of the source is clamped
(`chunk_end.min(source.len())`), hence always in range, the final clamp pass cannot underflow on
well-formed spans, and the clean-up passes cannot panic. -/
theorem mdParse_total (bs : List Nat) (src : List Char) (inner : List Char → Except Panic (List Tok))
    (ilt : Bool) (events : List MdEvent) (hin : Md.InnerOK inner) (hst : StartsOK bs events) :
    ∃ toks, mdParse bs src inner ilt events = .ok toks :=
  mdParse_total_of_starts bs src inner ilt events hin hst

/-- IN BOUNDS, UNCONDITIONALLY: for every text, every byte list, every inner parser and EVERY event
list, each token `Markdown::parse` returns is a well-formed span inside the text (the repair
"Markdown tokens never reach past the end of the source": the final `retain_mut` pass). -/
theorem mdParse_inbounds (bs : List Nat) (src : List Char) (inner : List Char → Except Panic (List Tok))
    (ilt : Bool) (events : List MdEvent) (toks : List Tok)
    (h : mdParse bs src inner ilt events = .ok toks) :
    ∀ t ∈ toks, t.span.start ≤ t.span.stop ∧ t.span.stop ≤ src.length :=
  mdParse_inb_of_ok bs src inner ilt events toks h

/-- `EventsOK` implies `StartsOK` -/
theorem eventsOK_startsOK (bs : List Nat) (ilt : Bool) (events : List MdEvent)
    (h : EventsOK bs ilt events) : StartsOK bs events :=
  Md.eventsOK_startsOK_go bs ilt events 0 0 [] h

/-- both, for what the driver runs: `StartsOK` is the only hypothesis -/
theorem mdParseSrc_total_inbounds (cls : Cls) (src : List Char) (ilt : Bool) (events : List MdEvent)
    (hst : StartsOK (utf8Bytes src) events) :
    ∃ toks, mdParseSrc cls src ilt events = .ok toks ∧
      ∀ t ∈ toks, t.span.start ≤ t.span.stop ∧ t.span.stop ≤ src.length := by
  obtain ⟨toks, h⟩ := mdParse_total (utf8Bytes src) src (parsePlainFull cls) ilt events
    (plainEnglish_innerOK cls) hst
  exact ⟨toks, h, mdParse_inbounds _ _ _ _ _ toks h⟩

/-- ORDERED, DISJOINT: the tokens that cover characters are increasing and pairwise disjoint;
zero-width tokens are only `ParagraphBreak` / `Newline` (given that no Code / Math / Html /
unlintable Text event is empty: `solidOK`) -/
theorem mdParse_sorted_covering (bs : List Nat) (src : List Char)
    (inner : List Char → Except Panic (List Tok)) (ilt : Bool) (events : List MdEvent)
    (hN : charCount bs = src.length) (hin : Md.InnerOK inner) (hev : EventsOK bs ilt events)
    (toks : List Tok) (h : mdParse bs src inner ilt events = .ok toks) :
    (toks.filter (fun t => decide (t.span.start < t.span.stop))).Pairwise
        (fun a b => a.span.stop ≤ b.span.start) ∧
      (solidOK ilt [] events = true → ∀ t ∈ toks, t.span.start = t.span.stop →
        t.kind = .paragraphBreak ∨ t.kind.isNewline = true) := by
  obtain ⟨toks', h', hg, hz⟩ := mdParse_spec bs src inner ilt events hN hin hev
  rw [h] at h'; cases h'
  exact ⟨hg.sorted, hz⟩

/-- all three for what the driver runs (`op mdparse`): bytes computed from the characters, inner
parser = the model of `PlainEnglish`; `EventsOK` is the only hypothesis left -/
theorem mdParseSrc_total_inbounds_sorted (cls : Cls) (src : List Char) (ilt : Bool)
    (events : List MdEvent) (hev : EventsOK (utf8Bytes src) ilt events) :
    ∃ toks, mdParseSrc cls src ilt events = .ok toks ∧
      (∀ t ∈ toks, t.span.start ≤ t.span.stop ∧ t.span.stop ≤ src.length) ∧
      (toks.filter (fun t => decide (t.span.start < t.span.stop))).Pairwise
        (fun a b => a.span.stop ≤ b.span.start) ∧
      (solidOK ilt [] events = true → ∀ t ∈ toks, t.span.start = t.span.stop →
        t.kind = .paragraphBreak ∨ t.kind.isNewline = true) := by
  obtain ⟨toks, h, hg, hz⟩ := mdParse_spec (utf8Bytes src) src (parsePlainFull cls) ilt events
    (charCount_utf8Bytes src) (plainEnglish_innerOK cls) hev
  exact ⟨toks, h, hg.inb, hg.sorted, hz⟩

/-! ### non-vacuity (kernel-evaluated; events copied from pulldown-cmark's output) -/

/-- `é *b*⏎`: `Start(Paragraph) Text Start(Emphasis) Text End(Emphasis) End(Paragraph)` -/
def sampleEvents : List MdEvent :=
  [⟨.start .Paragraph, 0, 7⟩, ⟨.text 2, 0, 3⟩, ⟨.start .Emphasis, 3, 6⟩, ⟨.text 1, 4, 5⟩,
   ⟨.stop .Emphasis, 3, 6⟩, ⟨.stop .Paragraph, 0, 7⟩]

def sampleText : List Char := ['é', ' ', '*', 'b', '*', '\n']

def asciiPlus : Cls where
  lingual := fun c => isAsciiAlpha c || c == 'é'
  numeric := isAsciiDigit
  alnum := fun c => isAsciiAlnum c || c == 'é'

theorem sampleEvents_ok : EventsOK (utf8Bytes sampleText) false sampleEvents := by decide +kernel

theorem sampleEvents_solid : solidOK false [] sampleEvents = true := by decide +kernel

theorem sampleEvents_parse : mdParseSrc asciiPlus sampleText false sampleEvents =
    .ok [⟨⟨0, 1⟩, .word⟩, ⟨⟨1, 2⟩, .space 1⟩, ⟨⟨3, 4⟩, .word⟩, ⟨⟨3, 3⟩, .paragraphBreak⟩] := by decide +kernel

/-- the hypotheses are satisfiable: a real event list with a two-byte character -/
example : EventsOK (utf8Bytes sampleText) false sampleEvents := sampleEvents_ok
example : solidOK false [] sampleEvents = true := sampleEvents_solid

/-- … and the model returns what the real parser returns: the zero-width `ParagraphBreak` sits at
the START of the last text event (3), before the end of the word it follows -/
example : mdParseSrc asciiPlus sampleText false sampleEvents =
    .ok [⟨⟨0, 1⟩, .word⟩, ⟨⟨1, 2⟩, .space 1⟩, ⟨⟨3, 4⟩, .word⟩, ⟨⟨3, 3⟩, .paragraphBreak⟩] := sampleEvents_parse

/-- non-vacuity of `mdParse_sorted_covering` / `mdParseSrc_total_inbounds_sorted` (hence of
`mdParse_total`, `mdParse_inbounds`, `eventsOK_startsOK`): ALL hypotheses at once (`EventsOK` and,
for the zero-width clause, `solidOK`) on the real list above — four tokens, an inner-parsed text
with a two-byte character, a zero-width break; the theorem applied, its conclusion concrete -/
example : ∃ toks, mdParseSrc asciiPlus sampleText false sampleEvents = .ok toks ∧ toks.length = 4 ∧
      (∀ t ∈ toks, t.span.start ≤ t.span.stop ∧ t.span.stop ≤ sampleText.length) ∧
      (toks.filter (fun t => decide (t.span.start < t.span.stop))).Pairwise
        (fun a b => a.span.stop ≤ b.span.start) ∧
      (∀ t ∈ toks, t.span.start = t.span.stop → t.kind = .paragraphBreak ∨ t.kind.isNewline = true) := by
  obtain ⟨toks, h, hb, hs, hz⟩ :=
    mdParseSrc_total_inbounds_sorted asciiPlus sampleText false sampleEvents sampleEvents_ok
  have hl : toks.length = 4 := by
    rw [sampleEvents_parse] at h; cases h; rfl
  exact ⟨toks, h, hl, hb, hs, hz sampleEvents_solid⟩

/-- non-vacuity of `mdParse_sorted_covering`, second witness (HAND-MADE, in the shape pulldown-cmark
gives a tight list `- a⏎é `c`⏎`): `Start(List)`, a soft break, two inner-parsed texts, a `Code`
event; `EventsOK` and `solidOK` hold together and the parse has seven tokens, two of them
zero-width (`Newline(2)` at 0, `ParagraphBreak` at 6 — before the end of the token it follows) -/
example : ∃ (src : List Char) (events : List MdEvent),
    EventsOK (utf8Bytes src) false events ∧ solidOK false [] events = true ∧
    mdParseSrc asciiPlus src false events =
      .ok [⟨⟨0, 0⟩, .newline 2⟩, ⟨⟨2, 3⟩, .word⟩, ⟨⟨3, 4⟩, .newline 1⟩, ⟨⟨4, 5⟩, .word⟩, ⟨⟨5, 6⟩, .space 1⟩,
        ⟨⟨6, 7⟩, .unlintable⟩, ⟨⟨6, 6⟩, .paragraphBreak⟩] :=
  ⟨['-', ' ', 'a', '\n', 'é', ' ', '`', 'c', '`', '\n'],
   [⟨.start .List, 0, 11⟩, ⟨.start .Item, 0, 11⟩, ⟨.text 1, 2, 3⟩, ⟨.softBreak, 3, 4⟩, ⟨.text 2, 4, 7⟩,
    ⟨.code 1, 7, 10⟩, ⟨.stop .Item, 0, 11⟩, ⟨.stop .List, 0, 11⟩], by decide +kernel, by decide +kernel, by decide +kernel⟩

/-- `EventsOK` is needed. pulldown-cmark 0.13.0 for `[[a|]]b c d` (a wikilink with a pipe and no
display text) emits the rest of the paragraph twice; the event list is not monotone … -/
def emptyAliasEvents : List MdEvent :=
  [⟨.start .Paragraph, 0, 11⟩, ⟨.start .Link, 0, 5⟩, ⟨.text 1, 4, 5⟩, ⟨.text 1, 5, 6⟩, ⟨.text 5, 6, 11⟩,
   ⟨.stop .Link, 0, 5⟩, ⟨.text 5, 6, 11⟩, ⟨.stop .Paragraph, 0, 11⟩]

def emptyAliasText : List Char := ['[', '[', 'a', '|', ']', ']', 'b', ' ', 'c', ' ', 'd']

example : ¬ EventsOK (utf8Bytes emptyAliasText) false emptyAliasEvents := by decide +kernel

/-- … and `Markdown::parse` returns every token after the wikilink twice (recorded finding
`c02-md-wikilink-events`; in bounds all the same) -/
example : mdParseSrc asciiPlus emptyAliasText false emptyAliasEvents =
    .ok [⟨⟨4, 5⟩, .punct .CloseSquare⟩, ⟨⟨5, 6⟩, .punct .CloseSquare⟩,
      ⟨⟨6, 7⟩, .word⟩, ⟨⟨7, 8⟩, .space 1⟩, ⟨⟨8, 9⟩, .word⟩, ⟨⟨9, 10⟩, .space 1⟩, ⟨⟨10, 11⟩, .word⟩,
      ⟨⟨6, 7⟩, .word⟩, ⟨⟨7, 8⟩, .space 1⟩, ⟨⟨8, 9⟩, .word⟩, ⟨⟨9, 10⟩, .space 1⟩, ⟨⟨10, 11⟩, .word⟩] := by
  decide +kernel

/-- REGRESSION `![[b c|]]b c[- ` (finding `c01-md-wikilink-empty-alias`, repair `bf26545`): the
re-emitted text events ask for `source[13..16]` of 15 characters; the slice is clamped to the source —
`.ok`, in bounds (the tokens still overlap: `EventsOK` fails, `c02-md-wikilink-events`) -/
def emptyAliasImageEvents : List MdEvent :=
  [⟨.start .Paragraph, 0, 15⟩, ⟨.start .Image, 0, 8⟩, ⟨.text 1, 7, 8⟩, ⟨.text 1, 8, 9⟩,
   ⟨.text 3, 9, 12⟩, ⟨.text 1, 12, 13⟩, ⟨.text 1, 13, 14⟩, ⟨.stop .Image, 0, 8⟩, ⟨.text 3, 9, 12⟩,
   ⟨.text 1, 12, 13⟩, ⟨.text 1, 13, 14⟩, ⟨.stop .Paragraph, 0, 15⟩]

def emptyAliasImageText : List Char :=
  ['!', '[', '[', 'b', ' ', 'c', '|', ']', ']', 'b', ' ', 'c', '[', '-', ' ']

example : mdParseSrc asciiPlus emptyAliasImageText false emptyAliasImageEvents =
    .ok [⟨⟨13, 14⟩, .punct .Hyphen⟩, ⟨⟨14, 15⟩, .space 1⟩, ⟨⟨13, 14⟩, .punct .Hyphen⟩,
      ⟨⟨13, 14⟩, .punct .Hyphen⟩] := by decide +kernel

example : StartsOK (utf8Bytes emptyAliasImageText) emptyAliasImageEvents ∧
    ¬ EventsOK (utf8Bytes emptyAliasImageText) false emptyAliasImageEvents := by decide +kernel

/-- non-vacuity of `mdParse_total` / `mdParseSrc_total_inbounds` where `EventsOK` FAILS: the theorem
applied to the real twelve-event list above (`StartsOK` is its only hypothesis) -/
example : ∃ toks, mdParseSrc asciiPlus emptyAliasImageText false emptyAliasImageEvents = .ok toks ∧
    ∀ t ∈ toks, t.span.start ≤ t.span.stop ∧ t.span.stop ≤ 15 :=
  mdParseSrc_total_inbounds asciiPlus emptyAliasImageText false emptyAliasImageEvents (by decide +kernel)

/-- REGRESSION ` ```⏎⇥x` (findings `c01-md-synthetic-text`, `c02-md-synthetic-text`): the token built
from pulldown-cmark's empty-range tab-expansion event would be `Unlintable 6..9` in 7 characters; it
is clamped to `6..7` (it still overlaps the next one) -/
example : mdParseSrc asciiPlus [' ', '`', '`', '`', '\n', '\t', 'x'] false
    [⟨.start .CodeBlock, 1, 7⟩, ⟨.text 3, 6, 6⟩, ⟨.text 1, 6, 7⟩, ⟨.stop .CodeBlock, 1, 7⟩] =
    .ok [⟨⟨6, 7⟩, .unlintable⟩, ⟨⟨6, 7⟩, .unlintable⟩] := by decide +kernel

/-- … and in ` ```⏎⇥` the token that lay entirely past the end (`6..9` of 6) is dropped, the
zero-width break survives the pass and is then popped as a trailing break -/
example : mdParseSrc asciiPlus [' ', '`', '`', '`', '\n', '\t'] false
    [⟨.start .CodeBlock, 1, 6⟩, ⟨.text 3, 6, 6⟩, ⟨.stop .CodeBlock, 1, 6⟩] = .ok [] := by decide +kernel

/-- the clamp pass by itself: clamped, dropped because it became empty, kept because it was empty -/
example : clampAll 7 [⟨⟨6, 9⟩, .unlintable⟩, ⟨⟨8, 9⟩, .word⟩, ⟨⟨9, 9⟩, .paragraphBreak⟩] =
    .ok [⟨⟨6, 7⟩, .unlintable⟩, ⟨⟨7, 7⟩, .paragraphBreak⟩] := by decide +kernel

/-- `StartsOK` is needed: an event that starts inside the two-byte `é` makes
`source_str[0..1]` panic (no real pulldown-cmark event list does that: monitored) -/
example : mdParseSrc asciiPlus ['é'] false [⟨.text 1, 1, 2⟩] = .error .sliceOOB := by decide +kernel
example : ¬ StartsOK (utf8Bytes ['é']) [⟨.text 1, 1, 2⟩] := by decide +kernel

/-- `solidOK` is needed for the zero-width clause: `$$$$x` is `DisplayMath("")` and the parser
pushes an `Unlintable` of width 0 (recorded finding `c02-md-empty-math`) -/
example : mdParseSrc asciiPlus ['$', '$', '$', '$', 'x'] false
    [⟨.start .Paragraph, 0, 5⟩, ⟨.code 0, 0, 4⟩, ⟨.text 1, 4, 5⟩, ⟨.stop .Paragraph, 0, 5⟩] =
    .ok [⟨⟨0, 0⟩, .unlintable⟩, ⟨⟨4, 5⟩, .word⟩] := by decide +kernel

/-! ## `remove_indices` for an arbitrary queue, and the wikilink clean-up -/

/-- WHAT `Vec::remove_indices` DOES FOR ANY QUEUE `q` (duplicates, any order, out of range): it
removes exactly the positions `reachedIdx i q xs.length`. -/
theorem removeIndices_arbitrary_spec {α} (xs : List α) (i : Nat) (q : List Nat) :
    removeIndices i q xs =
      ((xs.zipIdx i).filter (fun p => !(reachedIdx i q xs.length).contains p.2)).map (·.1) :=
  removeIndices_reached xs i q

/-- the reached positions are a strictly increasing sub-sequence of the queue inside the vector -/
theorem reachedIdx_facts (i : Nat) (q : List Nat) (n : Nat) :
    (reachedIdx i q n).Sublist q ∧ (reachedIdx i q n).Pairwise (· < ·) ∧
      ∀ r ∈ reachedIdx i q n, i ≤ r ∧ r < i + n :=
  reachedIdx_spec i q n

/-- it never panics (the model is total) and only removes: the result is a sub-list -/
theorem removeIndices_arbitrary_sublist {α} (xs : List α) (i : Nat) (q : List Nat) :
    (removeIndices i q xs).Sublist xs := Pat.removeIndices_sublist xs i q

/-- it removes one element per reached position, hence at most `q.length` elements -/
theorem removeIndices_arbitrary_length {α} (xs : List α) (i : Nat) (q : List Nat) :
    (removeIndices i q xs).length + (reachedIdx i q xs.length).length = xs.length ∧
      xs.length - q.length ≤ (removeIndices i q xs).length := by
  have h1 := removeIndices_length xs i q
  have h2 := (reachedIdx_spec i q xs.length).1.length_le
  exact ⟨h1, by omega⟩

/-- for a strictly increasing queue (at or after the running index) the general description
coincides with the one of the increasing case (`Harper.C13.removeIndices_spec`): exactly the queued
positions go; and a queue inside the vector is reached completely -/
theorem removeIndices_arbitrary_eq_increasing {α} (xs : List α) (i : Nat) (q : List Nat)
    (hq : q.Pairwise (· < ·)) (hi : ∀ r ∈ q, i ≤ r) :
    ((xs.zipIdx i).filter (fun p => !(reachedIdx i q xs.length).contains p.2)).map (·.1) =
      ((xs.zipIdx i).filter (fun p => !q.contains p.2)).map (·.1) ∧
    ((∀ r ∈ q, r < i + xs.length) → reachedIdx i q xs.length = q) := by
  refine ⟨?_, ?_⟩
  · rw [← removeIndices_reached, removeIndices_spec xs i q hq hi]
  · intro hb
    exact reachedIdx_of_increasing xs.length i q hq (fun r hr => ⟨hi r hr, hb r hr⟩)

/-- non-vacuity of `removeIndices_arbitrary_eq_increasing`: the queue `[1, 4, 6]` of the unit test of
vec_ext.rs on eight elements — increasing, inside the vector, reached completely -/
example : reachedIdx 0 [1, 4, 6] [10, 11, 12, 13, 14, 15, 16, 17].length = [1, 4, 6] :=
  (removeIndices_arbitrary_eq_increasing [10, 11, 12, 13, 14, 15, 16, 17] 0 [1, 4, 6] (by decide +kernel)
    (by decide +kernel)).2 (by decide +kernel)

/-- THE WIKILINK CLEAN-UP IS SAFE WITH THE SHIPPED `remove_indices`: for every token list both
passes (the code has no other panicking operation: `get`, a guarded `pipe_idx - 2`, a guarded
`cursor -= 1`) return a sub-list of their input, however the queue looks -/
theorem wikilink_cleanup_safe (toks : List Tok) :
    (removeHiddenWikilinkTokens toks).Sublist toks ∧ (removeWikilinkBrackets toks).Sublist toks ∧
      (wikilinkCleanup toks).Sublist toks ∧
      toks.length - (hiddenIdx (toks.map (·.kind))).length ≤ (removeHiddenWikilinkTokens toks).length :=
  ⟨removeHidden_sublist toks, removeBrackets_sublist toks, wikilinkCleanup_sublist toks,
   (removeIndices_arbitrary_length toks 0 _).2⟩

/-! ### the two-pipe witness `[[|b|c]]` -/

/-- the tokens of `[[|b|c]]` before the clean-up -/
def twoPipe : List Tok :=
  [⟨⟨0, 1⟩, .punct .OpenSquare⟩, ⟨⟨1, 2⟩, .punct .OpenSquare⟩, ⟨⟨2, 3⟩, .punct .Pipe⟩, ⟨⟨3, 4⟩, .word⟩,
   ⟨⟨4, 5⟩, .punct .Pipe⟩, ⟨⟨5, 6⟩, .word⟩, ⟨⟨6, 7⟩, .punct .CloseSquare⟩, ⟨⟨7, 8⟩, .punct .CloseSquare⟩]

/-- each pipe pushes `open..=pipe, close, close + 1`: the queue has duplicates and goes backwards -/
example : hiddenIdx (twoPipe.map (·.kind)) = [0, 1, 2, 6, 7, 0, 1, 2, 3, 4, 6, 7] := by decide +kernel

example : ¬ (hiddenIdx (twoPipe.map (·.kind))).Pairwise (· < ·) := by decide +kernel

/-- the shipped `remove_indices` gets through it: the second copy of the queue is never reached -/
example : reachedIdx 0 (hiddenIdx (twoPipe.map (·.kind))) twoPipe.length = [0, 1, 2, 6, 7] := by decide +kernel

example : removeHiddenWikilinkTokens twoPipe =
    [⟨⟨3, 4⟩, .word⟩, ⟨⟨4, 5⟩, .punct .Pipe⟩, ⟨⟨5, 6⟩, .word⟩] := by decide +kernel

/-- a `remove_indices` that relies on "sorted, unique" — `Vec::remove(index)` back to front, the
seeded change — panics on that queue (`removal index (is 7) should be < len`) -/
example : removeBackToFront (hiddenIdx (twoPipe.map (·.kind))) twoPipe = .error .sliceOOB := by decide +kernel

/-- on a sorted, unique queue the two agree (why the seeded change passes every other caller) -/
example : removeBackToFront [1, 4, 6] [10, 11, 12, 13, 14, 15, 16, 17] =
    .ok (removeIndices 0 [1, 4, 6] [10, 11, 12, 13, 14, 15, 16, 17]) := by decide +kernel

/-- a near miss: ONE pipe gives a sorted, duplicate-free queue -/
example : hiddenIdx ([Kind.punct .OpenSquare, .punct .OpenSquare, .word, .punct .Pipe, .word,
    .punct .CloseSquare, .punct .CloseSquare]) = [0, 1, 2, 3, 5, 6] := by decide +kernel

/-- `remove_wikilink_brackets`: `[[a]] [[b` -/
example : bracketIdx [.punct .OpenSquare, .punct .OpenSquare, .word, .punct .CloseSquare,
    .punct .CloseSquare, .space 1, .punct .OpenSquare, .punct .OpenSquare, .word] = [0, 1, 3, 4] := by
  decide +kernel

/-! ## `CollapseIdentifiers` -/

/-- OUTPUT TOKENS ARE INPUT TOKENS OR MERGES OF CONTIGUOUS RUNS. If `CollapseIdentifiers::parse`
returns (it can panic only in `Span::new` / `get_content`, on an inner token list that is out of
order or out of bounds), then — for every dictionary — its result is the inner parser's token list
with some pairwise disjoint runs `first … last` (both words) replaced by ONE `Word` token
`first.start .. last.stop` each (`Merged`), so no longer than the input, and every output token is
an input token or spans from the start of one input token to the end of another. -/
theorem collapseIdentifiers_sublist_spans (dict : List Char → Bool) (src : List Char)
    (toks out : List Tok) (h : collapseIdentifiers dict src toks = .ok out) :
    Merged toks out ∧ out.length ≤ toks.length ∧
      ∀ t ∈ out, t ∈ toks ∨ ∃ f l, f ∈ toks ∧ l ∈ toks ∧ f.kind.isWord = true ∧ l.kind.isWord = true ∧
        t = ⟨⟨f.span.start, l.span.stop⟩, .word⟩ := by
  have hm := collapseIdentifiers_merged dict src toks out h
  exact ⟨hm, hm.length_le, hm.mem_word⟩

/-- in bounds, ordered, disjoint are preserved (inner parsers all of whose tokens cover
characters: plain English, HTML, comments) -/
theorem collapseIdentifiers_preserves_sorted (dict : List Char → Bool) (src : List Char) (n : Nat)
    (toks out : List Tok) (h : collapseIdentifiers dict src toks = .ok out)
    (hwf : ∀ t ∈ toks, t.span.start ≤ t.span.stop ∧ t.span.stop ≤ n)
    (hs : toks.Pairwise (fun x y => x.span.stop ≤ y.span.start)) :
    (∀ t ∈ out, t.span.start ≤ t.span.stop ∧ t.span.stop ≤ n) ∧
      out.Pairwise (fun x y => x.span.stop ≤ y.span.start) :=
  (collapseIdentifiers_merged dict src toks out h).sorted hwf hs

/-- … and so is the Markdown shape (zero-width breaks anywhere, covering tokens increasing and
disjoint), given that word tokens cover characters -/
theorem collapseIdentifiers_preserves_covering (dict : List Char → Bool) (src : List Char) (n : Nat)
    (toks out : List Tok) (h : collapseIdentifiers dict src toks = .ok out)
    (hw : ∀ t ∈ toks, t.kind.isWord = true → t.span.start < t.span.stop)
    (hwf : ∀ t ∈ toks, t.span.start ≤ t.span.stop ∧ t.span.stop ≤ n)
    (hs : (toks.filter (fun t => decide (t.span.start < t.span.stop))).Pairwise
      (fun a b => a.span.stop ≤ b.span.start)) :
    (∀ t ∈ out, t.span.start ≤ t.span.stop ∧ t.span.stop ≤ n) ∧
      (out.filter (fun t => decide (t.span.start < t.span.stop))).Pairwise
        (fun a b => a.span.stop ≤ b.span.start) := by
  have hg : Md.Good n 0 toks := ⟨hwf, fun _ _ _ => Nat.zero_le _, hs⟩
  have := (collapseIdentifiers_merged dict src toks out h).good hw hg
  exact ⟨this.inb, this.sorted⟩

/-- `snake_case is` with `snake_case` in the dictionary: three tokens become one -/
example : collapseIdentifiers (fun w => w == ['s', 'n', 'a', 'k', 'e', '_', 'c', 'a', 's', 'e'])
    ['s', 'n', 'a', 'k', 'e', '_', 'c', 'a', 's', 'e', ' ', 'i', 's']
    [⟨⟨0, 5⟩, .word⟩, ⟨⟨5, 6⟩, .punct .Underscore⟩, ⟨⟨6, 10⟩, .word⟩, ⟨⟨10, 11⟩, .space 1⟩, ⟨⟨11, 13⟩, .word⟩] =
    .ok [⟨⟨0, 10⟩, .word⟩, ⟨⟨10, 11⟩, .space 1⟩, ⟨⟨11, 13⟩, .word⟩] := by decide +kernel

/-- not in the dictionary: untouched -/
example : collapseIdentifiers (fun _ => false)
    ['s', 'n', 'a', 'k', 'e', '_', 'c', 'a', 's', 'e']
    [⟨⟨0, 5⟩, .word⟩, ⟨⟨5, 6⟩, .punct .Underscore⟩, ⟨⟨6, 10⟩, .word⟩] =
    .ok [⟨⟨0, 5⟩, .word⟩, ⟨⟨5, 6⟩, .punct .Underscore⟩, ⟨⟨6, 10⟩, .word⟩] := by decide +kernel

/-- the panic the theorem's premise excludes: an inner token list that is out of order -/
example : collapseIdentifiers (fun _ => true) ['a', '_', 'b']
    [⟨⟨2, 3⟩, .word⟩, ⟨⟨1, 2⟩, .punct .Underscore⟩, ⟨⟨0, 1⟩, .word⟩] = .error .spanNew := by decide +kernel

/-- non-vacuity of `collapseIdentifiers_preserves_sorted`: all
hypotheses on the five tokens of `snake_case is`; the theorem applied -/
example : (∀ t ∈ ([⟨⟨0, 10⟩, .word⟩, ⟨⟨10, 11⟩, .space 1⟩, ⟨⟨11, 13⟩, .word⟩] : List Tok),
      t.span.start ≤ t.span.stop ∧ t.span.stop ≤ 13) ∧
    ([⟨⟨0, 10⟩, .word⟩, ⟨⟨10, 11⟩, .space 1⟩, ⟨⟨11, 13⟩, .word⟩] : List Tok).Pairwise
      (fun x y => x.span.stop ≤ y.span.start) :=
  collapseIdentifiers_preserves_sorted (fun w => w == ['s', 'n', 'a', 'k', 'e', '_', 'c', 'a', 's', 'e'])
    ['s', 'n', 'a', 'k', 'e', '_', 'c', 'a', 's', 'e', ' ', 'i', 's'] 13
    [⟨⟨0, 5⟩, .word⟩, ⟨⟨5, 6⟩, .punct .Underscore⟩, ⟨⟨6, 10⟩, .word⟩, ⟨⟨10, 11⟩, .space 1⟩, ⟨⟨11, 13⟩, .word⟩]
    _ (by decide +kernel) (by decide +kernel) (by decide +kernel)

/-- non-vacuity of `collapseIdentifiers_preserves_covering`: the Markdown shape — the same tokens with
a zero-width `ParagraphBreak` at 6 AFTER the tokens that end at 10 (the list is not sorted as a
whole: `collapseIdentifiers_preserves_sorted` does not apply), all four hypotheses, a merge happens -/
example : (∀ t ∈ ([⟨⟨0, 10⟩, .word⟩, ⟨⟨6, 6⟩, .paragraphBreak⟩, ⟨⟨11, 13⟩, .word⟩] : List Tok),
      t.span.start ≤ t.span.stop ∧ t.span.stop ≤ 13) ∧
    (([⟨⟨0, 10⟩, .word⟩, ⟨⟨6, 6⟩, .paragraphBreak⟩, ⟨⟨11, 13⟩, .word⟩] : List Tok).filter
      (fun t => decide (t.span.start < t.span.stop))).Pairwise (fun a b => a.span.stop ≤ b.span.start) :=
  collapseIdentifiers_preserves_covering (fun w => w == ['s', 'n', 'a', 'k', 'e', '_', 'c', 'a', 's', 'e'])
    ['s', 'n', 'a', 'k', 'e', '_', 'c', 'a', 's', 'e', ' ', 'i', 's'] 13
    [⟨⟨0, 5⟩, .word⟩, ⟨⟨5, 6⟩, .punct .Underscore⟩, ⟨⟨6, 10⟩, .word⟩, ⟨⟨6, 6⟩, .paragraphBreak⟩, ⟨⟨11, 13⟩, .word⟩]
    _ (by decide +kernel) (by decide +kernel) (by decide +kernel) (by decide +kernel)

example : ¬ ([⟨⟨0, 5⟩, .word⟩, ⟨⟨5, 6⟩, .punct .Underscore⟩, ⟨⟨6, 10⟩, .word⟩, ⟨⟨6, 6⟩, .paragraphBreak⟩,
    ⟨⟨11, 13⟩, .word⟩] : List Tok).Pairwise (fun x y => x.span.stop ≤ y.span.start) := by decide +kernel

/-! ### no panic (C01) -/

/-- NO PANIC (C01, `CollapseIdentifiers`): on an inner token list that is in bounds, ordered and
disjoint (plain English, HTML, comments — the premise `collapseIdentifiers_sublist_spans` takes as
`… = .ok out` is discharged), for every dictionary and every text -/
theorem collapseIdentifiers_total (dict : List Char → Bool) (src : List Char) (toks : List Tok)
    (hwf : ∀ t ∈ toks, t.span.start ≤ t.span.stop ∧ t.span.stop ≤ src.length)
    (hs : toks.Pairwise (fun x y => x.span.stop ≤ y.span.start)) :
    ∃ out, collapseIdentifiers dict src toks = .ok out := by
  obtain ⟨ms, hf, hg, hends⟩ := findAllMatches_good src toks
  obtain ⟨⟨ts, rem⟩, hr⟩ := collapseLoop_total dict src ms toks hg fun m _ s e hs' he' =>
    have hsub := segOf_sublist 0 m toks
    ⟨ends_ordered (p := fun _ => true) ((hs.sublist hsub).imp fun h _ _ => h)
      (fun t ht => (hwf t (hsub.subset ht)).1) hs' he' rfl rfl,
     (hwf e (hsub.subset (List.mem_of_getLast? he'))).2⟩
  exact ⟨removeIndices 0 (sortUniq rem) ts,
    by simp only [collapseIdentifiers, hf, hr, bind, Except.bind, pure, Except.pure]⟩

/-- non-vacuity of `collapseIdentifiers_total` (and of `collapseLoop_total`, through it): the five
tokens of `snake_case is` -/
example : ∃ out, collapseIdentifiers (fun w => w == ['s', 'n', 'a', 'k', 'e', '_', 'c', 'a', 's', 'e'])
    ['s', 'n', 'a', 'k', 'e', '_', 'c', 'a', 's', 'e', ' ', 'i', 's']
    [⟨⟨0, 5⟩, .word⟩, ⟨⟨5, 6⟩, .punct .Underscore⟩, ⟨⟨6, 10⟩, .word⟩, ⟨⟨10, 11⟩, .space 1⟩, ⟨⟨11, 13⟩, .word⟩] =
      .ok out :=
  collapseIdentifiers_total _ _ _ (by decide +kernel) (by decide +kernel)

/-- NO PANIC (C01, `CollapseIdentifiers` over a Markdown-shaped inner token list — what harper-ls
builds for comments): same hypotheses as `collapseIdentifiers_preserves_covering`, for every
dictionary and every text -/
theorem collapseIdentifiers_total_covering (dict : List Char → Bool) (src : List Char) (toks : List Tok)
    (hw : ∀ t ∈ toks, t.kind.isWord = true → t.span.start < t.span.stop)
    (hwf : ∀ t ∈ toks, t.span.start ≤ t.span.stop ∧ t.span.stop ≤ src.length)
    (hs : (toks.filter (fun t => decide (t.span.start < t.span.stop))).Pairwise
      (fun a b => a.span.stop ≤ b.span.start)) :
    ∃ out, collapseIdentifiers dict src toks = .ok out := by
  obtain ⟨ms, hf, hg, hends⟩ := findAllMatches_good src toks
  rw [List.pairwise_filter] at hs
  obtain ⟨⟨ts, rem⟩, hr⟩ := collapseLoop_total dict src ms toks hg fun m hm s e hs' he' => by
    have hsub := segOf_sublist 0 m toks
    obtain ⟨s0, e0, h1, h2, w1, w2⟩ := hends m hm
    cases hs'.symm.trans h1
    cases he'.symm.trans h2
    have hms := hsub.subset (List.mem_of_mem_head? hs')
    have hme := hsub.subset (List.mem_of_getLast? he')
    exact ⟨ends_ordered (hs.sublist hsub) (fun t ht => (hwf t (hsub.subset ht)).1) hs' he'
      (by simpa using hw s hms w1) (by simpa using hw e hme w2), (hwf e hme).2⟩
  exact ⟨removeIndices 0 (sortUniq rem) ts,
    by simp only [collapseIdentifiers, hf, hr, bind, Except.bind, pure, Except.pure]⟩

/-- non-vacuity of `collapseIdentifiers_total_covering` (and `collapseLoop_total`): the token list
with the zero-width `ParagraphBreak` at 6 after the tokens that end at 10 (not sorted as a whole) -/
example : ∃ out, collapseIdentifiers (fun w => w == ['s', 'n', 'a', 'k', 'e', '_', 'c', 'a', 's', 'e'])
    ['s', 'n', 'a', 'k', 'e', '_', 'c', 'a', 's', 'e', ' ', 'i', 's']
    [⟨⟨0, 5⟩, .word⟩, ⟨⟨5, 6⟩, .punct .Underscore⟩, ⟨⟨6, 10⟩, .word⟩, ⟨⟨6, 6⟩, .paragraphBreak⟩, ⟨⟨11, 13⟩, .word⟩] =
      .ok out :=
  collapseIdentifiers_total_covering _ _ _ (by decide +kernel) (by decide +kernel) (by decide +kernel)

/-! ## `IsolateEnglish` -/

/-- THE KEPT TOKENS ARE THE INNER PARSER'S TOKENS, UNTOUCHED AND IN ORDER: whatever the verdicts -/
theorem isolateEnglish_sublist (verdict : List Tok → Except Panic Bool) (toks out : List Tok)
    (h : isolateEnglish verdict toks = .ok out) : out.Sublist toks := by
  have := isolateGo_sublist verdict _ out h
  rwa [iterChunks_flatten] at this

/-- WHICH TOKENS ARE DROPPED: exactly the chunks (of `iter_chunks`) of four or more tokens whose
verdict is "not English" -/
theorem isolateEnglish_spec (v : List Tok → Bool) (toks : List Tok) :
    isolateEnglish (fun ch => .ok (v ch)) toks =
      .ok (((Chunks.iterChunks toks).filter (fun ch => decide (ch.length < 4) || v ch)).flatten) ∧
    (Chunks.iterChunks toks).flatten = toks :=
  ⟨isolateGo_spec v _, iterChunks_flatten toks⟩

/-- a chunk of five tokens judged foreign is dropped, a short one is kept whatever the verdict -/
example : isolateEnglish (fun _ => .ok false)
    [⟨⟨0, 1⟩, .word⟩, ⟨⟨1, 2⟩, .space 1⟩, ⟨⟨2, 3⟩, .word⟩, ⟨⟨3, 4⟩, .space 1⟩, ⟨⟨4, 5⟩, .word⟩, ⟨⟨5, 6⟩, .punct .Period⟩,
     ⟨⟨6, 7⟩, .space 1⟩, ⟨⟨7, 8⟩, .word⟩, ⟨⟨8, 9⟩, .punct .Period⟩] =
    .ok [⟨⟨6, 7⟩, .space 1⟩, ⟨⟨7, 8⟩, .word⟩, ⟨⟨8, 9⟩, .punct .Period⟩] := by decide +kernel

/-- `is_likely_english`: three words of which one is unknown (≤ 7 words: any unknown word decides) -/
example : isLikelyEnglish (fun w => w != ['z', 'x', 'q']) ['a', ' ', 'z', 'x', 'q', ' ', 'b', '.']
    [⟨⟨0, 1⟩, .word⟩, ⟨⟨1, 2⟩, .space 1⟩, ⟨⟨2, 5⟩, .word⟩, ⟨⟨5, 6⟩, .space 1⟩, ⟨⟨6, 7⟩, .word⟩,
     ⟨⟨7, 8⟩, .punct .Period⟩] = .ok false := by decide +kernel

example : isLikelyEnglish (fun _ => true) ['a', ' ', 'z', 'x', 'q', ' ', 'b', '.']
    [⟨⟨0, 1⟩, .word⟩, ⟨⟨1, 2⟩, .space 1⟩, ⟨⟨2, 5⟩, .word⟩, ⟨⟨5, 6⟩, .space 1⟩, ⟨⟨6, 7⟩, .word⟩,
     ⟨⟨7, 8⟩, .punct .Period⟩] = .ok true := by decide +kernel

/-! ### no panic (C01) -/

/-- NO PANIC (C01, `language_detection::is_likely_english`), for every dictionary -/
theorem isLikelyEnglish_total (dict : List Char → Bool) (src : List Char) (toks : List Tok)
    (hwf : ∀ t ∈ toks, t.kind.isWord = true → t.span.start ≤ t.span.stop ∧ t.span.stop ≤ src.length) :
    ∃ b, isLikelyEnglish dict src toks = .ok b := by
  obtain ⟨c, hc⟩ := countToks_total dict src toks ⟨0, 0, 0, 0⟩ hwf
  exact ⟨verdictOf c, by simp only [isLikelyEnglish, hc, bind, Except.bind, pure, Except.pure]⟩

/-- NO PANIC (C01, `IsolateEnglish` with the modelled verdict — what the driver's op `isolate` runs):
whatever the order of the inner parser's tokens, as long as its word tokens lie inside the text;
and the result is a sub-list of the inner parser's tokens -/
theorem isolateEnglishDict_total (dict : List Char → Bool) (src : List Char) (toks : List Tok)
    (hwf : ∀ t ∈ toks, t.kind.isWord = true → t.span.start ≤ t.span.stop ∧ t.span.stop ≤ src.length) :
    ∃ out, isolateEnglishDict dict src toks = .ok out ∧ out.Sublist toks := by
  obtain ⟨out, ho⟩ := isolateGo_total (isLikelyEnglish dict src) (Chunks.iterChunks toks) fun ch hch =>
    isLikelyEnglish_total dict src ch fun t ht =>
      hwf t (by rw [← iterChunks_flatten toks]; exact List.mem_flatten.mpr ⟨ch, hch, ht⟩)
  exact ⟨out, ho, isolateEnglish_sublist _ toks out ho⟩

/-- non-vacuity of `isolateEnglishDict_total` / `isLikelyEnglish_total` / `countToks_total`: the six
tokens of `a zxq b.` (one chunk of six tokens, so the verdict IS computed), and what comes out -/
example : ∃ out, isolateEnglishDict (fun w => w != ['z', 'x', 'q']) ['a', ' ', 'z', 'x', 'q', ' ', 'b', '.']
    [⟨⟨0, 1⟩, .word⟩, ⟨⟨1, 2⟩, .space 1⟩, ⟨⟨2, 5⟩, .word⟩, ⟨⟨5, 6⟩, .space 1⟩, ⟨⟨6, 7⟩, .word⟩,
     ⟨⟨7, 8⟩, .punct .Period⟩] = .ok out ∧
    out.Sublist [⟨⟨0, 1⟩, .word⟩, ⟨⟨1, 2⟩, .space 1⟩, ⟨⟨2, 5⟩, .word⟩, ⟨⟨5, 6⟩, .space 1⟩, ⟨⟨6, 7⟩, .word⟩,
     ⟨⟨7, 8⟩, .punct .Period⟩] :=
  isolateEnglishDict_total _ _ _ (by decide +kernel)

example : isolateEnglishDict (fun w => w != ['z', 'x', 'q']) ['a', ' ', 'z', 'x', 'q', ' ', 'b', '.']
    [⟨⟨0, 1⟩, .word⟩, ⟨⟨1, 2⟩, .space 1⟩, ⟨⟨2, 5⟩, .word⟩, ⟨⟨5, 6⟩, .space 1⟩, ⟨⟨6, 7⟩, .word⟩,
     ⟨⟨7, 8⟩, .punct .Period⟩] = .ok [] := by decide +kernel

/-- the panic the premise excludes: a word token that reaches past the end of the text -/
example : isLikelyEnglish (fun _ => true) ['a'] [⟨⟨0, 2⟩, .word⟩] = .error .sliceOOB := by decide +kernel

end Harper.C02
