import Harper.Lemmas.LexAppend
import Harper.Lemmas.Chunks
import Harper.Lemmas.CondensePats
import Harper.Lemmas.DocAppend
import Harper.Props.C02
/-!
# C12 — checking two paragraphs together equals checking them separately

The text is `P ++ D`: `P` ends in a newline (a paragraph break: two or more), `D` does not start
with one — every text containing a paragraph break splits this way, right after the run of newlines.

* `lex_append`: `PlainEnglish::parse (P ++ D) = parse P ++ shift |P| (parse D)`, for every Unicode
  class table satisfying three laws (`ClsOK`) and every url / e-mail / hostname lexer whose tokens
  are local to each side (`ExtLocal`, a monitor: the real lexers are NOT local in one case, the
  recorded finding `c12-lex-at-lookahead`). None of the modelled lexers looks past the newline:
  `lex_number` scans to the last ASCII digit of the whole remaining text, but a literal it accepts
  ends in a digit and contains no newline, so the scan is harmless (`lexNumber_local`).
* `document_append`: no condensing pass merges across the paragraph break, so the document of
  `P ++ D` is the document of `P` followed by the document of `D` moved by `|P|` characters and
  `|tokens(P)|` token places (quote twins are token indices). Its conditions are about the
  CHARACTERS of the two texts: `P = P0 ++ '\n'^k` with `k ≥ 2` and `P0` not ending in a newline,
  no quotation-mark character in `P`, `D` not starting with a newline. (`parsePlain_ends_break`:
  such a `P` lexes to tokens ending in `Newline(k)`; `parsePlain_noQuotes`.) No condition on blanks:
  `condenseSpaces_barrier`.
* `iterParagraphs_append` / `iterSentences_append` / `iterChunks_append`: the pieces of two token
  vectors joined at a paragraph break are the pieces of the first followed by those of the second.
* `lint_append`: a rule that is a function of one piece (`XLocal`: local and translation
  invariant) reports on `P ++ D` exactly its lints on `P` followed by its lints on `D` shifted by
  `|P|`; a group of such rules reports the same lints up to the interleaving of the rule-by-rule
  concatenation (`lintGroup_append`).
* `paragraphs_separately` / `paragraphs_separately_group`: all of the above composed — from the
  characters of `P` and `D` to the lints of one rule / of a group of rules.
* `document_append_tokens`: the token-level form of `document_append`.
* `edit_first_paragraph` / `edit_later_text`: editing one paragraph never changes, moves or hides a lint in another.
Assumptions left: the url / e-mail / hostname lexers are a parameter (`ExtOK`, `ExtLocal`, `ExtNoNl`:
in bounds, local to each side, no newline inside a token — all monitored; `ExtLocal` fails for the
recorded finding) and rule locality `XLocal`. In THIS file `XLocal` is a hypothesis; it is proved for
the modelled rules downstream (`Props/C12b.lean` eleven rules, `C12c` generic constructions, `C12d` the
28 pattern rules, `C12e` thirteen hand-written rules, `C12f`) and tested by the oracle of `harness/src/c12.rs`
on the real rule set on every run. For the MODELLED url / e-mail / hostname lexers the three table
hypotheses reduce to "`D` contains no `@`" (`C12b.paragraphPair_atFree`).
-/
namespace Harper.C12
open Harper Harper.Chunks

/-! ## the lexer -/

/-- no modelled lexer looks past the newline that ends `P`: the token found at any position of `P`
is the same whether or not `D` follows -/
theorem lexToken_local (cls : Cls) (hc : ClsOK cls) (ext ext' : Ext) (pos : Nat) (hext : ext' pos = ext pos)
    (p D : List Char) (hD : D.head? ≠ some '\n') :
    lexToken cls ext' pos (p ++ '\n' :: D) = lexToken cls ext pos (p ++ ['\n']) :=
  lexToken_nl cls hc ext ext' pos hext p D hD

/-- `lex_number` scans to the last ASCII digit of everything that follows, but that cannot
change its result across a newline -/
theorem lexNumber_local (cls : Cls) (hc : ClsOK cls) (p D : List Char) :
    lexNumber cls (p ++ '\n' :: D) = lexNumber cls (p ++ ['\n']) := lexNumber_nl cls hc p D

/-- the tokens of `P ++ D` are the tokens of `P` followed by the tokens of `D` moved by `|P|` -/
theorem lex_append (cls : Cls) (hc : ClsOK cls) (P D : List Char) (hb : BoundaryOK P D)
    (extP extD extPD : Ext) (hloc : ExtLocal extP extD extPD P.length)
    (hokP : ExtOK extP P.length) (hokD : ExtOK extD D.length) :
    ∃ tp td, parsePlain cls extP P = .ok tp ∧ parsePlain cls extD D = .ok td ∧
      parsePlain cls extPD (P ++ D) = .ok (tp ++ shiftToks P.length td) :=
  lex_append' cls hc P D hb extP extD extPD hloc hokP hokD

/-! ### the hypotheses are satisfiable -/

open Harper.C02 (asciiCls)

/-- the ASCII class table obeys the three laws -/
theorem asciiCls_clsOK : ClsOK asciiCls := ⟨by decide, by decide, by
  intro c h
  simp only [asciiCls, isAsciiDigit, Bool.and_eq_true, decide_eq_true_eq] at h
  refine ⟨?_, ?_, ?_⟩
  · simp only [isAsciiAlpha, Bool.or_eq_false_iff, Bool.and_eq_false_imp, decide_eq_true_eq, decide_eq_false_iff_not]
    have h1 := h.1; have h2 := h.2
    constructor <;> intro h3 <;> intro h4
    · exact absurd (Char.le_trans h3 h2) (by decide)
    · exact absurd (Char.le_trans h3 h2) (by decide)
  · intro hc; subst hc; exact absurd h.1 (by decide)
  · intro hc; subst hc; exact absurd h.1 (by decide)⟩

/-- the hypotheses are satisfiable -/
example : ClsOK asciiCls := asciiCls_clsOK
example : BoundaryOK ['a', '.', '\n', '\n'] ['b'] := by decide +kernel
example : ExtLocal (fun _ => none) (fun _ => none) (fun _ => none) 4 := ⟨fun _ _ => rfl, fun _ => rfl⟩

/-! ### non-vacuity: the theorems above applied, every hypothesis together -/

/-- an `Ext` table that is not empty: the e-mail address `a@b` at the start of `D = a@b c` -/
theorem emailAt_ok (p len : Nat) (h : p + 3 ≤ len) : ExtOK (fun pos => if pos = p then some (.email, 3) else none) len := by
  intro pos k n hk
  dsimp only at hk
  split at hk
  · cases hk; omega
  · cases hk

theorem emailAt_local (n : Nat) :
    ExtLocal (fun _ => none) (fun pos => if pos = 0 then some (.email, 3) else none)
      (fun pos => if pos = n then some (.email, 3) else none) n := by
  refine ⟨fun pos hp => ?_, fun i => ?_⟩
  · have : pos ≠ n := by omega
    simp [this]
  · by_cases hi : i = 0
    · subst hi; simp
    · have : n + i ≠ n := by omega
      simp [hi]

/-- non-vacuity of `lexToken_local`: position 0 of `ab` + newline + `cd` -/
example : lexToken asciiCls (fun _ => none) 0 (['a', 'b'] ++ '\n' :: ['c', 'd']) =
    lexToken asciiCls (fun _ => none) 0 (['a', 'b'] ++ ['\n']) :=
  lexToken_local asciiCls asciiCls_clsOK _ _ 0 rfl ['a', 'b'] ['c', 'd'] (by decide +kernel)

example : lexToken asciiCls (fun _ => none) 0 (['a', 'b'] ++ '\n' :: ['c', 'd']) = some (.word, 2) := by decide +kernel

/-- non-vacuity of `lexNumber_local`: `5.` before the newline, a digit after it -/
example : lexNumber asciiCls (['5', '.'] ++ '\n' :: ['5']) = lexNumber asciiCls (['5', '.'] ++ ['\n']) :=
  lexNumber_local asciiCls asciiCls_clsOK ['5', '.'] ['5']

example : lexNumber asciiCls (['5', '.'] ++ '\n' :: ['5']) = some (.number 10 none, 1) := by decide +kernel

/-- non-vacuity of `lex_append`: all six hypotheses together, `a.¶¶` + `a@b c` with an e-mail token in `D` -/
example : ∃ tp td, parsePlain asciiCls (fun _ => none) ['a', '.', '\n', '\n'] = .ok tp ∧
    parsePlain asciiCls (fun pos => if pos = 0 then some (.email, 3) else none) ['a', '@', 'b', ' ', 'c'] = .ok td ∧
    parsePlain asciiCls (fun pos => if pos = 4 then some (.email, 3) else none)
      (['a', '.', '\n', '\n'] ++ ['a', '@', 'b', ' ', 'c']) = .ok (tp ++ shiftToks 4 td) :=
  lex_append asciiCls asciiCls_clsOK ['a', '.', '\n', '\n'] ['a', '@', 'b', ' ', 'c'] (by decide +kernel) _ _ _
    (emailAt_local 4) (fun _ _ _ h => by cases h) (emailAt_ok 0 5 (by decide +kernel))

/-- … and the tokens it speaks about -/
example : (parsePlain asciiCls (fun pos => if pos = 4 then some (.email, 3) else none)
      (['a', '.', '\n', '\n'] ++ ['a', '@', 'b', ' ', 'c'])).toOption =
    some [⟨⟨0, 1⟩, .word⟩, ⟨⟨1, 2⟩, .punct .Period⟩, ⟨⟨2, 4⟩, .newline 2⟩, ⟨⟨4, 7⟩, .email⟩, ⟨⟨7, 8⟩, .space 1⟩,
      ⟨⟨8, 9⟩, .word⟩] := by decide +kernel

/-! ### every condition of `lex_append` is needed (kernel-evaluated witnesses) -/

/-- `D` must not start with a newline: the newline runs merge (`nl2` + `nl1` ≠ `nl3`) -/
example : (parsePlain asciiCls (fun _ => none) (['a', '\n', '\n'] ++ ['\n', 'b'])).toOption ≠
    (do let tp ← (parsePlain asciiCls (fun _ => none) ['a', '\n', '\n']).toOption
        let td ← (parsePlain asciiCls (fun _ => none) ['\n', 'b']).toOption
        pure (tp ++ shiftToks 3 td)) := by decide +kernel

/-- `P` must end in a newline: otherwise a word continues into `D` -/
example : (parsePlain asciiCls (fun _ => none) (['a'] ++ ['b'])).toOption ≠
    (do let tp ← (parsePlain asciiCls (fun _ => none) ['a']).toOption
        let td ← (parsePlain asciiCls (fun _ => none) ['b']).toOption
        pure (tp ++ shiftToks 1 td)) := by decide +kernel

/-- `ExtLocal` is needed: an e-mail lexer that finds `a@b` in `P` alone but (looking at a later `@`)
nothing in `P ++ D` gives different tokens — this is what the real `lex_email_address` does -/
example : (parsePlain asciiCls (fun _ => none) (['a', '@', 'b', '\n'] ++ ['@'])).toOption ≠
    (do let tp ← (parsePlain asciiCls (fun p => if p = 0 then some (.email, 3) else none) ['a', '@', 'b', '\n']).toOption
        let td ← (parsePlain asciiCls (fun _ => none) ['@']).toOption
        pure (tp ++ shiftToks 4 td)) := by decide +kernel

/-- the law "a numeric character is not an ASCII letter" is needed: with a table calling `n`
numeric, `nan` is a number only when a digit follows somewhere in `D` -/
def oddCls : Cls := { asciiCls with numeric := fun c => isAsciiDigit c || c == 'n' }
example : (parsePlain oddCls (fun _ => none) (['n', 'a', 'n', '\n'] ++ ['5'])).toOption ≠
    (do let tp ← (parsePlain oddCls (fun _ => none) ['n', 'a', 'n', '\n']).toOption
        let td ← (parsePlain oddCls (fun _ => none) ['5']).toOption
        pure (tp ++ shiftToks 4 td)) := by decide +kernel

/-! ## the condensing passes -/

/-- the document of the whole is the document of `P` followed by the document of `D` moved by `n`
characters and `|tp|` token places -/
def DocAppend' (cls : Cls) (ext : Ext) (src : List Char) (tp td : List Tok) (n : Nat) : Prop :=
  document cls ext src = .ok (tp ++ shiftDoc n tp.length td)

/-- token-level form: `X ++ [brk]` are the lexer's tokens of `P` (ending in the paragraph's newline
token, without quotation marks), `td0` those of `D` -/
theorem document_append_tokens (cls : Cls) (hc : ClsOK cls) (P D : List Char) (hb : BoundaryOK P D)
    (extP extD extPD : Ext) (hloc : ExtLocal extP extD extPD P.length)
    (hokP : ExtOK extP P.length) (hokD : ExtOK extD D.length)
    (X : List Tok) (brk : Tok) (k : Nat) (td0 : List Tok)
    (hP0 : parsePlain cls extP P = .ok (X ++ [brk])) (hD0 : parsePlain cls extD D = .ok td0)
    (hbrk : brk.kind = .newline k) (hk : k ≥ 2) (hnq : NoQuotes (X ++ [brk])) :
    ∃ A0 pb td, pb.kind = .paragraphBreak ∧ document cls extP P = .ok (A0 ++ [pb]) ∧
      document cls extD D = .ok td ∧
      DocAppend' cls extPD (P ++ D) (A0 ++ [pb]) td P.length ∧
      (∀ t ∈ A0 ++ [pb], t.span.stop ≤ P.length) :=
  document_append_tokens' cls hc P D hb extP extD extPD hloc hokP hokD X brk k td0 hP0 hD0 hbrk hk hnq

/-- a text ending in a maximal run of `k` newlines lexes to tokens ending in `Newline(k)` -/
theorem parsePlain_ends_break (cls : Cls) (hc : ClsOK cls) (ext : Ext) (P0 : List Char) (k : Nat) (hk : 1 ≤ k)
    (hend : NoNlEnd P0) (hnl : ExtNoNl ext (P0 ++ List.replicate k '\n'))
    (hok : ExtOK ext (P0 ++ List.replicate k '\n').length) (toks : List Tok)
    (h : parsePlain cls ext (P0 ++ List.replicate k '\n') = .ok toks) :
    ∃ X, toks = X ++ [⟨⟨P0.length, P0.length + k⟩, .newline k⟩] :=
  Harper.parsePlain_ends_break cls hc ext P0 k hk hend hnl hok toks h

/-- a text without quotation-mark characters has no quote token -/
theorem parsePlain_noQuotes (cls : Cls) (ext : Ext) (P : List Char) (hq : NoQuoteChars P) (toks : List Tok)
    (h : parsePlain cls ext P = .ok toks) : NoQuotes toks :=
  Harper.parsePlain_noQuotes cls ext P hq toks h

/-- no token other than a `Newline` token contains a newline (the url / e-mail / hostname lexers:
by assumption `hext`) -/
theorem token_has_no_newline (cls : Cls) (hc : ClsOK cls) (ext : Ext) (pos : Nat) (src : List Char)
    (hext : ∀ k n, ext pos = some (k, n) → NoNl (src.take n)) (kd : Kind) (n : Nat)
    (h : lexToken cls ext pos src = some (kd, n)) : NoNl (src.take n) ∨ AllNl (src.take n) :=
  lexToken_chars cls hc ext pos src hext kd n h

theorem getLast?_append_replicate (P0 : List Char) (k : Nat) (hk : 1 ≤ k) :
    (P0 ++ List.replicate k '\n').getLast? = some '\n' := by
  obtain ⟨j, rfl⟩ : ∃ j, k = j + 1 := ⟨k - 1, by omega⟩
  rw [List.replicate_succ', ← List.append_assoc, List.getLast?_append]
  simp

/-- **`Document::new (P ++ D)` = `Document::new P` followed by `Document::new D` moved behind it**,
from conditions on the characters: `P = P0 ++ '\n'^k`, `k ≥ 2`, `P0` does not end in a newline,
`P` contains no quotation mark, `D` does not start with a newline. -/
theorem document_append (cls : Cls) (hc : ClsOK cls) (P0 D : List Char) (k : Nat) (hk : 2 ≤ k)
    (hend : NoNlEnd P0) (hD : D.head? ≠ some '\n') (hq : NoQuoteChars (P0 ++ List.replicate k '\n'))
    (extP extD extPD : Ext) (hloc : ExtLocal extP extD extPD (P0 ++ List.replicate k '\n').length)
    (hokP : ExtOK extP (P0 ++ List.replicate k '\n').length) (hokD : ExtOK extD D.length)
    (hnl : ExtNoNl extP (P0 ++ List.replicate k '\n')) :
    ∃ A0 pb td, pb.kind = .paragraphBreak ∧
      document cls extP (P0 ++ List.replicate k '\n') = .ok (A0 ++ [pb]) ∧
      document cls extD D = .ok td ∧
      DocAppend' cls extPD ((P0 ++ List.replicate k '\n') ++ D) (A0 ++ [pb]) td (P0 ++ List.replicate k '\n').length ∧
      (∀ t ∈ A0 ++ [pb], t.span.stop ≤ (P0 ++ List.replicate k '\n').length) := by
  obtain ⟨tp0, eP, _, _⟩ := C02.parsePlain_tiles cls extP _ hokP
  obtain ⟨td0, eD, _, _⟩ := C02.parsePlain_tiles cls extD D hokD
  obtain ⟨X, rfl⟩ := parsePlain_ends_break cls hc extP P0 k (by omega) hend hnl hokP tp0 eP
  exact document_append_tokens cls hc _ D ⟨getLast?_append_replicate P0 k (by omega), hD⟩ extP extD extPD
    hloc hokP hokD X _ k td0 eP eD rfl hk (parsePlain_noQuotes cls extP _ hq _ eP)

/-- every condensing pass also commutes with moving the tokens and the text under them; e.g. -/
theorem condenseSpaces_translation (k : Nat) (toks : List Tok) :
    condenseSpaces (shiftToks k toks) = shiftToks k (condenseSpaces toks) := condenseSpaces_shift k toks

/-- … and a `ParagraphBreak` token is a barrier for the pattern passes (here: `et al.`) -/
theorem latin_stops_at_break (src : List Char) (pb : Tok) (hpb : pb.kind = .paragraphBreak) (Y : List Tok)
    (hY : InB src (pb :: Y)) (xs : List Tok) (hxs : InB src xs) :
    latinPat src (xs ++ pb :: Y) = latinPat src xs := (latin_barrier src pb hpb Y hY).stop xs hxs

/-- `a·⇥¶¶` + `·⇥b`: blanks on both sides of the break; together and separately agree (witness for finding
`c12-condense-spaces-skip`) -/
theorem spaceOK_no_longer_needed :
    (document asciiCls (fun _ => none) (['a', ' ', '\t', '\n', '\n'] ++ [' ', '\t', 'b'])).toOption =
    (do let tp ← (document asciiCls (fun _ => none) ['a', ' ', '\t', '\n', '\n']).toOption
        let td ← (document asciiCls (fun _ => none) [' ', '\t', 'b']).toOption
        pure (tp ++ shiftDoc 5 tp.length td)) := by
  obtain ⟨A0, pb, td, _, eP, eD, ePD, _⟩ := document_append asciiCls asciiCls_clsOK ['a', ' ', '\t'] [' ', '\t', 'b'] 2
    (by decide) (by decide) (by decide) (by decide) (fun _ => none) (fun _ => none) (fun _ => none)
    ⟨fun _ _ => rfl, fun _ => rfl⟩ (fun _ _ _ h => by cases h) (fun _ _ _ h => by cases h) (fun _ _ _ h => by cases h)
  unfold DocAppend' at ePD
  generalize document asciiCls (fun _ => none) = doc at eP eD ePD ⊢
  have eP' : doc ['a', ' ', '\t', '\n', '\n'] = .ok (A0 ++ [pb]) := eP
  have ePD' : doc (['a', ' ', '\t', '\n', '\n'] ++ [' ', '\t', 'b']) = .ok ((A0 ++ [pb]) ++ shiftDoc 5 (A0 ++ [pb]).length td) := ePD
  rw [ePD', eP', eD]
  rfl

/-- `condense_spaces` never merges across a token that is not a blank -/
theorem condenseSpaces_barrier (X Y : List Tok) (brk : Tok) (hb : brk.kind.isSpace = false) :
    condenseSpaces (X ++ brk :: Y) = condenseSpaces X ++ brk :: condenseSpaces Y :=
  Harper.condenseSpaces_barrier X Y brk hb

/-- the hypotheses of `document_append` are satisfiable -/
example : NoNlEnd ['a', '.', ' '] ∧ NoQuoteChars (['a', '.', ' '] ++ List.replicate 2 '\n') ∧
    ExtNoNl (fun _ => none) (['a', '.', ' '] ++ List.replicate 2 '\n') :=
  ⟨by decide +kernel, by decide +kernel, fun _ _ _ h => by cases h⟩

/-- … and its conclusion, computed -/
example : (document asciiCls (fun _ => none) (['a', '.', ' ', '\n', '\n'] ++ [' ', '"', 'b', '"'])).toOption =
    (do let tp ← (document asciiCls (fun _ => none) ['a', '.', ' ', '\n', '\n']).toOption
        let td ← (document asciiCls (fun _ => none) [' ', '"', 'b', '"']).toOption
        pure (tp ++ shiftDoc 5 tp.length td)) := by decide +kernel

/-! ### non-vacuity: each theorem of this section applied, every hypothesis together -/

/-- non-vacuity of `document_append_tokens`: `a.¶¶` + `a@b c`, every hypothesis together -/
example : ∃ A0 pb td, pb.kind = .paragraphBreak ∧
    document asciiCls (fun _ => none) ['a', '.', '\n', '\n'] = .ok (A0 ++ [pb]) ∧
    document asciiCls (fun pos => if pos = 0 then some (.email, 3) else none) ['a', '@', 'b', ' ', 'c'] = .ok td ∧
    DocAppend' asciiCls (fun pos => if pos = 4 then some (.email, 3) else none)
      (['a', '.', '\n', '\n'] ++ ['a', '@', 'b', ' ', 'c']) (A0 ++ [pb]) td 4 ∧
    (∀ t ∈ A0 ++ [pb], t.span.stop ≤ 4) :=
  document_append_tokens asciiCls asciiCls_clsOK ['a', '.', '\n', '\n'] ['a', '@', 'b', ' ', 'c'] (by decide +kernel) _ _ _
    (emailAt_local 4) (fun _ _ _ h => by cases h) (emailAt_ok 0 5 (by decide +kernel))
    [⟨⟨0, 1⟩, .word⟩, ⟨⟨1, 2⟩, .punct .Period⟩] ⟨⟨2, 4⟩, .newline 2⟩ 2
    [⟨⟨0, 3⟩, .email⟩, ⟨⟨3, 4⟩, .space 1⟩, ⟨⟨4, 5⟩, .word⟩] (ok_of_toOption_eq_some _ _ (by decide +kernel))
    (ok_of_toOption_eq_some _ _ (by decide +kernel)) rfl (by decide +kernel) (by unfold NoQuotes; decide +kernel)

/-- non-vacuity of `parsePlain_ends_break`: `a b.` + three newlines -/
example : ∃ X, [(⟨⟨0, 1⟩, .word⟩ : Tok), ⟨⟨1, 2⟩, .space 1⟩, ⟨⟨2, 3⟩, .word⟩, ⟨⟨3, 4⟩, .punct .Period⟩, ⟨⟨4, 7⟩, .newline 3⟩] =
    X ++ [⟨⟨4, 4 + 3⟩, .newline 3⟩] :=
  parsePlain_ends_break asciiCls asciiCls_clsOK (fun _ => none) ['a', ' ', 'b', '.'] 3 (by decide +kernel) (by decide +kernel)
    (fun _ _ _ h => by cases h) (fun _ _ _ h => by cases h) _ (ok_of_toOption_eq_some _ _ (by decide +kernel))

/-- non-vacuity of `parsePlain_noQuotes` -/
example : NoQuotes [(⟨⟨0, 1⟩, .word⟩ : Tok), ⟨⟨1, 2⟩, .space 1⟩, ⟨⟨2, 3⟩, .word⟩, ⟨⟨3, 4⟩, .punct .Period⟩] :=
  parsePlain_noQuotes asciiCls (fun _ => none) ['a', ' ', 'b', '.'] (by decide +kernel) _
    (ok_of_toOption_eq_some _ _ (by decide +kernel))

/-- … and the hypothesis is needed: a quotation mark lexes to a quote token -/
example : ¬ NoQuoteChars ['"', 'a'] ∧
    (parsePlain asciiCls (fun _ => none) ['"', 'a']).toOption = some [⟨⟨0, 1⟩, .quote none⟩, ⟨⟨1, 2⟩, .word⟩] := by decide +kernel

/-- non-vacuity of `token_has_no_newline`: the word `ab` before a newline; the newline run itself -/
example : NoNl (['a', 'b', '\n', 'c'].take 2) ∨ AllNl (['a', 'b', '\n', 'c'].take 2) :=
  token_has_no_newline asciiCls asciiCls_clsOK (fun _ => none) 0 ['a', 'b', '\n', 'c'] (fun _ _ h => by cases h) .word 2 (by decide +kernel)

example : NoNl (['\n', '\n', 'c'].take 2) ∨ AllNl (['\n', '\n', 'c'].take 2) :=
  token_has_no_newline asciiCls asciiCls_clsOK (fun _ => none) 0 ['\n', '\n', 'c'] (fun _ _ h => by cases h) (.newline 2) 2 (by decide +kernel)

/-- non-vacuity of `document_append`: every hypothesis together (`ab cd. ¶¶¶` + `a@b "c"`: three newlines, an
e-mail token and a quoted word in `D`), the theorem applied -/
example : ∃ A0 pb td, pb.kind = .paragraphBreak ∧
    document asciiCls (fun _ => none) (['a', 'b', ' ', 'c', 'd', '.', ' '] ++ List.replicate 3 '\n') = .ok (A0 ++ [pb]) ∧
    document asciiCls (fun pos => if pos = 0 then some (.email, 3) else none) ['a', '@', 'b', ' ', '"', 'c', '"'] = .ok td ∧
    DocAppend' asciiCls (fun pos => if pos = 10 then some (.email, 3) else none)
      ((['a', 'b', ' ', 'c', 'd', '.', ' '] ++ List.replicate 3 '\n') ++ ['a', '@', 'b', ' ', '"', 'c', '"']) (A0 ++ [pb]) td
      (['a', 'b', ' ', 'c', 'd', '.', ' '] ++ List.replicate 3 '\n').length ∧
    (∀ t ∈ A0 ++ [pb], t.span.stop ≤ (['a', 'b', ' ', 'c', 'd', '.', ' '] ++ List.replicate 3 '\n').length) :=
  document_append asciiCls asciiCls_clsOK ['a', 'b', ' ', 'c', 'd', '.', ' '] ['a', '@', 'b', ' ', '"', 'c', '"'] 3 (by decide +kernel)
    (by decide +kernel) (by decide +kernel) (by decide +kernel) _ _ _ (emailAt_local 10) (fun _ _ _ h => by cases h) (emailAt_ok 0 7 (by decide +kernel))
    (fun _ _ _ h => by cases h)

/-- … and the document it speaks about: the quotes of `D` are twins 8 ↔ 10 (alone: 2 ↔ 4, moved by the 6 tokens of `P`) -/
example : (document asciiCls (fun pos => if pos = 10 then some (.email, 3) else none)
      ((['a', 'b', ' ', 'c', 'd', '.', ' '] ++ List.replicate 3 '\n') ++ ['a', '@', 'b', ' ', '"', 'c', '"'])).toOption =
    some [⟨⟨0, 2⟩, .word⟩, ⟨⟨2, 3⟩, .space 1⟩, ⟨⟨3, 5⟩, .word⟩, ⟨⟨5, 6⟩, .punct .Period⟩, ⟨⟨6, 7⟩, .space 1⟩,
      ⟨⟨7, 10⟩, .paragraphBreak⟩, ⟨⟨10, 13⟩, .email⟩, ⟨⟨13, 14⟩, .space 1⟩, ⟨⟨14, 15⟩, .quote (some 10)⟩, ⟨⟨15, 16⟩, .word⟩,
      ⟨⟨16, 17⟩, .quote (some 8)⟩] := by decide +kernel

/-- `k ≥ 2` is needed: one newline does not end the paragraph — the document of `a` + newline ends in a `Newline(1)`
token, not in a `ParagraphBreak`, and `a`, newline, `b` is ONE paragraph -/
example : (document asciiCls (fun _ => none) (['a'] ++ List.replicate 1 '\n')).toOption =
      some [⟨⟨0, 1⟩, .word⟩, ⟨⟨1, 2⟩, .newline 1⟩] ∧
    (document asciiCls (fun _ => none) ((['a'] ++ List.replicate 1 '\n') ++ ['b'])).toOption =
      some [⟨⟨0, 1⟩, .word⟩, ⟨⟨1, 2⟩, .newline 1⟩, ⟨⟨2, 3⟩, .word⟩] ∧
    iterParagraphs [(⟨⟨0, 1⟩, .word⟩ : Tok), ⟨⟨1, 2⟩, .newline 1⟩, ⟨⟨2, 3⟩, .word⟩] =
      [[⟨⟨0, 1⟩, .word⟩, ⟨⟨1, 2⟩, .newline 1⟩, ⟨⟨2, 3⟩, .word⟩]] := by decide +kernel

/-- non-vacuity of `condenseSpaces_translation`, `latin_stops_at_break`, `condenseSpaces_barrier` -/
example : latinPat ['e', 't', 'c', '.', '\n', '\n', 'a']
      ([⟨⟨0, 3⟩, .word⟩, ⟨⟨3, 4⟩, .punct .Period⟩] ++ ⟨⟨4, 6⟩, .paragraphBreak⟩ :: [⟨⟨6, 7⟩, .word⟩]) =
    latinPat ['e', 't', 'c', '.', '\n', '\n', 'a'] [⟨⟨0, 3⟩, .word⟩, ⟨⟨3, 4⟩, .punct .Period⟩] :=
  latin_stops_at_break _ ⟨⟨4, 6⟩, .paragraphBreak⟩ rfl [⟨⟨6, 7⟩, .word⟩] (by unfold InB; decide +kernel) _ (by unfold InB; decide +kernel)

example : condenseSpaces ([⟨⟨0, 1⟩, .space 1⟩, ⟨⟨1, 2⟩, .space 2⟩] ++ ⟨⟨2, 3⟩, .word⟩ :: [⟨⟨3, 4⟩, .space 1⟩, ⟨⟨4, 5⟩, .space 2⟩]) =
    condenseSpaces [⟨⟨0, 1⟩, .space 1⟩, ⟨⟨1, 2⟩, .space 2⟩] ++ ⟨⟨2, 3⟩, .word⟩ :: condenseSpaces [⟨⟨3, 4⟩, .space 1⟩, ⟨⟨4, 5⟩, .space 2⟩] :=
  condenseSpaces_barrier _ _ ⟨⟨2, 3⟩, .word⟩ rfl

/-! ## pieces -/

/-- paragraphs of two token vectors joined at a paragraph break -/
theorem iterParagraphs_append (A0 : List Tok) (brk : Tok) (hb : brk.kind.isParagraphBreak = true) (B : List Tok) :
    iterParagraphs ((A0 ++ [brk]) ++ B) =
      iterParagraphs (A0 ++ [brk]) ++ (if B.isEmpty then [] else iterParagraphs B) :=
  split_append _ brk hb A0 B

theorem isSentenceTerminator_of_break {k : Kind} (h : k.isParagraphBreak = true) : isSentenceTerminator k = true := by
  cases k <;> simp_all [Kind.isParagraphBreak, isSentenceTerminator]

theorem isChunkTerminator_of_break {k : Kind} (h : k.isParagraphBreak = true) : isChunkTerminator k = true := by
  simp [isChunkTerminator, isSentenceTerminator_of_break h]

/-- sentences never span a paragraph break -/
theorem iterSentences_append (A0 : List Tok) (brk : Tok) (hb : brk.kind.isParagraphBreak = true) (B : List Tok) :
    iterSentences ((A0 ++ [brk]) ++ B) =
      iterSentences (A0 ++ [brk]) ++ (if B.isEmpty then [] else iterSentences B) :=
  split_append _ brk (isSentenceTerminator_of_break hb) A0 B

/-- chunks never span a paragraph break -/
theorem iterChunks_append (A0 : List Tok) (brk : Tok) (hb : brk.kind.isParagraphBreak = true) (B : List Tok) :
    iterChunks ((A0 ++ [brk]) ++ B) =
      iterChunks (A0 ++ [brk]) ++ (if B.isEmpty then [] else iterChunks B) :=
  split_append _ brk (isChunkTerminator_of_break hb) A0 B

/-- an empty second text contributes no piece, whereas on its own it is one empty piece -/
example : iterParagraphs [] = [[]] := rfl

/-! ## rules -/

/-- the document of `P ++ D` is the document of `P` followed by the document of `D` moved by `|P|`
characters and `|tokens(P)|` token places (quote twins are token indices) -/
def DocAppend (tpd tp td : List Tok) (n : Nat) : Prop := tpd = tp ++ shiftDoc n tp.length td

/-- One paragraph-local rule. `tp` ends in a paragraph break and lies inside `P`; then the lints
on the whole are the lints on `P` followed by the lints on `D` shifted by `|P|` — exactly, in
order. (Also for rules run per sentence or per chunk: `lint_append_sentences`, `lint_append_chunks`.) -/
theorem lint_append (r : Rule) (hr : XLocal r) (P D : List Char) (A0 : List Tok) (brk : Tok)
    (hb : brk.kind.isParagraphBreak = true) (td tpd : List Tok)
    (hin : ∀ t ∈ A0 ++ [brk], t.span.stop ≤ P.length)
    (hdoc : DocAppend tpd (A0 ++ [brk]) td P.length) :
    lintBy iterParagraphs r (P ++ D) tpd =
      lintBy iterParagraphs r P (A0 ++ [brk]) ++ shiftLints P.length (lintBy iterParagraphs r D td) := by
  rw [hdoc]
  exact lintBy_append _ (fun j k => isParagraphBreak_shiftTwin j k) r hr P D A0 brk hb td hin

theorem lint_append_sentences (r : Rule) (hr : XLocal r) (P D : List Char) (A0 : List Tok) (brk : Tok)
    (hb : brk.kind.isParagraphBreak = true) (td tpd : List Tok)
    (hin : ∀ t ∈ A0 ++ [brk], t.span.stop ≤ P.length)
    (hdoc : DocAppend tpd (A0 ++ [brk]) td P.length) :
    lintBy iterSentences r (P ++ D) tpd =
      lintBy iterSentences r P (A0 ++ [brk]) ++ shiftLints P.length (lintBy iterSentences r D td) := by
  rw [hdoc]
  exact lintBy_append _ (fun j k => isSentenceTerminator_shiftTwin j k) r hr P D A0 brk
    (isSentenceTerminator_of_break hb) td hin

theorem lint_append_chunks (r : Rule) (hr : XLocal r) (P D : List Char) (A0 : List Tok) (brk : Tok)
    (hb : brk.kind.isParagraphBreak = true) (td tpd : List Tok)
    (hin : ∀ t ∈ A0 ++ [brk], t.span.stop ≤ P.length)
    (hdoc : DocAppend tpd (A0 ++ [brk]) td P.length) :
    lintBy iterChunks r (P ++ D) tpd =
      lintBy iterChunks r P (A0 ++ [brk]) ++ shiftLints P.length (lintBy iterChunks r D td) := by
  rw [hdoc]
  exact lintBy_append _ (fun j k => isChunkTerminator_shiftTwin j k) r hr P D A0 brk
    (isChunkTerminator_of_break hb) td hin

/-- a whole group of paragraph-local rules: the same lints; only the interleaving of the
rule-by-rule concatenation differs -/
theorem lintGroup_append (rs : List Rule) (hrs : ∀ r ∈ rs, XLocal r) (P D : List Char) (A0 : List Tok)
    (brk : Tok) (hb : brk.kind.isParagraphBreak = true) (td tpd : List Tok)
    (hin : ∀ t ∈ A0 ++ [brk], t.span.stop ≤ P.length)
    (hdoc : DocAppend tpd (A0 ++ [brk]) td P.length) :
    (lintGroup iterParagraphs rs (P ++ D) tpd).Perm
      (lintGroup iterParagraphs rs P (A0 ++ [brk]) ++
        shiftLints P.length (lintGroup iterParagraphs rs D td)) :=
  lintGroup_append_perm _ rs _ _ _ _ _ _ _
    (fun r hr => lint_append r (hrs r hr) P D A0 brk hb td tpd hin hdoc)

/-- **C12 for one paragraph-local rule, end to end**: lexer, condensing passes, paragraph iterator
and rule composed, from conditions on the characters. `P = P0 ++ '\n'^k` (`k ≥ 2`) is a paragraph
followed by its break, free of quotation marks; `D` is any further text (not starting with a
newline). The lints on `P ++ D` are the lints on `P` followed by the lints on `D` moved by `|P|`.
Assumed, not proved: the url / e-mail / hostname lexers (`ExtOK`, `ExtLocal`, `ExtNoNl`) and
`XLocal r` (the rule). -/
theorem paragraphs_separately (cls : Cls) (hc : ClsOK cls) (P0 D : List Char) (k : Nat) (hk : 2 ≤ k)
    (hend : NoNlEnd P0) (hD : D.head? ≠ some '\n') (hq : NoQuoteChars (P0 ++ List.replicate k '\n'))
    (extP extD extPD : Ext) (hloc : ExtLocal extP extD extPD (P0 ++ List.replicate k '\n').length)
    (hokP : ExtOK extP (P0 ++ List.replicate k '\n').length) (hokD : ExtOK extD D.length)
    (hnl : ExtNoNl extP (P0 ++ List.replicate k '\n'))
    (r : Rule) (hr : XLocal r) :
    ∃ lp ld, lintDoc cls extP iterParagraphs r (P0 ++ List.replicate k '\n') = .ok lp ∧
      lintDoc cls extD iterParagraphs r D = .ok ld ∧
      lintDoc cls extPD iterParagraphs r ((P0 ++ List.replicate k '\n') ++ D) =
        .ok (lp ++ shiftLints (P0 ++ List.replicate k '\n').length ld) := by
  obtain ⟨A0, pb, td, hpb, eP, eD, ePD, hin⟩ :=
    document_append cls hc P0 D k hk hend hD hq extP extD extPD hloc hokP hokD hnl
  generalize P0 ++ List.replicate k '\n' = P at *
  have hbk : pb.kind.isParagraphBreak = true := by rw [hpb]; rfl
  have ePD' : document cls extPD (P ++ D) = .ok ((A0 ++ [pb]) ++ shiftDoc P.length (A0 ++ [pb]).length td) := ePD
  refine ⟨lintBy iterParagraphs r P (A0 ++ [pb]), lintBy iterParagraphs r D td, ?_, ?_, ?_⟩
  · exact lintDoc_ok eP _ _
  · exact lintDoc_ok eD _ _
  · rw [lintDoc_ok ePD', lint_append r hr P D A0 pb hbk td _ hin rfl]

/-- **C12 for a group of paragraph-local rules, end to end**: the lints of the group on `P ++ D`
are the lints on `P` together with the lints on `D` moved by `|P|` — the same lints; only the
interleaving of the rule-by-rule concatenation differs (`List.Perm`). -/
theorem paragraphs_separately_group (cls : Cls) (hc : ClsOK cls) (P0 D : List Char) (k : Nat) (hk : 2 ≤ k)
    (hend : NoNlEnd P0) (hD : D.head? ≠ some '\n') (hq : NoQuoteChars (P0 ++ List.replicate k '\n'))
    (extP extD extPD : Ext) (hloc : ExtLocal extP extD extPD (P0 ++ List.replicate k '\n').length)
    (hokP : ExtOK extP (P0 ++ List.replicate k '\n').length) (hokD : ExtOK extD D.length)
    (hnl : ExtNoNl extP (P0 ++ List.replicate k '\n'))
    (rs : List Rule) (hrs : ∀ r ∈ rs, XLocal r) :
    ∃ lp ld lpd, lintGroupDoc cls extP iterParagraphs rs (P0 ++ List.replicate k '\n') = .ok lp ∧
      lintGroupDoc cls extD iterParagraphs rs D = .ok ld ∧
      lintGroupDoc cls extPD iterParagraphs rs ((P0 ++ List.replicate k '\n') ++ D) = .ok lpd ∧
      lpd.Perm (lp ++ shiftLints (P0 ++ List.replicate k '\n').length ld) := by
  obtain ⟨A0, pb, td, hpb, eP, eD, ePD, hin⟩ :=
    document_append cls hc P0 D k hk hend hD hq extP extD extPD hloc hokP hokD hnl
  generalize P0 ++ List.replicate k '\n' = P at *
  have hbk : pb.kind.isParagraphBreak = true := by rw [hpb]; rfl
  have ePD' : document cls extPD (P ++ D) = .ok ((A0 ++ [pb]) ++ shiftDoc P.length (A0 ++ [pb]).length td) := ePD
  refine ⟨lintGroup iterParagraphs rs P (A0 ++ [pb]), lintGroup iterParagraphs rs D td,
    lintGroup iterParagraphs rs (P ++ D) ((A0 ++ [pb]) ++ shiftDoc P.length (A0 ++ [pb]).length td), ?_, ?_, ?_, ?_⟩
  · exact lintGroupDoc_ok eP _ _
  · exact lintGroupDoc_ok eD _ _
  · exact lintGroupDoc_ok ePD' _ _
  · exact lintGroup_append rs hrs P D A0 pb hbk td _ hin rfl

/-- `XLocal` is satisfiable by a rule that reports something: flag every one-character word -/
def shortWords : Rule := fun _ piece =>
  (piece.filter fun t => t.kind.isWord && t.span.len == 1).map fun t => ⟨t.span, 0⟩

theorem shortWords_xlocal : XLocal shortWords where
  nil := fun _ => rfl
  left := fun _ _ _ _ => rfl
  right := by
    intro P D piece j
    induction piece with
    | nil => rfl
    | cons t ts ih =>
      have hw : (shiftTwin j t.kind).isWord = t.kind.isWord := by
        cases t.kind <;> try rfl
        rename_i tw; cases tw <;> rfl
      have hl : (⟨t.span.start + P.length, t.span.stop + P.length⟩ : Span).len = t.span.len := by
        simp only [Span.len]; omega
      simp only [shortWords, shiftDoc, List.map_cons, List.filter_cons, hw, hl] at ih ⊢
      split
      · simp only [List.map_cons, shiftLints, List.cons.injEq, true_and]
        exact ih
      · exact ih

example : XLocal shortWords where
  nil := shortWords_xlocal.nil
  left := shortWords_xlocal.left
  right := shortWords_xlocal.right

/-- a rule that looks at the position in the whole text is not `XLocal` -/
example : ¬ XLocal (fun _ piece => piece.filterMap fun t => if t.span.start = 0 then some ⟨t.span, 0⟩ else none) := by
  intro h
  have := h.right ['a'] ['b'] [⟨⟨0, 1⟩, .word⟩] 0
  simp [shiftDoc, shiftLints, shiftTwin] at this

/-! ## non-vacuity of the theorems on pieces and rules -/

/-- non-vacuity of `iterParagraphs_append` / `iterSentences_append` / `iterChunks_append` (and of
`isSentenceTerminator_of_break`, `isChunkTerminator_of_break`): `a, b.¶¶` followed by `c. d` -/
example : iterChunks (([⟨⟨0, 1⟩, .word⟩, ⟨⟨1, 2⟩, .punct .Comma⟩, ⟨⟨2, 3⟩, .space 1⟩, ⟨⟨3, 4⟩, .word⟩, ⟨⟨4, 5⟩, .punct .Period⟩] ++
        [⟨⟨5, 7⟩, .paragraphBreak⟩]) ++ [⟨⟨7, 8⟩, .word⟩, ⟨⟨8, 9⟩, .punct .Period⟩, ⟨⟨9, 10⟩, .space 1⟩, ⟨⟨10, 11⟩, .word⟩]) =
    iterChunks ([⟨⟨0, 1⟩, .word⟩, ⟨⟨1, 2⟩, .punct .Comma⟩, ⟨⟨2, 3⟩, .space 1⟩, ⟨⟨3, 4⟩, .word⟩, ⟨⟨4, 5⟩, .punct .Period⟩] ++
        [⟨⟨5, 7⟩, .paragraphBreak⟩]) ++
      (if [(⟨⟨7, 8⟩, .word⟩ : Tok), ⟨⟨8, 9⟩, .punct .Period⟩, ⟨⟨9, 10⟩, .space 1⟩, ⟨⟨10, 11⟩, .word⟩].isEmpty then []
        else iterChunks [⟨⟨7, 8⟩, .word⟩, ⟨⟨8, 9⟩, .punct .Period⟩, ⟨⟨9, 10⟩, .space 1⟩, ⟨⟨10, 11⟩, .word⟩]) :=
  iterChunks_append _ ⟨⟨5, 7⟩, .paragraphBreak⟩ rfl _

example : (iterParagraphs (([⟨⟨0, 1⟩, .word⟩, ⟨⟨1, 2⟩, .punct .Comma⟩, ⟨⟨2, 3⟩, .space 1⟩, ⟨⟨3, 4⟩, .word⟩, ⟨⟨4, 5⟩, .punct .Period⟩] ++
        [⟨⟨5, 7⟩, .paragraphBreak⟩]) ++ [⟨⟨7, 8⟩, .word⟩, ⟨⟨8, 9⟩, .punct .Period⟩, ⟨⟨9, 10⟩, .space 1⟩, ⟨⟨10, 11⟩, .word⟩])).length = 2 ∧
    (iterSentences (([⟨⟨0, 1⟩, .word⟩, ⟨⟨1, 2⟩, .punct .Comma⟩, ⟨⟨2, 3⟩, .space 1⟩, ⟨⟨3, 4⟩, .word⟩, ⟨⟨4, 5⟩, .punct .Period⟩] ++
        [⟨⟨5, 7⟩, .paragraphBreak⟩]) ++ [⟨⟨7, 8⟩, .word⟩, ⟨⟨8, 9⟩, .punct .Period⟩, ⟨⟨9, 10⟩, .space 1⟩, ⟨⟨10, 11⟩, .word⟩])).length = 4 ∧
    (iterChunks (([⟨⟨0, 1⟩, .word⟩, ⟨⟨1, 2⟩, .punct .Comma⟩, ⟨⟨2, 3⟩, .space 1⟩, ⟨⟨3, 4⟩, .word⟩, ⟨⟨4, 5⟩, .punct .Period⟩] ++
        [⟨⟨5, 7⟩, .paragraphBreak⟩]) ++ [⟨⟨7, 8⟩, .word⟩, ⟨⟨8, 9⟩, .punct .Period⟩, ⟨⟨9, 10⟩, .space 1⟩, ⟨⟨10, 11⟩, .word⟩])).length = 5 := by
  decide +kernel

/-- non-vacuity of `lint_append` / `lint_append_sentences` / `lint_append_chunks` / `lintGroup_append`: all four
hypotheses together on the documents of `a bc.¶¶` and `de f`, a rule that reports in BOTH paragraphs -/
example : lintBy iterParagraphs shortWords (['a', ' ', 'b', 'c', '.', '\n', '\n'] ++ ['d', 'e', ' ', 'f'])
      (([⟨⟨0, 1⟩, .word⟩, ⟨⟨1, 2⟩, .space 1⟩, ⟨⟨2, 4⟩, .word⟩, ⟨⟨4, 5⟩, .punct .Period⟩] ++ [⟨⟨5, 7⟩, .paragraphBreak⟩]) ++
        shiftDoc 7 5 [⟨⟨0, 2⟩, .word⟩, ⟨⟨2, 3⟩, .space 1⟩, ⟨⟨3, 4⟩, .word⟩]) =
    lintBy iterParagraphs shortWords ['a', ' ', 'b', 'c', '.', '\n', '\n']
        ([⟨⟨0, 1⟩, .word⟩, ⟨⟨1, 2⟩, .space 1⟩, ⟨⟨2, 4⟩, .word⟩, ⟨⟨4, 5⟩, .punct .Period⟩] ++ [⟨⟨5, 7⟩, .paragraphBreak⟩]) ++
      shiftLints 7 (lintBy iterParagraphs shortWords ['d', 'e', ' ', 'f'] [⟨⟨0, 2⟩, .word⟩, ⟨⟨2, 3⟩, .space 1⟩, ⟨⟨3, 4⟩, .word⟩]) :=
  lint_append shortWords shortWords_xlocal ['a', ' ', 'b', 'c', '.', '\n', '\n'] ['d', 'e', ' ', 'f'] _ ⟨⟨5, 7⟩, .paragraphBreak⟩ rfl
    [⟨⟨0, 2⟩, .word⟩, ⟨⟨2, 3⟩, .space 1⟩, ⟨⟨3, 4⟩, .word⟩] _ (by decide +kernel) rfl

/-- … the lints it speaks about: `a` at 0..1 in the first paragraph, `f` at 10..11 in the second -/
example : lintBy iterParagraphs shortWords (['a', ' ', 'b', 'c', '.', '\n', '\n'] ++ ['d', 'e', ' ', 'f'])
      (([⟨⟨0, 1⟩, .word⟩, ⟨⟨1, 2⟩, .space 1⟩, ⟨⟨2, 4⟩, .word⟩, ⟨⟨4, 5⟩, .punct .Period⟩] ++ [⟨⟨5, 7⟩, .paragraphBreak⟩]) ++
        shiftDoc 7 5 [⟨⟨0, 2⟩, .word⟩, ⟨⟨2, 3⟩, .space 1⟩, ⟨⟨3, 4⟩, .word⟩]) = [⟨⟨0, 1⟩, 0⟩, ⟨⟨10, 11⟩, 0⟩] := by decide +kernel

example : (lintGroup iterParagraphs [shortWords, shortWords] (['a', ' ', 'b', 'c', '.', '\n', '\n'] ++ ['d', 'e', ' ', 'f'])
      (([⟨⟨0, 1⟩, .word⟩, ⟨⟨1, 2⟩, .space 1⟩, ⟨⟨2, 4⟩, .word⟩, ⟨⟨4, 5⟩, .punct .Period⟩] ++ [⟨⟨5, 7⟩, .paragraphBreak⟩]) ++
        shiftDoc 7 5 [⟨⟨0, 2⟩, .word⟩, ⟨⟨2, 3⟩, .space 1⟩, ⟨⟨3, 4⟩, .word⟩])).Perm
    (lintGroup iterParagraphs [shortWords, shortWords] ['a', ' ', 'b', 'c', '.', '\n', '\n']
        ([⟨⟨0, 1⟩, .word⟩, ⟨⟨1, 2⟩, .space 1⟩, ⟨⟨2, 4⟩, .word⟩, ⟨⟨4, 5⟩, .punct .Period⟩] ++ [⟨⟨5, 7⟩, .paragraphBreak⟩]) ++
      shiftLints 7 (lintGroup iterParagraphs [shortWords, shortWords] ['d', 'e', ' ', 'f'] [⟨⟨0, 2⟩, .word⟩, ⟨⟨2, 3⟩, .space 1⟩, ⟨⟨3, 4⟩, .word⟩])) :=
  lintGroup_append [shortWords, shortWords] (by intro r hr; simp at hr; subst hr; exact shortWords_xlocal)
    ['a', ' ', 'b', 'c', '.', '\n', '\n'] ['d', 'e', ' ', 'f'] _ ⟨⟨5, 7⟩, .paragraphBreak⟩ rfl
    [⟨⟨0, 2⟩, .word⟩, ⟨⟨2, 3⟩, .space 1⟩, ⟨⟨3, 4⟩, .word⟩] _ (by decide +kernel) rfl

/-- the group's order really differs (why `lintGroup_append` is a permutation and not an equation): rule by rule
on the whole is `P D P D`, separately it is `P P D D` -/
example : lintGroup iterParagraphs [shortWords, shortWords] (['a', ' ', 'b', 'c', '.', '\n', '\n'] ++ ['d', 'e', ' ', 'f'])
      (([⟨⟨0, 1⟩, .word⟩, ⟨⟨1, 2⟩, .space 1⟩, ⟨⟨2, 4⟩, .word⟩, ⟨⟨4, 5⟩, .punct .Period⟩] ++ [⟨⟨5, 7⟩, .paragraphBreak⟩]) ++
        shiftDoc 7 5 [⟨⟨0, 2⟩, .word⟩, ⟨⟨2, 3⟩, .space 1⟩, ⟨⟨3, 4⟩, .word⟩]) =
      [⟨⟨0, 1⟩, 0⟩, ⟨⟨10, 11⟩, 0⟩, ⟨⟨0, 1⟩, 0⟩, ⟨⟨10, 11⟩, 0⟩] := by decide +kernel

/-- non-vacuity of `paragraphs_separately`: every hypothesis together, from the CHARACTERS `a bc.¶¶` and `de f`
(real words in both, lints in both), the theorem applied -/
example : ∃ lp ld, lintDoc asciiCls (fun _ => none) iterParagraphs shortWords (['a', ' ', 'b', 'c', '.'] ++ List.replicate 2 '\n') = .ok lp ∧
    lintDoc asciiCls (fun _ => none) iterParagraphs shortWords ['d', 'e', ' ', 'f'] = .ok ld ∧
    lintDoc asciiCls (fun _ => none) iterParagraphs shortWords ((['a', ' ', 'b', 'c', '.'] ++ List.replicate 2 '\n') ++ ['d', 'e', ' ', 'f']) =
      .ok (lp ++ shiftLints (['a', ' ', 'b', 'c', '.'] ++ List.replicate 2 '\n').length ld) :=
  paragraphs_separately asciiCls asciiCls_clsOK ['a', ' ', 'b', 'c', '.'] ['d', 'e', ' ', 'f'] 2 (by decide +kernel) (by decide +kernel) (by decide +kernel)
    (by decide +kernel) _ _ _ ⟨fun _ _ => rfl, fun _ => rfl⟩ (fun _ _ _ h => by cases h) (fun _ _ _ h => by cases h)
    (fun _ _ _ h => by cases h) shortWords shortWords_xlocal

/-- … and the three lint lists it speaks about, computed: one lint in each paragraph -/
example : (lintDoc asciiCls (fun _ => none) iterParagraphs shortWords (['a', ' ', 'b', 'c', '.'] ++ List.replicate 2 '\n')).toOption = some [⟨⟨0, 1⟩, 0⟩] ∧
    (lintDoc asciiCls (fun _ => none) iterParagraphs shortWords ['d', 'e', ' ', 'f']).toOption = some [⟨⟨3, 4⟩, 0⟩] ∧
    (lintDoc asciiCls (fun _ => none) iterParagraphs shortWords
      ((['a', ' ', 'b', 'c', '.'] ++ List.replicate 2 '\n') ++ ['d', 'e', ' ', 'f'])).toOption = some [⟨⟨0, 1⟩, 0⟩, ⟨⟨10, 11⟩, 0⟩] := by decide +kernel

/-- non-vacuity of `paragraphs_separately_group` on the same texts -/
example : ∃ lp ld lpd, lintGroupDoc asciiCls (fun _ => none) iterParagraphs [shortWords, shortWords] (['a', ' ', 'b', 'c', '.'] ++ List.replicate 2 '\n') = .ok lp ∧
    lintGroupDoc asciiCls (fun _ => none) iterParagraphs [shortWords, shortWords] ['d', 'e', ' ', 'f'] = .ok ld ∧
    lintGroupDoc asciiCls (fun _ => none) iterParagraphs [shortWords, shortWords]
      ((['a', ' ', 'b', 'c', '.'] ++ List.replicate 2 '\n') ++ ['d', 'e', ' ', 'f']) = .ok lpd ∧
    lpd.Perm (lp ++ shiftLints (['a', ' ', 'b', 'c', '.'] ++ List.replicate 2 '\n').length ld) :=
  paragraphs_separately_group asciiCls asciiCls_clsOK ['a', ' ', 'b', 'c', '.'] ['d', 'e', ' ', 'f'] 2 (by decide +kernel) (by decide +kernel) (by decide +kernel)
    (by decide +kernel) _ _ _ ⟨fun _ _ => rfl, fun _ => rfl⟩ (fun _ _ _ h => by cases h) (fun _ _ _ h => by cases h)
    (fun _ _ _ h => by cases h) _ (by intro r hr; simp at hr; subst hr; exact shortWords_xlocal)

/-! ## "editing one paragraph never changes, moves or hides a lint in another paragraph" -/

/-- **The second sentence of C12, for a paragraph-local rule.** Two texts with the same continuation `D` behind
different first paragraphs `P`, `P'`: both report exactly the SAME lints `ld` for `D` (those of `D` checked alone),
moved by `|P|` resp. `|P'|` — none changed, none hidden, none added, and moved only by the change of length. -/
theorem edit_first_paragraph (cls : Cls) (hc : ClsOK cls) (P0 P0' D : List Char) (k k' : Nat) (hk : 2 ≤ k) (hk' : 2 ≤ k')
    (hend : NoNlEnd P0) (hend' : NoNlEnd P0') (hD : D.head? ≠ some '\n')
    (hq : NoQuoteChars (P0 ++ List.replicate k '\n')) (hq' : NoQuoteChars (P0' ++ List.replicate k' '\n'))
    (extP extP' extD extPD extPD' : Ext)
    (hloc : ExtLocal extP extD extPD (P0 ++ List.replicate k '\n').length)
    (hloc' : ExtLocal extP' extD extPD' (P0' ++ List.replicate k' '\n').length)
    (hokP : ExtOK extP (P0 ++ List.replicate k '\n').length) (hokP' : ExtOK extP' (P0' ++ List.replicate k' '\n').length)
    (hokD : ExtOK extD D.length)
    (hnl : ExtNoNl extP (P0 ++ List.replicate k '\n')) (hnl' : ExtNoNl extP' (P0' ++ List.replicate k' '\n'))
    (r : Rule) (hr : XLocal r) :
    ∃ lp lp' ld, lintDoc cls extD iterParagraphs r D = .ok ld ∧
      lintDoc cls extP iterParagraphs r (P0 ++ List.replicate k '\n') = .ok lp ∧
      lintDoc cls extP' iterParagraphs r (P0' ++ List.replicate k' '\n') = .ok lp' ∧
      lintDoc cls extPD iterParagraphs r ((P0 ++ List.replicate k '\n') ++ D) =
        .ok (lp ++ shiftLints (P0 ++ List.replicate k '\n').length ld) ∧
      lintDoc cls extPD' iterParagraphs r ((P0' ++ List.replicate k' '\n') ++ D) =
        .ok (lp' ++ shiftLints (P0' ++ List.replicate k' '\n').length ld) := by
  obtain ⟨lp, ld, e1, e2, e3⟩ := paragraphs_separately cls hc P0 D k hk hend hD hq extP extD extPD hloc hokP hokD hnl r hr
  obtain ⟨lp', ld', e1', e2', e3'⟩ :=
    paragraphs_separately cls hc P0' D k' hk' hend' hD hq' extP' extD extPD' hloc' hokP' hokD hnl' r hr
  rw [e2] at e2'
  cases e2'
  exact ⟨lp, lp', ld, e2, e1, e1', e3, e3'⟩

/-- … and the other way round: changing the text AFTER the paragraph break changes no lint of the first
paragraph, not even its place. -/
theorem edit_later_text (cls : Cls) (hc : ClsOK cls) (P0 D D' : List Char) (k : Nat) (hk : 2 ≤ k)
    (hend : NoNlEnd P0) (hD : D.head? ≠ some '\n') (hD' : D'.head? ≠ some '\n')
    (hq : NoQuoteChars (P0 ++ List.replicate k '\n'))
    (extP extD extD' extPD extPD' : Ext)
    (hloc : ExtLocal extP extD extPD (P0 ++ List.replicate k '\n').length)
    (hloc' : ExtLocal extP extD' extPD' (P0 ++ List.replicate k '\n').length)
    (hokP : ExtOK extP (P0 ++ List.replicate k '\n').length) (hokD : ExtOK extD D.length) (hokD' : ExtOK extD' D'.length)
    (hnl : ExtNoNl extP (P0 ++ List.replicate k '\n'))
    (r : Rule) (hr : XLocal r) :
    ∃ lp ld ld', lintDoc cls extP iterParagraphs r (P0 ++ List.replicate k '\n') = .ok lp ∧
      lintDoc cls extD iterParagraphs r D = .ok ld ∧ lintDoc cls extD' iterParagraphs r D' = .ok ld' ∧
      lintDoc cls extPD iterParagraphs r ((P0 ++ List.replicate k '\n') ++ D) =
        .ok (lp ++ shiftLints (P0 ++ List.replicate k '\n').length ld) ∧
      lintDoc cls extPD' iterParagraphs r ((P0 ++ List.replicate k '\n') ++ D') =
        .ok (lp ++ shiftLints (P0 ++ List.replicate k '\n').length ld') := by
  obtain ⟨lp, ld, e1, e2, e3⟩ := paragraphs_separately cls hc P0 D k hk hend hD hq extP extD extPD hloc hokP hokD hnl r hr
  obtain ⟨lp', ld', e1', e2', e3'⟩ :=
    paragraphs_separately cls hc P0 D' k hk hend hD' hq extP extD' extPD' hloc' hokP hokD' hnl r hr
  rw [e1] at e1'
  cases e1'
  exact ⟨lp, ld, ld', e1, e2, e2', e3, e3'⟩

/-- non-vacuity of `edit_first_paragraph`: `a bc.¶¶` edited to `x y z.¶¶¶`, the continuation `de f` unchanged —
its lint `f` is reported at 10..11 before and at 13..14 after the edit (moved by the change of length, 3) -/
example : (lintDoc asciiCls (fun _ => none) iterParagraphs shortWords
      ((['a', ' ', 'b', 'c', '.'] ++ List.replicate 2 '\n') ++ ['d', 'e', ' ', 'f'])).toOption = some [⟨⟨0, 1⟩, 0⟩, ⟨⟨10, 11⟩, 0⟩] ∧
    (lintDoc asciiCls (fun _ => none) iterParagraphs shortWords
      ((['x', ' ', 'y', ' ', 'z', 'w', '.'] ++ List.replicate 3 '\n') ++ ['d', 'e', ' ', 'f'])).toOption =
      some [⟨⟨0, 1⟩, 0⟩, ⟨⟨2, 3⟩, 0⟩, ⟨⟨13, 14⟩, 0⟩] := by decide +kernel

example : ∃ lp lp' ld, lintDoc asciiCls (fun _ => none) iterParagraphs shortWords ['d', 'e', ' ', 'f'] = .ok ld ∧
    lintDoc asciiCls (fun _ => none) iterParagraphs shortWords (['a', ' ', 'b', 'c', '.'] ++ List.replicate 2 '\n') = .ok lp ∧
    lintDoc asciiCls (fun _ => none) iterParagraphs shortWords (['x', ' ', 'y', ' ', 'z', 'w', '.'] ++ List.replicate 3 '\n') = .ok lp' ∧
    lintDoc asciiCls (fun _ => none) iterParagraphs shortWords ((['a', ' ', 'b', 'c', '.'] ++ List.replicate 2 '\n') ++ ['d', 'e', ' ', 'f']) =
      .ok (lp ++ shiftLints (['a', ' ', 'b', 'c', '.'] ++ List.replicate 2 '\n').length ld) ∧
    lintDoc asciiCls (fun _ => none) iterParagraphs shortWords ((['x', ' ', 'y', ' ', 'z', 'w', '.'] ++ List.replicate 3 '\n') ++ ['d', 'e', ' ', 'f']) =
      .ok (lp' ++ shiftLints (['x', ' ', 'y', ' ', 'z', 'w', '.'] ++ List.replicate 3 '\n').length ld) :=
  edit_first_paragraph asciiCls asciiCls_clsOK ['a', ' ', 'b', 'c', '.'] ['x', ' ', 'y', ' ', 'z', 'w', '.'] ['d', 'e', ' ', 'f'] 2 3
    (by decide +kernel) (by decide +kernel) (by decide +kernel) (by decide +kernel) (by decide +kernel) (by decide +kernel) (by decide +kernel)
    (fun _ => none) (fun _ => none) (fun _ => none) (fun _ => none) (fun _ => none)
    ⟨fun _ _ => rfl, fun _ => rfl⟩ ⟨fun _ _ => rfl, fun _ => rfl⟩ (fun _ _ _ h => by cases h) (fun _ _ _ h => by cases h)
    (fun _ _ _ h => by cases h) (fun _ _ _ h => by cases h) (fun _ _ _ h => by cases h) shortWords shortWords_xlocal

/-- non-vacuity of `edit_later_text`: `de f` edited to `g`: the first paragraph's lint stays at 0..1 -/
example : ∃ lp ld ld', lintDoc asciiCls (fun _ => none) iterParagraphs shortWords (['a', ' ', 'b', 'c', '.'] ++ List.replicate 2 '\n') = .ok lp ∧
    lintDoc asciiCls (fun _ => none) iterParagraphs shortWords ['d', 'e', ' ', 'f'] = .ok ld ∧
    lintDoc asciiCls (fun _ => none) iterParagraphs shortWords ['g'] = .ok ld' ∧
    lintDoc asciiCls (fun _ => none) iterParagraphs shortWords ((['a', ' ', 'b', 'c', '.'] ++ List.replicate 2 '\n') ++ ['d', 'e', ' ', 'f']) =
      .ok (lp ++ shiftLints (['a', ' ', 'b', 'c', '.'] ++ List.replicate 2 '\n').length ld) ∧
    lintDoc asciiCls (fun _ => none) iterParagraphs shortWords ((['a', ' ', 'b', 'c', '.'] ++ List.replicate 2 '\n') ++ ['g']) =
      .ok (lp ++ shiftLints (['a', ' ', 'b', 'c', '.'] ++ List.replicate 2 '\n').length ld') :=
  edit_later_text asciiCls asciiCls_clsOK ['a', ' ', 'b', 'c', '.'] ['d', 'e', ' ', 'f'] ['g'] 2
    (by decide +kernel) (by decide +kernel) (by decide +kernel) (by decide +kernel) (by decide +kernel) (fun _ => none) (fun _ => none) (fun _ => none) (fun _ => none) (fun _ => none)
    ⟨fun _ _ => rfl, fun _ => rfl⟩ ⟨fun _ _ => rfl, fun _ => rfl⟩ (fun _ _ _ h => by cases h) (fun _ _ _ h => by cases h)
    (fun _ _ _ h => by cases h) (fun _ _ _ h => by cases h) shortWords shortWords_xlocal

end Harper.C12
