import Harper.Lemmas.Effects
import Harper.Lemmas.ConfigPaths
/-!
# C10 — the text being checked never leaves the machine

Level `other`: an **effect-trace refinement validated by syscall tracing**. `Harper/Model/Effects.lean`
lists, per library entry point and per `harper-ls` handler, the effects it performs (read off the
code). The theorems below say what such traces can NOT contain; they are shallow by nature — they
hold because the list of effects is what it is. What ties the list to the code is the harness
(`harness/src/c10.rs`): the real library, the JS-facing `Linter` and the in-process language server
run in a child process under `strace -f`, and the traced network / file-modifying syscalls are
compared with the model's prediction for the same scenario.

The one piece with content is `file_dict_name`: for every document path the rewritten name is a
single path component, so the per-document dictionary file cannot be placed outside the configured
directory (compared with the real function on hostile paths on every run).

`AllowedWrite` names a child of the dictionary directory by ONE NORMAL component (the empty name,
`.` and `..` are out); `Eff.created` says what `create_dir_all` can create — every non-root prefix of
its argument — and `created_paths_confined` states the honest confinement: allowed writes, and
ANCESTORS of the configured directories (which lie outside them).
-/
namespace Harper.C10
open Harper.Effects

/-- **No network effect.** For every history of entry points, no effect is a connection, a name
resolution or a datagram; the only listening socket is `127.0.0.1:4000`, and only when the server
was started in TCP mode. (`HarperOpen` hands a URL to the desktop's opener — `spawnOpener` — which is
outside Harper and outside this property's reach; it is listed, not hidden.) -/
theorem no_network_effect (P : Paths) (h : List Entry) :
    ∀ e ∈ traceAll P h, e.isNetwork = false ∧
      (∀ ip port, e = .listen ip port → ip = [127, 0, 0, 1] ∧ port = 4000 ∧
        ∃ en ∈ h, en.isTcp = true) := by
  intro e he
  rcases mem_traceAll he with ⟨p, rfl⟩ | ⟨q, _, ⟨rfl, _⟩ | rfl | rfl⟩ | ⟨rfl | rfl, ht⟩ | ⟨url, rfl⟩
  · exact ⟨rfl, nofun⟩
  · exact ⟨rfl, nofun⟩
  · exact ⟨rfl, nofun⟩
  · exact ⟨rfl, nofun⟩
  · exact ⟨rfl, fun _ _ h => by cases h; exact ⟨rfl, rfl, ht⟩⟩
  · exact ⟨rfl, nofun⟩
  · exact ⟨rfl, nofun⟩

theorem written_saved (P : Paths) (h : List Entry) :
    ∀ e ∈ traceAll P h, ∀ p, e.written = some p → ∃ q, Saved P q ∧ (p = q ∨ p = parent q) := by
  intro e he p hp
  rcases mem_traceAll he with ⟨_, rfl⟩ | ⟨q, hq, ⟨rfl, _⟩ | rfl | rfl⟩ | ⟨rfl | rfl, _⟩ | ⟨_, rfl⟩
  · cases hp
  · exact ⟨q, hq, Or.inr (Option.some.inj hp).symm⟩
  · exact ⟨q, hq, Or.inl (Option.some.inj hp).symm⟩
  · exact ⟨q, hq, Or.inl (Option.some.inj hp).symm⟩
  · cases hp
  · cases hp
  · cases hp

/-- **Writes are confined.** Every path an effect creates, truncates, appends to or makes
directories for is the user dictionary (or its directory), the statistics file (or its directory),
or a per-document dictionary `file_dict_path.join(file_dict_name(doc))` (or its directory). -/
theorem writes_confined (P : Paths) (h : List Entry) :
    ∀ e ∈ traceAll P h, ∀ p, e.written = some p →
      p = P.userDict ∨ p = parent P.userDict ∨ p = P.stats ∨ p = parent P.stats ∨
      ∃ doc, p = fileDictPath P doc ∨ p = parent (fileDictPath P doc) := by
  intro e he p hp
  rcases written_saved P h e he p hp with ⟨q, rfl | rfl | ⟨doc, rfl⟩, rfl | rfl⟩
  · exact Or.inl rfl
  · exact Or.inr (Or.inl rfl)
  · exact Or.inr (Or.inr (Or.inl rfl))
  · exact Or.inr (Or.inr (Or.inr (Or.inl rfl)))
  · exact Or.inr (Or.inr (Or.inr (Or.inr ⟨doc, Or.inl rfl⟩)))
  · exact Or.inr (Or.inr (Or.inr (Or.inr ⟨doc, Or.inr rfl⟩)))

/-- **`file_dict_name` yields one path component**, for every document path: no `/`, not `.`, not
`..`; empty or ending in `%`. -/
theorem fileDictName_single_component (p : List Char) :
    '/' ∉ fileDictName p ∧ fileDictName p ≠ ['.', '.'] ∧ fileDictName p ≠ ['.'] ∧
    (fileDictName p = [] ∨ (fileDictName p).getLast? = some '%') :=
  Harper.Effects.fileDictName_single_component p

/-- so the join cannot leave the directory: the per-document dictionary is the directory itself
(empty name: the root path — creating it fails) or a direct child whose name is neither `..` nor
`.` -/
theorem fileDictPath_inside (P : Paths) (doc : List Char) :
    fileDictPath P doc = P.fileDir ∨
    ∃ n, n ≠ [] ∧ '/' ∉ n ∧ n ≠ ['.', '.'] ∧ n ≠ ['.'] ∧ fileDictPath P doc = P.fileDir ++ [n] :=
  Harper.Effects.fileDictPath_inside P doc

/-- **When the name is empty.** `file_dict_name` is `""` exactly for the root path (a path without
a normal component: `file:///`, and — after the URL parser has removed dot segments — `file:///.`,
`file:///..`, `file:///%2E`); the name `.` cannot occur at all (`fileDictName_single_component`). -/
theorem fileDictName_empty_iff_root (p : List Char) : fileDictName p = [] ↔ components p = [] :=
  Harper.Effects.fileDictName_empty_iff_root p

/-- `writes_confined_to_configured` with everything `file_dict_name` guarantees about the child's
name kept: non-empty, no `/`, neither `.` nor `..`, ending in `%`. -/
theorem writes_confined_to_configured_strong (P : Paths) (h : List Entry) :
    ∀ e ∈ traceAll P h, ∀ p, e.written = some p →
      p = P.userDict ∨ p = parent P.userDict ∨ p = P.stats ∨ p = parent P.stats ∨
      p = P.fileDir ∨ p = parent P.fileDir ∨
      ∃ n, n ≠ [] ∧ '/' ∉ n ∧ n ≠ ['.', '.'] ∧ n ≠ ['.'] ∧ n.getLast? = some '%' ∧ p = P.fileDir ++ [n] := by
  intro e he p hp
  rcases writes_confined P h e he p hp with h1 | h1 | h1 | h1 | ⟨doc, h1⟩
  · exact Or.inl h1
  · exact Or.inr (Or.inl h1)
  · exact Or.inr (Or.inr (Or.inl h1))
  · exact Or.inr (Or.inr (Or.inr (Or.inl h1)))
  · obtain ⟨hs, hdd, hd, hl⟩ := fileDictName_single_component doc
    rw [fileDictPath_eq] at h1
    by_cases he : fileDictName doc = []
    · rw [if_pos he] at h1
      exact Or.inr (Or.inr (Or.inr (Or.inr (h1.imp_right Or.inl))))
    · rw [if_neg he, parent, List.dropLast_concat] at h1
      rcases h1 with h1 | h1
      · exact Or.inr (Or.inr (Or.inr (Or.inr (Or.inr (Or.inr
          ⟨_, he, hs, hdd, hd, hl.resolve_left he, h1⟩)))))
      · exact Or.inr (Or.inr (Or.inr (Or.inr (Or.inl h1))))

/-- together: every written path is one of the three configured locations, a direct child of the
file-dictionary directory named by ONE NORMAL component (`NormalName`: not empty, no `/`, neither
`.` nor `..`), or the
directory containing one of them -/
theorem writes_confined_to_configured (P : Paths) (h : List Entry) :
    ∀ e ∈ traceAll P h, ∀ p, e.written = some p →
      p = P.userDict ∨ p = parent P.userDict ∨ p = P.stats ∨ p = parent P.stats ∨
      p = P.fileDir ∨ p = parent P.fileDir ∨ ∃ n, NormalName n ∧ p = P.fileDir ++ [n] := by
  intro e he p hp
  refine (writes_confined_to_configured_strong P h e he p hp).imp_right ?_
  refine Or.imp_right (Or.imp_right (Or.imp_right (Or.imp_right (Or.imp_right ?_))))
  exact fun ⟨n, h0, h1, h2, h3, _, hp⟩ => ⟨n, ⟨h0, h1, h3, h2⟩, hp⟩

/-! ### what `mkdirs` creates

`Eff.written` names ONE path per effect; `create_dir_all` makes more than one directory. -/

/-- **`create_dir_all` is only ever called for the parent of a NON-ROOT path** (`Path::parent()` of
`/` is `None`: `save_dict` / `save_stats` then make no directory at all), and only for the three
kinds of file the server writes. -/
theorem mkdirs_only_for_parent_of_nonroot (P : Paths) (h : List Entry) :
    ∀ e ∈ traceAll P h, ∀ d, e = .mkdirs d →
      ∃ q, q ≠ [] ∧ d = parent q ∧ (q = P.userDict ∨ q = P.stats ∨ ∃ doc, q = fileDictPath P doc) := by
  intro e he d hd
  rcases mem_traceAll he with ⟨_, rfl⟩ | ⟨q, hq, ⟨rfl, hne⟩ | rfl | rfl⟩ | ⟨rfl | rfl, _⟩ | ⟨_, rfl⟩
  · cases hd
  · cases hd; exact ⟨q, hne, rfl, hq⟩
  · cases hd
  · cases hd
  · cases hd
  · cases hd
  · cases hd

/-- the root path as a dictionary file: no `mkdir`, only the attempt to create `/` (which fails) -/
example : saveDictEff [] = [.createFile []] ∧ saveStatsEff [] = [.appendFile []] ∧
    saveDictEff [['d']] = [.mkdirs [], .createFile [['d']]] ∧ (Eff.mkdirs []).created = [] := by decide +kernel

/-- non-vacuity of `mkdirs_only_for_parent_of_nonroot`: a history with a `mkdirs` effect (the
shutdown's `create_dir_all` of the statistics file's directory), through the theorem -/
example : ∃ q, q ≠ [] ∧ [['d']] = parent q ∧
    (q = [['c'], ['u']] ∨ q = [['d'], ['s']] ∨ ∃ doc, q = fileDictPath ⟨[['c'], ['u']], [['d'], ['f']], [['d'], ['s']]⟩ doc) :=
  mkdirs_only_for_parent_of_nonroot ⟨[['c'], ['u']], [['d'], ['f']], [['d'], ['s']]⟩ [.startStdio, .shutdown]
    (.mkdirs [['d']]) (by decide +kernel) _ rfl

/-- what `mkdirs p` may create: exactly the non-root prefixes of `p` — `p` itself and its ancestors -/
theorem mkdirs_created (p q : Path) : q ∈ (Eff.mkdirs p).created ↔ q ≠ [] ∧ q <+: p :=
  mem_nonRootPrefixes

/-- `created` extends `written`: the written path is among the created ones, except that making
the root creates nothing -/
theorem written_mem_created (e : Eff) (p : Path) (h : e.written = some p) : p ∈ e.created ∨ p = [] := by
  cases e with
  | createFile q => simp [Eff.written] at h; subst h; left; simp [Eff.created]
  | appendFile q => simp [Eff.written] at h; subst h; left; simp [Eff.created]
  | mkdirs q =>
    simp [Eff.written] at h; subst h
    by_cases hp : q = []
    · exact Or.inr hp
    · exact Or.inl (self_mem_nonRootPrefixes hp)
  | _ => simp [Eff.written] at h

/-- **Everything created, ancestors included.** Every path an effect of any history may bring into
existence is one of the three kinds of file, or a NON-ROOT PREFIX of the directory containing the
user dictionary, of the directory containing the statistics file, or of the file-dictionary
directory: those directories themselves and their ancestors. The ancestors are OUTSIDE (above) the
configured directories — that is what `create_dir_all` does, and it is stated, not hidden. -/
theorem created_confined (P : Paths) (h : List Entry) :
    ∀ e ∈ traceAll P h, ∀ p ∈ e.created,
      p = P.userDict ∨ p = P.stats ∨ (∃ doc, p = fileDictPath P doc) ∨
      (p ≠ [] ∧ (p <+: parent P.userDict ∨ p <+: parent P.stats ∨ p <+: P.fileDir)) := by
  intro e he p hp
  have hfile : ∀ q, Saved P q → p = q →
      p = P.userDict ∨ p = P.stats ∨ (∃ doc, p = fileDictPath P doc) ∨
      (p ≠ [] ∧ (p <+: parent P.userDict ∨ p <+: parent P.stats ∨ p <+: P.fileDir)) := by
    rintro q (rfl | rfl | ⟨doc, rfl⟩) rfl
    · exact Or.inl rfl
    · exact Or.inr (Or.inl rfl)
    · exact Or.inr (Or.inr (Or.inl ⟨doc, rfl⟩))
  rcases mem_traceAll he with ⟨_, rfl⟩ | ⟨q, hq, ⟨rfl, _⟩ | rfl | rfl⟩ | ⟨rfl | rfl, _⟩ | ⟨_, rfl⟩
  · cases hp
  · obtain ⟨h0, hpre⟩ := mem_nonRootPrefixes.mp hp
    refine Or.inr (Or.inr (Or.inr ⟨h0, ?_⟩))
    rcases hq with rfl | rfl | ⟨doc, rfl⟩
    · exact Or.inl hpre
    · exact Or.inr (Or.inl hpre)
    · exact Or.inr (Or.inr (hpre.trans (parent_fileDictPath_prefix P doc)))
  · exact hfile q hq (List.mem_singleton.mp hp)
  · exact hfile q hq (List.mem_singleton.mp hp)
  · cases hp
  · cases hp
  · cases hp


/-! ### non-vacuity and hostile paths -/

def str (s : String) : List Char := s.toList

/-- `/a/../../etc/passwd` (what `..%2F..%2Fetc%2Fpasswd` decodes to) becomes ONE name -/
example : fileDictName ['/', 'a', '/', '.', '.', '/', '.', '.', '/', 'e', 't', 'c'] =
    ['a', '%', '.', '.', '%', '.', '.', '%', 'e', 't', 'c', '%'] := by decide +kernel

example : fileDictName ['/'] = [] := by decide +kernel
example : fileDictName ['/', '/', 'a', '/', '.', '/', 'b', '/'] = ['a', '%', 'b', '%'] := by decide +kernel

/-- a session that touches every kind of effect: the trace is non-empty, has two creations, one
append, three `mkdirs`, one listening socket, and nothing else that writes -/
example :
    let P : Paths := ⟨[['c'], ['u']], [['d'], ['f']], [['d'], ['s']]⟩
    let doc := ['/', 'h', '/', 'x']
    let h := [Entry.startTcp, .library, .wasm, .update doc false, .save doc true true, .addUser doc true false,
      .addFile doc false false, .configuration [(doc, true, false)], .ignoreLint, .close, .shutdown]
    ((traceAll P h).filterMap Eff.written) =
      [[['c']], [['c'], ['u']], [['d'], ['f']], [['d'], ['f'], ['h', '%', 'x', '%']], [['d']], [['d'], ['s']]] ∧
    (traceAll P h).contains (.listen [127, 0, 0, 1] 4000) = true := by
  decide +kernel

/-- `no_network_effect` is true BY CONSTRUCTION of `trace` (no entry point lists a `connect`,
`resolve` or `sendDatagram`; the content is the harness comparing `trace` with strace). What the
kernel does check: the predicate is not constantly false — the three network effects exist in `Eff`
and are recognised — and a trace that contains one is rejected. -/
example : (Eff.connect [93, 184, 216, 34] 443).isNetwork = true ∧ (Eff.resolve ['x']).isNetwork = true ∧
    (Eff.sendDatagram [8, 8, 8, 8] 53).isNetwork = true ∧
    ¬ ∀ e ∈ [Eff.accept, .connect [93, 184, 216, 34] 443], e.isNetwork = false := by decide +kernel

/-! ## from the configured STRING to the path that is written -/

theorem tilde_expands (home cwd : Path) (rest : List Char) :
    resolvePath home cwd ('~' :: '/' :: rest) = home ++ components rest := by
  simp [resolvePath, components_cons_slash]

theorem tilde_alone (home cwd : Path) : resolvePath home cwd ['~'] = home := by
  simp [resolvePath, components, splitSlash]

/-- an absolute path is its component list (only `//` and `.` disappear), whatever home and current
directory are -/
theorem absolute_unchanged (home cwd : Path) (p : List Char) :
    resolvePath home cwd ('/' :: p) = components p := by
  simp [resolvePath, components_cons_slash]

/-- the third case of `try_resolve`: anything that is neither absolute nor starts with the component
`~` is joined to the current directory (`~user/…` included) -/
theorem relative_joined (home cwd : Path) (p : List Char)
    (h1 : p.head? ≠ some '/') (h2 : p ≠ ['~']) (h3 : p.take 2 ≠ ['~', '/']) :
    resolvePath home cwd p = cwd ++ components p := by
  simp [resolvePath, h1, h2, h3]

example : resolvePath [['h']] [['w']] ['~', 'u', '/', 'x'] = [['w']] ++ components ['~', 'u', '/', 'x'] :=
  relative_joined _ _ _ (by decide +kernel) (by decide +kernel) (by decide +kernel)

/-- **Writes are confined to the RESOLVED configured paths.** For every environment, current
directory and settings object the server accepts, every path a handler creates, truncates, appends
to or makes directories for is: the resolution (`resolvePath`, i.e. `~` expanded, relative paths
joined to the current directory) of the configured `userDictPath`, or a default file
(`Config::default()`: user dictionary, statistics file), or the directory containing one of them;
or the resolution of the configured `fileDictPath` / `statsPath` (or the default dictionary
directory), its parent, or a direct child of it named by ONE NORMAL path component (`file_dict_name`). -/
theorem resolved_paths_confined (e : DirsEnv) (cwd : Path) (c : PathCfg) (P : Paths)
    (hP : fromLspConfig e cwd c = some P) (h : List Entry) :
    ∀ ev ∈ traceAll P h, ∀ p, ev.written = some p → AllowedWrite e cwd c p := by
  intro ev hev p hp
  obtain ⟨hUfile, hF, hS⟩ := fromLspConfig_fields hP
  have hSfile : ConfiguredFile e cwd c P.stats := Or.inr (Or.inl hS)
  rcases writes_confined_to_configured P h ev hev p hp with h1 | h1 | h1 | h1 | h1 | h1 | ⟨n, hn, h1⟩
  · exact Or.inl ⟨_, hUfile, Or.inl h1⟩
  · exact Or.inl ⟨_, hUfile, Or.inr h1⟩
  · exact Or.inl ⟨_, hSfile, Or.inl h1⟩
  · exact Or.inl ⟨_, hSfile, Or.inr h1⟩
  · exact Or.inr ⟨_, hF, Or.inl h1⟩
  · exact Or.inr ⟨_, hF, Or.inr (Or.inl h1)⟩
  · exact Or.inr ⟨_, hF, Or.inr (Or.inr ⟨n, hn, h1⟩)⟩

/-- **Created paths are confined — to the configured locations AND THEIR ANCESTORS.** For every
accepted configuration, every path any handler may bring into existence (`Eff.created`: files
created / appended to, and EVERY directory `create_dir_all` may make) is an allowed write, or a
non-root ancestor of an allowed root (the directory containing a configured file, or the configured
dictionary directory). The second alternative is real: missing ancestors of a configured directory
are created OUTSIDE it (see the example below: `/a` for `userDictPath = /a/b/d`). -/
theorem created_paths_confined (e : DirsEnv) (cwd : Path) (c : PathCfg) (P : Paths)
    (hP : fromLspConfig e cwd c = some P) (h : List Entry) :
    ∀ ev ∈ traceAll P h, ∀ p ∈ ev.created, AllowedCreate e cwd c p := by
  intro ev hev p hp
  obtain ⟨hUfile, hF, hS⟩ := fromLspConfig_fields hP
  have hSfile : ConfiguredFile e cwd c P.stats := Or.inr (Or.inl hS)
  rcases created_confined P h ev hev p hp with h1 | h1 | ⟨doc, h1⟩ | ⟨h0, h1 | h1 | h1⟩
  · exact Or.inl (Or.inl ⟨_, hUfile, Or.inl h1⟩)
  · exact Or.inl (Or.inl ⟨_, hSfile, Or.inl h1⟩)
  · rcases fileDictPath_inside P doc with h2 | ⟨n, hn0, hn1, hn2, hn3, h2⟩
    · exact Or.inl (Or.inr ⟨_, hF, Or.inl (by rw [h1, h2])⟩)
    · exact Or.inl (Or.inr ⟨_, hF, Or.inr (Or.inr ⟨n, ⟨hn0, hn1, hn3, hn2⟩, by rw [h1, h2]⟩)⟩)
  · exact Or.inr ⟨h0, _, Or.inl ⟨_, hUfile, rfl⟩, h1⟩
  · exact Or.inr ⟨h0, _, Or.inl ⟨_, hSfile, rfl⟩, h1⟩
  · exact Or.inr ⟨h0, _, Or.inr hF, h1⟩

/-- the same for what the DRIVER reports and the harness observes (`dirsCreated`, ops `effmk` /
`mkd`): every directory made on a file system with the directories `existing` is the `..`-resolved
form of an allowed creation, and was not there before -/
theorem dirs_created_confined (e : DirsEnv) (cwd : Path) (c : PathCfg) (P : Paths)
    (hP : fromLspConfig e cwd c = some P) (h : List Entry) (existing : List Path) :
    ∀ q ∈ dirsCreated existing (traceAll P h),
      (∃ p, AllowedCreate e cwd c p ∧ q = normDots [] p) ∧ q ≠ [] ∧ ∀ x ∈ existing, ¬ q <+: x := by
  intro q hq
  obtain ⟨⟨d, hd, r, hr, rfl⟩, hex⟩ := mem_dirsCreated hq
  exact ⟨⟨r, created_paths_confined e cwd c P hP h _ hd r hr, rfl⟩, hex⟩

/-! ### non-vacuity, the quirks, and why tilde expansion matters -/

def envH : DirsEnv := ⟨[['h']], none, none⟩
def cwdW : Path := [['w']]
/-- `{"userDictPath": "~/d", "fileDictPath": "r/f", "statsPath": "/a/s"}` -/
def cfgMixed : PathCfg :=
  ⟨some (.str ['~', '/', 'd']), some (.str ['r', '/', 'f']), some (.str ['/', 'a', '/', 's'])⟩

/-- accepted; `~/d` ↦ `/h/d`; the `statsPath` value wins the file-dictionary directory (quirk) and
the statistics file stays at its default -/
example : (fromLspConfig envH cwdW cfgMixed).map (fun P => (P.userDict, P.fileDir, P.stats)) =
    some ([['h'], ['d']], [['a'], ['s']], (defaultPaths envH).stats) := by
  decide +kernel

/-- non-vacuity of `resolved_paths_confined`: `cfgMixed` is accepted, the user-dictionary and
per-document-dictionary creations are in the trace, and the theorem (not evaluation) yields that
`/h/d` and `/a/s/x%` are allowed writes -/
example : ∃ P, fromLspConfig envH cwdW cfgMixed = some P ∧
    Eff.createFile [['h'], ['d']] ∈ traceAll P [.addUser ['/', 'x'] true false] ∧
    Eff.createFile [['a'], ['s'], ['x', '%']] ∈ traceAll P [.addFile ['/', 'x'] true false] ∧
    AllowedWrite envH cwdW cfgMixed [['h'], ['d']] ∧
    AllowedWrite envH cwdW cfgMixed [['a'], ['s'], ['x', '%']] :=
  ⟨_, rfl, by decide +kernel, by decide +kernel,
    resolved_paths_confined envH cwdW cfgMixed _ rfl [.addUser ['/', 'x'] true false]
      (.createFile [['h'], ['d']]) (by decide +kernel) _ rfl,
    resolved_paths_confined envH cwdW cfgMixed _ rfl [.addFile ['/', 'x'] true false]
      (.createFile [['a'], ['s'], ['x', '%']]) (by decide +kernel) _ rfl⟩

/-- relative ↦ below the current directory; `~user` is NOT expanded; an empty `userDictPath`
keeps the default but an empty `statsPath` makes the current directory the dictionary directory;
a non-string value rejects the configuration -/
example : resolvePath [['h']] [['w']] ['r', '/', '.', '/', 'f'] = [['w'], ['r'], ['f']] := by decide +kernel
example : resolvePath [['h']] [['w']] ['~', 'u', '/', 'x'] = [['w'], ['~', 'u'], ['x']] := by decide +kernel
example : resolvePath [['h']] [['w']] ['.', '.', '/', 'x'] = [['w'], ['.', '.'], ['x']] := by decide +kernel
example : (fromLspConfig envH cwdW ⟨some (.str []), none, some (.str [])⟩).map (fun P => (P.userDict, P.fileDir)) =
    some ((defaultPaths envH).userDict, [['w']]) := by decide +kernel
example : fromLspConfig envH cwdW ⟨none, some .other, none⟩ = none := by decide +kernel
/-- `dirs`: an XDG variable counts only when it is an absolute path -/
example : configDir ⟨[['h']], some ['/', 'x'], none⟩ = [['x']] ∧
    configDir ⟨[['h']], some ['x'], none⟩ = configDir ⟨[['h']], none, none⟩ ∧
    (configDir ⟨[['h']], none, none⟩).length = 2 := by decide +kernel

/-- **A resolver that does not expand `~` breaks confinement.** With `"userDictPath": "~/d"`, home
`/h`, current directory `/w`: `std::path::absolute`-style resolution yields `/w/~/d`; a server using
it creates that file on `HarperAddToUserDict` (first conjunct: it is in the trace), and that path
is NOT an allowed write for this configuration (second conjunct) — the configured dictionary
`/h/d` is (third). -/
example :
    let c : PathCfg := ⟨some (.str ['~', '/', 'd']), none, none⟩
    let bad := absoluteOnly cwdW ['~', '/', 'd']
    let P' : Paths := { defaultPaths envH with userDict := bad }
    Eff.createFile [['w'], ['~'], ['d']] ∈ trace P' (.addUser ['/', 'x'] false false) ∧
    ¬ AllowedWrite envH cwdW c bad ∧
    AllowedWrite envH cwdW c [['h'], ['d']] := by
  refine ⟨by decide +kernel, ?_, ?_⟩
  · intro h
    rcases h with ⟨q, hq, hp⟩ | ⟨d, hd, hp⟩
    · rcases hq with rfl | rfl | ⟨s, hs, rfl⟩
      · revert hp; decide +kernel
      · revert hp; decide +kernel
      · simp at hs; subst hs; revert hp; decide +kernel
    · rcases hd with rfl | ⟨s, hs, rfl⟩
      · rcases hp with hp | hp | ⟨n, _, hp⟩
        · revert hp; decide +kernel
        · revert hp; decide +kernel
        · have := congrArg List.length hp
          simp [absoluteOnly, cwdW, components, splitSlash, defaultPaths, dataDir, xdgOr, envH] at this
      · simp at hs
  · exact Or.inl ⟨[['h'], ['d']], Or.inr (Or.inr ⟨['~', '/', 'd'], rfl, by decide +kernel⟩), Or.inl rfl⟩


/-! ### `AllowedWrite` admits only normal names; ancestors are created outside -/

/-- `{"userDictPath": "/a/b/d"}` -/
def cfgDeep : PathCfg := ⟨some (.str ['/', 'a', '/', 'b', '/', 'd']), none, none⟩

/-- **`AllowedWrite` admits only normal names**: below the (default) dictionary directory `d`, the
paths `d ++ [""]`, `d ++ ["."]` and `d ++ [".."]` are NOT allowed writes, a child with a normal name is. -/
example :
    let d := (defaultPaths envH).fileDir
    ¬ AllowedWrite envH cwdW cfgDeep (d ++ [[]]) ∧ ¬ AllowedWrite envH cwdW cfgDeep (d ++ [['.']]) ∧
    ¬ AllowedWrite envH cwdW cfgDeep (d ++ [['.', '.']]) ∧ AllowedWrite envH cwdW cfgDeep (d ++ [['x', '%']]) := by
  have key : ∀ n, ¬ NormalName n → ¬ AllowedWrite envH cwdW cfgDeep ((defaultPaths envH).fileDir ++ [n]) := by
    intro n hn h
    rcases h with ⟨q, hq, hp⟩ | ⟨d, hd, hp⟩
    · have hl : q.length ≤ 5 := by
        rcases hq with rfl | rfl | ⟨s, hs, rfl⟩
        · decide +kernel
        · decide +kernel
        · simp [cfgDeep] at hs; subst hs; decide +kernel
      have h6 : ((defaultPaths envH).fileDir ++ [n]).length = 6 := by
        simp [defaultPaths, dataDir, xdgOr, envH]
      rcases hp with hp | hp
      · rw [hp] at h6; omega
      · rw [hp] at h6; simp [parent] at h6; omega
    · rcases hd with rfl | ⟨s, hs, rfl⟩
      · rcases hp with hp | hp | ⟨m, hm, hp⟩
        · have := congrArg List.length hp; simp at this
        · have := congrArg List.length hp; simp [parent] at this; omega
        · have := List.append_cancel_left hp
          simp at this; subst this; exact hn hm
      · simp [cfgDeep] at hs
  refine ⟨key _ (by simp [NormalName]), key _ (by simp [NormalName]), key _ (by simp [NormalName]), ?_⟩
  exact Or.inr ⟨_, Or.inl rfl, Or.inr (Or.inr ⟨['x', '%'], by simp [NormalName], rfl⟩)⟩

/-- **Ancestors are created outside the configured directory** — non-vacuity of
`created_paths_confined` and the honest half of its statement. `userDictPath = /a/b/d`: the
configuration is accepted; `HarperAddToUserDict` makes `create_dir_all(/a/b)`, which may create `/a`
and `/a/b` (both in `created`); `/a/b` is an allowed write (the directory containing the
dictionary), `/a` is NOT — it is an allowed CREATION only as an ancestor; the theorem yields both.
On a machine where `/a` is missing and `/h` exists, the driver's `dirsCreated` lists `/a`, `/a/b`. -/
example : ∃ P, fromLspConfig envH cwdW cfgDeep = some P ∧
    Eff.mkdirs [['a'], ['b']] ∈ traceAll P [.addUser ['/', 'x'] true false] ∧
    (Eff.mkdirs [['a'], ['b']]).created = [[['a']], [['a'], ['b']]] ∧
    AllowedWrite envH cwdW cfgDeep [['a'], ['b']] ∧ ¬ AllowedWrite envH cwdW cfgDeep [['a']] ∧
    AllowedCreate envH cwdW cfgDeep [['a']] ∧
    dirsCreated [[['h']]] (traceAll P [.addUser ['/', 'x'] true false]) = [[['a']], [['a'], ['b']]] ∧
    dirsCreated [[['a']]] (traceAll P [.addUser ['/', 'x'] true false]) = [[['a'], ['b']]] := by
  refine ⟨_, rfl, by decide +kernel, by decide +kernel, ?_, ?_, ?_, by decide +kernel, by decide +kernel⟩
  · exact Or.inl ⟨[['a'], ['b'], ['d']], Or.inr (Or.inr ⟨_, rfl, by decide +kernel⟩), Or.inr (by decide +kernel)⟩
  · intro h
    rcases h with ⟨q, hq, hp⟩ | ⟨d, hd, hp⟩
    · rcases hq with rfl | rfl | ⟨s, hs, rfl⟩
      · revert hp; decide +kernel
      · revert hp; decide +kernel
      · simp [cfgDeep] at hs; subst hs; revert hp; decide +kernel
    · rcases hd with rfl | ⟨s, hs, rfl⟩
      · rcases hp with hp | hp | ⟨n, _, hp⟩
        · revert hp; decide +kernel
        · revert hp; decide +kernel
        · have := congrArg List.length hp
          simp [defaultPaths, dataDir, xdgOr, envH] at this
      · simp [cfgDeep] at hs
  · exact created_paths_confined envH cwdW cfgDeep _ rfl [.addUser ['/', 'x'] true false]
      (.mkdirs [['a'], ['b']]) (by decide +kernel) _ (by decide +kernel)

/-- `..` in a configured path: `create_dir_all(/w/../s/f)` makes `/w` (if missing), then — through
`/w/..`, the root — `/s` and `/s/f`; lexical resolution is what the kernel does here because every
component before a `..` has just been made a real directory -/
example : dirsCreated [[['w']]] [.mkdirs [['w'], ['.', '.'], ['s'], ['f']]] = [[['s']], [['s'], ['f']]] ∧
    dirsCreated [] [.mkdirs [['w'], ['.', '.'], ['s']]] = [[['w']], [['s']]] := by decide +kernel

/-- `file_dict_name` of the root path and of paths that have no normal component is empty, of
anything else not; `.` never comes out -/
example : fileDictName ['/'] = [] ∧ fileDictName ['/', '.', '/', '/', '.'] = [] ∧
    fileDictName ['/', '.', '.'] = ['.', '.', '%'] ∧ fileDictName ['/', '.', 'a'] = ['.', 'a', '%'] := by decide +kernel

end Harper.C10
