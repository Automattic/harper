import Harper.Lemmas.Spell
import Harper.Lemmas.SpellRule
import Harper.Props.C02b
/-!
# C06 — a word is reported misspelt exactly when the dictionary does not contain it

Decision logic of `SpellCheck::lint` over any dictionary whose keys are unique (the word map is a
hash map keyed by the lower-cased normalized spelling, so this holds by construction), for any
`lower` / `normalize` functions satisfying the stated laws (monitored on every word seen).
Lexing of the word (which characters form one `Word` token) is C02's business; two classes of
dictionary entries the lexer cannot produce as one token are recorded findings.
-/
namespace Harper.C06
open Harper.Spell

/-- a listed word, in its listed (normalized) capitalisation and admitted by the dialect, is never reported — for ANY
pair of `lower` / `normalize` functions (no `Laws`: the exact-spelling path of `accept` compares the entry with itself) -/
theorem listed_accepted_any_fns (f : Fns) (dict : List Entry) (hu : UniqueKeys f dict)
    (e : Entry) (he : e ∈ dict) (hd : e.dialectOk = true) (hn : f.normalize e.canon = e.canon) :
    accept f dict e.canon = true := by
  have h1 : lookup f dict e.canon = some e := lookup_of_mem f dict hu e he _ rfl
  simp [accept, h1, hd, containsExact, hn]

/-- a listed word, in its listed (normalized) capitalisation and admitted by the dialect, is
never reported -/
theorem listed_accepted (f : Fns) (_hl : Laws f) (dict : List Entry) (hu : UniqueKeys f dict)
    (e : Entry) (he : e ∈ dict) (hd : e.dialectOk = true) (hn : f.normalize e.canon = e.canon) :
    accept f dict e.canon = true :=
  listed_accepted_any_fns f dict hu e he hd hn

/-- an accepted word's key is an entry's key (nothing outside the dictionary is accepted) -/
theorem accepted_is_listed (f : Fns) (dict : List Entry) (w : List Char)
    (h : accept f dict w = true) : ∃ e ∈ dict, key f e.canon = key f w ∧ e.dialectOk = true := by
  unfold accept at h
  split at h
  · rename_i e he
    rw [Bool.and_eq_true] at h
    exact ⟨e, (lookup_some he).1, (lookup_some he).2, h.1⟩
  · cases h

/-- **Exact characterisation of the decision** (both directions at once, for every word — listed or
not): under `Laws` and `UniqueKeys`, `w` is accepted iff some entry has `w`'s key, admits the
dialect, and its listed spelling is the normalized `w` or the normalized lower-cased `w`.
Hence: a key no entry has ⇒ reported (`unlisted_flagged`); and a word whose key IS listed is still
reported when the dialect excludes it or the capitalisation is neither the listed one nor an
upper-casing of it (`paris` against `Paris`). -/
theorem accept_iff (f : Fns) (hl : Laws f) (dict : List Entry) (hu : UniqueKeys f dict)
    (w : List Char) :
    accept f dict w = true ↔
      ∃ e ∈ dict, key f e.canon = key f w ∧ e.dialectOk = true ∧
        (e.canon = f.normalize w ∨ e.canon = f.normalize (f.lower w)) := by
  have hk1 : key f (f.normalize w) = key f w := by simp [key, hl.norm_idem]
  have hk2 : key f (f.normalize (f.lower w)) = key f w := by
    rw [← hl.key_lower w]; simp [key, hl.norm_idem]
  have e1 : lookup f dict (f.normalize w) = lookup f dict w := by simp [lookup, hk1]
  have e2 : lookup f dict (f.normalize (f.lower w)) = lookup f dict w := by simp [lookup, hk2]
  constructor
  · intro h
    unfold accept at h
    split at h
    · rename_i e he
      simp only [containsExact, e1, e2, he, Bool.and_eq_true, Bool.or_eq_true, beq_iff_eq] at h
      exact ⟨e, (lookup_some he).1, (lookup_some he).2, h.1, h.2⟩
    · cases h
  · rintro ⟨e, he, hk, hd, hc⟩
    have h1 : lookup f dict w = some e := lookup_of_mem f dict hu e he w hk.symm
    simp only [accept, h1, containsExact, e1, e2, hd, Bool.true_and, Bool.or_eq_true, beq_iff_eq]
    exact hc

/-- a word whose key no entry has is reported -/
theorem unlisted_flagged (f : Fns) (dict : List Entry) (w : List Char)
    (h : ∀ e ∈ dict, key f e.canon ≠ key f w) : accept f dict w = false :=
  Bool.eq_false_iff.mpr fun ha =>
    let ⟨e, he, hk, _⟩ := accepted_is_listed f dict w ha
    h e he hk

/-- a capitalised / upper-case form `w` of a lower-case entry (`lower w = e.canon`) is accepted -/
theorem capitalised_accepted (f : Fns) (hl : Laws f) (dict : List Entry) (hu : UniqueKeys f dict)
    (e : Entry) (he : e ∈ dict) (hd : e.dialectOk = true) (hn : f.normalize e.canon = e.canon)
    (w : List Char) (hw : f.lower w = e.canon) : accept f dict w = true :=
  (accept_iff f hl dict hu w).mpr ⟨e, he, by rw [← hl.key_lower w, hw], hd, .inr (by rw [hw, hn])⟩

/-- every suggestion is an entry of the active dialect, up to upper-casing its first letter;
at most three are offered -/
theorem suggestions_are_words (f : Fns) (dict : List Entry) (fuzzy : List (List Char))
    (cap : Bool) (up : List Char → List Char) :
    (suggestions f dict fuzzy cap up).length ≤ 3 ∧
    ∀ s ∈ suggestions f dict fuzzy cap up,
      ∃ s₀ ∈ fuzzy, (s = s₀ ∨ s = up s₀) ∧
        ∃ e ∈ dict, key f e.canon = key f s₀ ∧ e.dialectOk = true := by
  refine ⟨?_, fun s hs => ?_⟩
  · unfold suggestions
    split
    · rw [List.length_map]; exact List.length_take_le _ _
    · exact List.length_take_le _ _
  obtain ⟨s₀, hm, ⟨e, he, hd⟩, rfl⟩ := mem_suggestions hs
  refine ⟨s₀, hm, ?_, e, (lookup_some he).1, (lookup_some he).2, hd⟩
  split
  · exact .inr rfl
  · exact .inl rfl

/-- **Suggestions are listed spellings** (what the property says; `suggestions_are_words` only gives
"has the key of an entry"): when every fuzzy candidate is the listed spelling of some entry — which is
what `suggest_correct_spelling` delivers (C15 `fuzzy_sound`: every result is a word of the
dictionary) — every suggestion is, up to `up` on a capitalised misspelling, the listed spelling of
an entry that admits the dialect. -/
theorem suggestions_are_words_strong (f : Fns) (dict : List Entry) (hu : UniqueKeys f dict)
    (fuzzy : List (List Char)) (hf : ∀ s ∈ fuzzy, ∃ e ∈ dict, e.canon = s)
    (cap : Bool) (up : List Char → List Char) :
    ∀ s ∈ suggestions f dict fuzzy cap up,
      ∃ e ∈ dict, e.dialectOk = true ∧ e.canon ∈ fuzzy ∧
        (if cap = true then s = up e.canon else s = e.canon) := by
  intro s hs
  obtain ⟨s₀, hm, ⟨e', he', hd⟩, rfl⟩ := mem_suggestions hs
  obtain ⟨e, he, rfl⟩ := hf s₀ hm
  rw [lookup_of_mem f dict hu e he e.canon rfl] at he'
  rw [← Option.some.inj he'] at hd
  refine ⟨e, he, hd, hm, ?_⟩
  split <;> rfl

/-! ### Non-vacuity: an ASCII instance (kernel-evaluated), and the theorems applied to it -/

def asciiLower (w : List Char) : List Char :=
  w.map fun c => if 'A' ≤ c ∧ c ≤ 'Z' then Char.ofNat (c.toNat + 32) else c
def fnsAscii : Fns := ⟨asciiLower, id⟩
def tinyDict : List Entry := [⟨['c','a','t'], true⟩, ⟨['P','a','r','i','s'], true⟩, ⟨['l','i','f','t'], false⟩]

theorem uniqueKeys_tinyDict : UniqueKeys fnsAscii tinyDict := by unfold UniqueKeys tinyDict; decide +kernel
example : UniqueKeys fnsAscii tinyDict := uniqueKeys_tinyDict
example : accept fnsAscii tinyDict ['c','a','t'] = true := by decide +kernel
example : accept fnsAscii tinyDict ['C','A','T'] = true := by decide +kernel      -- upper-case form of a lower-case entry
example : accept fnsAscii tinyDict ['P','a','r','i','s'] = true := by decide +kernel
example : accept fnsAscii tinyDict ['p','a','r','i','s'] = false := by decide +kernel  -- listed only capitalised
example : accept fnsAscii tinyDict ['l','i','f','t'] = false := by decide +kernel      -- other dialect
example : accept fnsAscii tinyDict ['d','o','g'] = false := by decide +kernel

/-- `asciiLower` is idempotent on one character (26 capital letters checked by the kernel) -/
theorem asciiLower_idem1 (c : Char) : asciiLower (asciiLower [c]) = asciiLower [c] := by
  by_cases h : 'A' ≤ c ∧ c ≤ 'Z'
  · have h1 : 65 ≤ c.toNat := by
      have := UInt32.le_iff_toNat_le.mp (Char.le_def.mp h.1); simpa using this
    have h2 : c.toNat ≤ 90 := by
      have := UInt32.le_iff_toNat_le.mp (Char.le_def.mp h.2); simpa using this
    have key : ∀ n, n < 26 →
        asciiLower (asciiLower [Char.ofNat (65 + n)]) = asciiLower [Char.ofNat (65 + n)] := by decide +kernel
    have := key (c.toNat - 65) (by omega)
    rwa [show 65 + (c.toNat - 65) = c.toNat by omega, Char.ofNat_toNat] at this
  · simp [asciiLower, h]

/-- the ASCII instance satisfies `Laws`: the hypotheses `Laws` + `UniqueKeys` are jointly satisfiable -/
theorem laws_fnsAscii : Laws fnsAscii where
  norm_idem _ := rfl
  key_lower w := by
    show asciiLower (id (asciiLower w)) = asciiLower (id w)
    induction w with
    | nil => rfl
    | cons c w ih =>
      have h1 := asciiLower_idem1 c
      simp only [id, asciiLower, List.map_cons, List.map_nil, List.cons.injEq, and_true] at h1 ih ⊢
      exact ⟨h1, ih⟩

/-- non-vacuity of `lookup_of_mem`: all hypotheses at once, a capitalised entry found under an
upper-case query -/
example : lookup fnsAscii tinyDict ['P','A','R','I','S'] = some ⟨['P','a','r','i','s'], true⟩ :=
  lookup_of_mem fnsAscii tinyDict uniqueKeys_tinyDict ⟨['P','a','r','i','s'], true⟩ (by decide +kernel)
    ['P','A','R','I','S'] (by decide +kernel)

/-- non-vacuity of `listed_accepted`: the capitalised entry of a three-entry dictionary (one entry of
another dialect), `Laws` and `UniqueKeys` together -/
example : accept fnsAscii tinyDict ['P','a','r','i','s'] = true :=
  listed_accepted fnsAscii laws_fnsAscii tinyDict uniqueKeys_tinyDict ⟨['P','a','r','i','s'], true⟩
    (by decide +kernel) rfl rfl

/-- non-vacuity of `listed_accepted_any_fns`: the capitalised entry `Paris` of `tinyDict` -/
example : accept fnsAscii tinyDict ['P','a','r','i','s'] = true :=
  listed_accepted_any_fns fnsAscii tinyDict uniqueKeys_tinyDict ⟨['P','a','r','i','s'], true⟩ (by decide +kernel) rfl rfl

/-- non-vacuity of `capitalised_accepted`: `Cat` and `CAT` for the lower-case entry `cat` -/
example : accept fnsAscii tinyDict ['C','a','t'] = true ∧ accept fnsAscii tinyDict ['C','A','T'] = true :=
  ⟨capitalised_accepted fnsAscii laws_fnsAscii tinyDict uniqueKeys_tinyDict ⟨['c','a','t'], true⟩
      (by decide +kernel) rfl rfl ['C','a','t'] (by decide +kernel),
   capitalised_accepted fnsAscii laws_fnsAscii tinyDict uniqueKeys_tinyDict ⟨['c','a','t'], true⟩
      (by decide +kernel) rfl rfl ['C','A','T'] (by decide +kernel)⟩

/-- non-vacuity of `unlisted_flagged`: `Dog` has no entry's key in the three-entry dictionary -/
example : accept fnsAscii tinyDict ['D','o','g'] = false :=
  unlisted_flagged fnsAscii tinyDict ['D','o','g'] (by decide +kernel)

/-- non-vacuity of `accepted_is_listed` (hypothesis `accept … = true` on a non-trivial word) -/
example : ∃ e ∈ tinyDict, key fnsAscii e.canon = key fnsAscii ['C','A','T'] ∧ e.dialectOk = true :=
  accepted_is_listed fnsAscii tinyDict ['C','A','T'] (by decide +kernel)

/-- non-vacuity of `accept_iff`, and the case the one-directional theorems do not speak about:
`paris` has a listed key (entry `Paris`) and is reported all the same -/
example : accept fnsAscii tinyDict ['p','a','r','i','s'] = false ∧
    ∃ e ∈ tinyDict, key fnsAscii e.canon = key fnsAscii ['p','a','r','i','s'] := by
  refine ⟨?_, ⟨['P','a','r','i','s'], true⟩, by decide +kernel, by decide +kernel⟩
  apply Bool.eq_false_iff.mpr
  intro h
  obtain ⟨e, he, hk, _, hc⟩ := (accept_iff fnsAscii laws_fnsAscii tinyDict uniqueKeys_tinyDict _).mp h
  simp only [tinyDict, List.mem_cons, List.not_mem_nil, or_false] at he
  rcases he with rfl | rfl | rfl <;> revert hk hc <;> decide +kernel

/-- non-vacuity of `suggestions_are_words(_strong)`: three candidates, the other-dialect entry is
dropped, the first letter is upper-cased, order kept -/
example : suggestions fnsAscii tinyDict [['c','a','t'], ['l','i','f','t'], ['P','a','r','i','s']] true
      (fun s => match s with | [] => [] | c :: r => c.toUpper :: r)
    = [['C','a','t'], ['P','a','r','i','s']] ∧
    (∀ s ∈ [['c','a','t'], ['l','i','f','t'], ['P','a','r','i','s']], ∃ e ∈ tinyDict, e.canon = s) := by
  decide +kernel

/-- without the hypothesis on `fuzzy` the weaker theorem cannot be improved: a candidate that is
only a re-casing of an entry passes the filter of the model (the real code never produces one) -/
example : suggestions fnsAscii tinyDict [['p','a','r','i','s']] false id = [['p','a','r','i','s']] := by
  decide +kernel

/-! ### The suggestion list as the driver runs it (op `sugg`: `Spell.lintSuggestions`) and as the rule `SpellCheck`
(op `spellr`: `SpellRule.postProcess`) computes it

`Spell.lintSuggestions` = back-off over the three searches, `suggestionsE` (= `suggestions` + the `unwrap` of the dialect filter),
capitalisation decided by the misspelt word's first letter. Op `sugg` compares it with the suggestion list of the lint a real
`SpellCheck` reports, on the curated dictionary and exhaustively on small ones. -/

/-- the back-off loop returns one of the searches (the first non-empty one), or nothing when every search is empty -/
theorem backoff_spec (rounds : List (List (List Char))) :
    (backoff rounds = [] ∧ ∀ r ∈ rounds, r = []) ∨
    (∃ pre r post, rounds = pre ++ r :: post ∧ (∀ p ∈ pre, p = []) ∧ r ≠ [] ∧ backoff rounds = r) := by
  induction rounds with
  | nil => exact .inl ⟨rfl, nofun⟩
  | cons r rs ih =>
    cases r with
    | nil =>
      rcases ih with ⟨h1, h2⟩ | ⟨pre, r, post, rfl, h2, h3, h4⟩
      · exact .inl ⟨h1, List.forall_mem_cons.mpr ⟨rfl, h2⟩⟩
      · exact .inr ⟨[] :: pre, r, post, rfl, List.forall_mem_cons.mpr ⟨rfl, h2⟩, h3, h4⟩
    | cons c cs => exact .inr ⟨[], c :: cs, rs, rfl, nofun, nofun, rfl⟩

/-- `suggestionsE` is `suggestions` unless the code panics, and it panics exactly when some candidate has the key of no entry
(`get_word_metadata(v).unwrap()`), whichever the other candidates are -/
theorem suggestionsE_eq (f : Fns) (dict : List Entry) (fuzzy : List (List Char)) (cap : Bool) (up : List Char → List Char) :
    ((∀ s ∈ fuzzy, ∃ e ∈ dict, key f e.canon = key f s) ∧
        suggestionsE f dict fuzzy cap up = .ok (suggestions f dict fuzzy cap up)) ∨
    ((∃ s ∈ fuzzy, ∀ e ∈ dict, key f e.canon ≠ key f s) ∧ suggestionsE f dict fuzzy cap up = .error .unwrapNone) := by
  unfold suggestionsE
  by_cases h : fuzzy.all (fun s => (lookup f dict s).isSome) = true
  · refine .inl ⟨fun s hs => ?_, if_pos h⟩
    obtain ⟨e, he⟩ := Option.isSome_iff_exists.mp (List.all_eq_true.mp h s hs)
    exact ⟨e, lookup_some he⟩
  · have ⟨s, hs1, hs2⟩ : ∃ s ∈ fuzzy, ¬ (lookup f dict s).isSome = true := by
      simpa [List.all_eq_true] using h
    exact .inr ⟨⟨s, hs1, fun e he hk => hs2 (List.find?_isSome.mpr ⟨e, he, beq_iff_eq.mpr hk⟩)⟩,
      if_neg h⟩

/-- no panic when every candidate is a listed spelling (`hf`, monitored by the harness on every candidate list) -/
theorem suggestionsE_ok (f : Fns) (dict : List Entry) (fuzzy : List (List Char))
    (hf : ∀ s ∈ fuzzy, ∃ e ∈ dict, e.canon = s) (cap : Bool) (up : List Char → List Char) :
    suggestionsE f dict fuzzy cap up = .ok (suggestions f dict fuzzy cap up) := by
  rcases suggestionsE_eq f dict fuzzy cap up with ⟨_, h⟩ | ⟨⟨s, hs, hn⟩, _⟩
  · exact h
  · obtain ⟨e, he, rfl⟩ := hf s hs
    exact absurd rfl (hn e he)

/-- the suggestions keep the order of the candidates: without capitalisation they are the first three candidates (at most) the
dialect allows -/
theorem suggestions_order (f : Fns) (dict : List Entry) (fuzzy : List (List Char)) (up : List Char → List Char) :
    (suggestions f dict fuzzy false up).Sublist fuzzy ∧
    (suggestions f dict fuzzy false up).length =
      min 3 (fuzzy.filter fun s => match lookup f dict s with | some e => e.dialectOk | none => false).length ∧
    ∀ cap, suggestions f dict fuzzy cap up =
      if cap = true then (suggestions f dict fuzzy false up).map up else suggestions f dict fuzzy false up := by
  refine ⟨?_, ?_, ?_⟩
  · simp only [suggestions, Bool.false_eq_true, if_false]
    exact (List.take_sublist _ _).trans List.filter_sublist
  · simp only [suggestions, Bool.false_eq_true, if_false, List.length_take]
    rfl
  · intro cap
    cases cap <;> simp [suggestions]

/-- **the corollary on what op `sugg` runs.** Under `UniqueKeys`, when every candidate of the search the back-off loop stops at
is a listed spelling: `lintSuggestions` does not panic, offers at most three words, and each is — up to `up` on its first letter
when the misspelt word starts with an upper-case letter — the listed spelling of an entry that allows the dialect and is one of
that search's candidates. -/
theorem lintSuggestions_are_words (f : Fns) (dict : List Entry) (hu : UniqueKeys f dict) (isUpper : Char → Bool)
    (up : Char → Char) (w : List Char) (rounds : List (List (List Char)))
    (hf : ∀ s ∈ backoff rounds, ∃ e ∈ dict, e.canon = s) :
    ∃ out, lintSuggestions f dict isUpper up w rounds = .ok out ∧ out.length ≤ 3 ∧
      ∀ s ∈ out, ∃ e ∈ dict, e.dialectOk = true ∧ e.canon ∈ backoff rounds ∧
        (if startsUpper isUpper w = true then s = capFirst up e.canon else s = e.canon) := by
  refine ⟨_, suggestionsE_ok f dict _ hf _ _, (suggestions_are_words f dict _ _ _).1, ?_⟩
  exact suggestions_are_words_strong f dict hu _ hf _ _

/-- without `hf`: whatever the searches returned, a list that IS offered has at most three words, each a candidate of the chosen
search (up to its first letter) sharing its key with an entry that allows the dialect; otherwise the code panics -/
theorem lintSuggestions_cases (f : Fns) (dict : List Entry) (isUpper : Char → Bool) (up : Char → Char) (w : List Char)
    (rounds : List (List (List Char))) :
    lintSuggestions f dict isUpper up w rounds = .error .unwrapNone ∨
    ∃ out, lintSuggestions f dict isUpper up w rounds = .ok out ∧ out.length ≤ 3 ∧
      ∀ s ∈ out, ∃ s₀ ∈ backoff rounds, (s = s₀ ∨ s = capFirst up s₀) ∧
        ∃ e ∈ dict, key f e.canon = key f s₀ ∧ e.dialectOk = true := by
  rcases suggestionsE_eq f dict (backoff rounds) (startsUpper isUpper w) (capFirst up) with ⟨_, h⟩ | ⟨_, h⟩
  · exact Or.inr ⟨_, h, (suggestions_are_words f dict _ _ _).1, (suggestions_are_words f dict _ _ _).2⟩
  · exact Or.inl h

/-! #### the same list in `SpellCheck` as a rule (`Model/SpellRule.lean`, op `spellr`)

`SpellRule.postProcess` works on the result of the uncached search AFTER the dialect filter (data of `spellr`, recomputed by the
harness from the public API); `Spell.suggestions` contains the filter. They are one function (`postProcess_eq_suggestions`,
`Lemmas/SpellRule.lean`); here the statement for what the two ops run. -/

/-- `Spell.capFirst` is `SpellRule.capitaliseFirst` -/
theorem capFirst_eq (up : Char → Char) : capFirst up = SpellRule.capitaliseFirst up := by
  funext w; cases w <;> rfl

/-- **what `spellr` runs is what `sugg` runs**: when the dialect filter does not panic, `lintSuggestions` returns
`SpellRule.postProcess` of the filtered result of the back-off search -/
theorem spellRule_suggestions_eq (senv : SpellRule.SpellEnv) (f : Fns) (dict : List Entry) (w : List Char)
    (rounds : List (List (List Char))) (h : ∀ s ∈ backoff rounds, ∃ e ∈ dict, key f e.canon = key f s) :
    lintSuggestions f dict senv.isUpper senv.upperFirst w rounds =
      .ok (SpellRule.postProcess senv w ((backoff rounds).filter fun s =>
        match lookup f dict s with | some e => e.dialectOk | none => false)) := by
  rcases suggestionsE_eq f dict (backoff rounds) (startsUpper senv.isUpper w) (capFirst senv.upperFirst) with
    ⟨_, h1⟩ | ⟨⟨s, hs, hn⟩, _⟩
  · have e := SpellRule.postProcess_eq_suggestions senv f dict (backoff rounds) w
    rw [lintSuggestions, h1, capFirst_eq]
    refine congrArg Except.ok ?_
    cases w with
    | nil => exact e.symm
    | cons c cs => exact e.symm
  · obtain ⟨e, he, hk⟩ := h s hs
    exact absurd hk (hn e he)

/-- **`suggestions_are_words_strong` for the lint the rule `SpellCheck` reports** (`SpellRule.spellLintOf`, the lint of
`ruleSpellCheck` / `spellCheckLint` / `spellSession`): when the word data hold the dialect-filtered result of the back-off search
over a dictionary with unique keys and every candidate is a listed spelling, every suggestion of the lint is `ReplaceWith` the
listed spelling of an entry allowed by the dialect, its first letter upper-cased when the misspelt word's is -/
theorem spellRule_suggestions_are_words (senv : SpellRule.SpellEnv) (f : Fns) (dict : List Entry) (hu : UniqueKeys f dict)
    (w : List Char) (rounds : List (List (List Char))) (hf : ∀ s ∈ backoff rounds, ∃ e ∈ dict, e.canon = s) (sp : Span) :
    let l := SpellRule.spellLintOf senv sp w ((backoff rounds).filter fun s =>
      match lookup f dict s with | some e => e.dialectOk | none => false)
    l.suggs.length ≤ 3 ∧
    ∀ sg ∈ l.suggs, ∃ e ∈ dict, e.dialectOk = true ∧ e.canon ∈ backoff rounds ∧
      sg = .replaceWith (if startsUpper senv.isUpper w = true then capFirst senv.upperFirst e.canon else e.canon) := by
  obtain ⟨out, h1, h2, h3⟩ := lintSuggestions_are_words f dict hu senv.isUpper senv.upperFirst w rounds hf
  have hk : ∀ s ∈ backoff rounds, ∃ e ∈ dict, key f e.canon = key f s := by
    intro s hs
    obtain ⟨e, he, rfl⟩ := hf s hs
    exact ⟨e, he, rfl⟩
  rw [spellRule_suggestions_eq senv f dict w rounds hk] at h1
  cases h1
  simp only [SpellRule.spellLintOf, List.length_map]
  refine ⟨h2, ?_⟩
  intro sg hsg
  obtain ⟨s, hs, rfl⟩ := List.mem_map.mp hsg
  obtain ⟨e, he, hd, hm, hc⟩ := h3 s hs
  refine ⟨e, he, hd, hm, ?_⟩
  split
  · rename_i hcap; rw [if_pos hcap] at hc; rw [hc]
  · rename_i hcap; rw [if_neg hcap] at hc; rw [hc]

/-! #### non-vacuity, on the ASCII instance -/

def asciiIsUpper (c : Char) : Bool := decide ('A' ≤ c ∧ c ≤ 'Z')
def asciiUp (c : Char) : Char := if 'a' ≤ c ∧ c ≤ 'z' then Char.ofNat (c.toNat - 32) else c

/-- six entries, five allowed by the dialect (one capitalised), one of another dialect -/
def sixDict : List Entry :=
  [⟨['c','a','t'], true⟩, ⟨['c','o','t'], true⟩, ⟨['c','u','t'], true⟩, ⟨['c','a','r','t'], true⟩, ⟨['C','a','t','o'], true⟩,
   ⟨['c','a','t','s'], false⟩]

theorem uniqueKeys_sixDict : UniqueKeys fnsAscii sixDict := by unfold UniqueKeys sixDict; decide +kernel

/-- the misspelt `Cta` (capitalised), the first search empty, the second returning a lower-case entry, the
entry of another dialect (`lift`, filtered out) and a capitalised entry: `Cat`, `Paris`, in this order -/
example : lintSuggestions fnsAscii tinyDict asciiIsUpper asciiUp ['C','t','a']
      [[], [['c','a','t'], ['l','i','f','t'], ['P','a','r','i','s']], [['d','o','g']]]
    = .ok [['C','a','t'], ['P','a','r','i','s']] := by decide +kernel

/-- non-vacuity of `lintSuggestions_are_words`: all hypotheses at once on that input (`UniqueKeys`, every candidate of the chosen
search a listed spelling); the third search holds `dog`, which no entry lists — it is not looked at -/
example : ∃ out, lintSuggestions fnsAscii tinyDict asciiIsUpper asciiUp ['C','t','a']
      [[], [['c','a','t'], ['l','i','f','t'], ['P','a','r','i','s']], [['d','o','g']]] = .ok out ∧ out.length ≤ 3 ∧
      ∀ s ∈ out, ∃ e ∈ tinyDict, e.dialectOk = true ∧
        e.canon ∈ backoff [[], [['c','a','t'], ['l','i','f','t'], ['P','a','r','i','s']], [['d','o','g']]] ∧
        (if startsUpper asciiIsUpper ['C','t','a'] = true then s = capFirst asciiUp e.canon else s = e.canon) :=
  lintSuggestions_are_words fnsAscii tinyDict uniqueKeys_tinyDict asciiIsUpper asciiUp ['C','t','a'] _ (by decide +kernel)

/-- more than three allowed candidates: the first three in the order of the search, the other-dialect `cats` skipped BEFORE the
cut (it is second), the capitalised entry `Cato` and `cart` cut off; lower-case misspelling: nothing is upper-cased -/
example : lintSuggestions fnsAscii sixDict asciiIsUpper asciiUp ['c','t']
      [[['c','a','t'], ['c','a','t','s'], ['c','o','t'], ['c','u','t'], ['C','a','t','o'], ['c','a','r','t']]]
    = .ok [['c','a','t'], ['c','o','t'], ['c','u','t']] := by decide +kernel

/-- non-vacuity of `lintSuggestions_are_words` with more candidates than are offered, upper-case misspelling `CT` -/
example : ∃ out, lintSuggestions fnsAscii sixDict asciiIsUpper asciiUp ['C','T']
      [[['c','a','t'], ['c','a','t','s'], ['c','o','t'], ['c','u','t'], ['C','a','t','o'], ['c','a','r','t']]] = .ok out ∧
      out.length ≤ 3 ∧
      ∀ s ∈ out, ∃ e ∈ sixDict, e.dialectOk = true ∧
        e.canon ∈ backoff [[['c','a','t'], ['c','a','t','s'], ['c','o','t'], ['c','u','t'], ['C','a','t','o'], ['c','a','r','t']]] ∧
        (if startsUpper asciiIsUpper ['C','T'] = true then s = capFirst asciiUp e.canon else s = e.canon) :=
  lintSuggestions_are_words fnsAscii sixDict uniqueKeys_sixDict asciiIsUpper asciiUp ['C','T'] _ (by decide +kernel)

example : lintSuggestions fnsAscii sixDict asciiIsUpper asciiUp ['C','T']
      [[['c','a','t'], ['c','a','t','s'], ['c','o','t'], ['c','u','t'], ['C','a','t','o'], ['c','a','r','t']]]
    = .ok [['C','a','t'], ['C','o','t'], ['C','u','t']] := by decide +kernel

/-- the panic of the code: a candidate of the chosen search that the dictionary does not know (`dog`), although the others are
fine — and the second disjunct of `suggestionsE_eq` / first of `lintSuggestions_cases` is inhabited -/
example : lintSuggestions fnsAscii tinyDict asciiIsUpper asciiUp ['c','t','a'] [[['c','a','t'], ['d','o','g']]]
    = .error .unwrapNone := by decide +kernel

/-- non-vacuity of `suggestionsE_ok` and of both disjuncts of `suggestionsE_eq` -/
example : suggestionsE fnsAscii tinyDict [['c','a','t'], ['l','i','f','t']] true (capFirst asciiUp) = .ok [['C','a','t']] ∧
    (∀ s ∈ [['c','a','t'], ['l','i','f','t']], ∃ e ∈ tinyDict, e.canon = s) ∧
    suggestionsE fnsAscii tinyDict [['d','o','g']] true (capFirst asciiUp) = .error .unwrapNone ∧
    (∃ s ∈ [['d','o','g']], ∀ e ∈ tinyDict, key fnsAscii e.canon ≠ key fnsAscii s) := by decide +kernel

/-- non-vacuity of `backoff_spec`, second disjunct with a non-empty prefix of empty searches; and the first disjunct -/
example : backoff [[], [], [['c','a','t']], [['d','o','g']]] = [['c','a','t']] ∧ backoff [[], [], []] = [] := by decide +kernel

/-- non-vacuity of `suggestions_order`: the filter drops the second of five candidates, the cut the fifth -/
example : suggestions fnsAscii sixDict [['c','a','t'], ['c','a','t','s'], ['c','o','t'], ['c','u','t'], ['c','a','r','t']] false id
    = [['c','a','t'], ['c','o','t'], ['c','u','t']] := by decide +kernel

/-- a `SpellEnv` for the examples: ASCII `is_uppercase` / `to_uppercase` -/
def envAscii : SpellRule.SpellEnv := ⟨fun _ => default, asciiIsUpper, asciiUp⟩

/-- non-vacuity of `spellRule_suggestions_eq`: the rule's post-processing of the filtered search result of the example above IS the
list op `sugg` computes -/
example : lintSuggestions fnsAscii tinyDict asciiIsUpper asciiUp ['C','t','a']
      [[], [['c','a','t'], ['l','i','f','t'], ['P','a','r','i','s']], [['d','o','g']]]
    = .ok (SpellRule.postProcess envAscii ['C','t','a'] [['c','a','t'], ['P','a','r','i','s']]) :=
  spellRule_suggestions_eq envAscii fnsAscii tinyDict ['C','t','a'] _ (by decide +kernel)

/-- non-vacuity of `spellRule_suggestions_are_words`: the lint of the rule on `Cta` offers `ReplaceWith Cat`, `ReplaceWith Paris` -/
example : (SpellRule.spellLintOf envAscii ⟨0, 3⟩ ['C','t','a'] [['c','a','t'], ['P','a','r','i','s']]).suggs
    = [.replaceWith ['C','a','t'], .replaceWith ['P','a','r','i','s']] := by decide +kernel

example :
    let l := SpellRule.spellLintOf envAscii ⟨0, 3⟩ ['C','t','a']
      ((backoff [[], [['c','a','t'], ['l','i','f','t'], ['P','a','r','i','s']]]).filter fun s =>
        match lookup fnsAscii tinyDict s with | some e => e.dialectOk | none => false)
    l.suggs.length ≤ 3 ∧
    ∀ sg ∈ l.suggs, ∃ e ∈ tinyDict, e.dialectOk = true ∧
      e.canon ∈ backoff [[], [['c','a','t'], ['l','i','f','t'], ['P','a','r','i','s']]] ∧
      sg = .replaceWith (if startsUpper envAscii.isUpper ['C','t','a'] = true then capFirst envAscii.upperFirst e.canon
        else e.canon) :=
  spellRule_suggestions_are_words envAscii fnsAscii tinyDict uniqueKeys_tinyDict ['C','t','a']
    [[], [['c','a','t'], ['l','i','f','t'], ['P','a','r','i','s']]] (by decide +kernel) ⟨0, 3⟩

/-! ### C06 at sentence level — the loop of `SpellCheck::lint` reports exactly the words the dictionary does not accept

`spell_check.rs`, `SpellCheck::lint`: `for word in document.iter_words() { if <accepted> { continue }; …; lints.push(Lint { span:
word.span, .. }) }`. The model of the loop is `SpellRule.ruleSpellCheck` (no cache), `SpellRule.spellCheckLint` (the code, with its
`word_cache`) and `SpellRule.spellSession` (one instance over several documents — what op `spellr` of the driver runs). The
theorems above are about the test `<accepted>` on ONE word; these are about the run over a token list: which tokens get a lint, how
many, on which span, in which order. `SpellRule.flagged senv src t` is the loop's own test (`t` is a word token and the `continue`
condition rejects its characters), `SpellRule.lintAt senv src t` the lint the loop body pushes for `t` (span `t.span`). -/

section sentence
open Harper Harper.Rules Harper.Leaves Harper.SpellRule

/-- **`SpellCheck::lint` reports exactly the unaccepted words.** On tokens inside the text, with a search that does not panic on a
flagged word (`SuggestOK`): the rule returns, IN TOKEN ORDER, exactly one lint per word token whose characters the `continue`
condition does not accept, the lint of that token (`lintAt`, span = the token's span); accepted word tokens and tokens that are
not words contribute nothing. In particular the list of lint spans is the list of spans of the unaccepted word tokens. -/
theorem spellCheck_exact (senv : SpellEnv) (hs : SuggestOK senv) (src : List Char) (toks : List Tok) (h : InText src toks) :
    ∃ ls, ruleSpellCheck senv src toks = .ok ls ∧
      ls = (toks.filter (flagged senv src)).map (lintAt senv src) ∧
      ls.map (·.span) =
        (toks.filter fun t => t.kind.isWord && !accepted (senv.data (textOf src t.span))).map (·.span) := by
  refine ⟨_, ruleSpellCheck_eq senv hs src toks h, rfl, ?_⟩
  rw [List.map_map]
  rfl

/-- the same without any hypothesis on the search: a run that returns, returns exactly those lints … -/
theorem spellCheck_exact_of_ok (senv : SpellEnv) (src : List Char) (toks : List Tok) (h : InText src toks) (ls : List RuleLint)
    (e : ruleSpellCheck senv src toks = .ok ls) :
    ls = (toks.filter (flagged senv src)).map (lintAt senv src) ∧
      ls.map (·.span) =
        (toks.filter fun t => t.kind.isWord && !accepted (senv.data (textOf src t.span))).map (·.span) := by
  have e' := ruleSpellCheck_eq_of_ok senv src toks h ls e
  refine ⟨e', ?_⟩
  rw [e', List.map_map]
  rfl

/-- … and a run panics exactly when the search of some flagged word does (`get_word_metadata(v).unwrap()` inside
`cached_suggest_correct_spelling`), with that panic -/
theorem spellCheck_panics_iff (senv : SpellEnv) (src : List Char) (toks : List Tok) (h : InText src toks) :
    (∃ p, ruleSpellCheck senv src toks = .error p) ↔
      ∃ t ∈ toks, flagged senv src t = true ∧ (senv.data (textOf src t.span)).suggest = none := by
  rcases ruleSpellCheck_cases senv src toks h with ⟨e, hall⟩ | ⟨e, hex⟩
  · constructor
    · rintro ⟨p, hp⟩; rw [e] at hp; cases hp
    · rintro ⟨t, ht, hf, hn⟩; exact absurd hn (hall t ht hf)
  · exact ⟨fun _ => hex, fun _ => ⟨_, e⟩⟩

/-- **the same of the code with its `word_cache`** (`spellCheckLint`: `SpellCheck::lint` of an instance whose cache is `st`, any
capacity): whatever the cache holds — entries this rule produced for this dictionary, `CacheInv` — the lints are those of
`spellCheck_exact` -/
theorem spellCheck_cached_exact (senv : SpellEnv) (hs : SuggestOK senv) (cap : Nat) (st : WordCache) (hi : CacheInv senv st)
    (src : List Char) (toks : List Tok) (h : InText src toks) :
    (spellCheckLint senv cap st src toks).1 = .ok ((toks.filter (flagged senv src)).map (lintAt senv src)) := by
  rw [spellCheckLint, (spellGo_spec senv id (keySound_id senv) cap src toks st ((keyInv_id senv st).mpr hi)).1]
  exact ruleSpellCheck_eq senv hs src toks h

/-- **what op `spellr` of the driver runs** (`spellSession … id cap []`: one `SpellCheck` with an empty cache of any capacity linting
the documents in turn): every document gets exactly the lints of its unaccepted word tokens, whatever was linted before it -/
theorem spellSession_exact (senv : SpellEnv) (hs : SuggestOK senv) (cap : Nat) (docs : List (List Char × List Tok))
    (h : ∀ d ∈ docs, InText d.1 d.2) :
    spellSession senv id cap [] docs =
      docs.map fun d => .ok ((d.2.filter (flagged senv d.1)).map (lintAt senv d.1)) := by
  rw [spellSession_spec senv id (keySound_id senv) cap docs [] (keyInv_nil senv id)]
  exact List.map_congr_left fun d hd => ruleSpellCheck_eq senv hs d.1 d.2 (h d hd)

/-- **every lint covers exactly one unaccepted word**: a lint of a run that returned is the lint of a word token of the list
whose characters are not accepted; its span is that token's span, so the text under the lint is exactly the word's characters -/
theorem spellCheck_lint_covers_word (senv : SpellEnv) (src : List Char) (toks : List Tok) (h : InText src toks)
    (ls : List RuleLint) (e : ruleSpellCheck senv src toks = .ok ls) (l : RuleLint) (hl : l ∈ ls) :
    ∃ t ∈ toks, t.kind.isWord = true ∧ accepted (senv.data (textOf src t.span)) = false ∧ l = lintAt senv src t ∧
      l.span = t.span ∧ l.span.getContent src = .ok (textOf src t.span) := by
  rw [ruleSpellCheck_eq_of_ok senv src toks h ls e] at hl
  obtain ⟨t, ht, rfl⟩ := List.mem_map.mp hl
  obtain ⟨ht1, ht2⟩ := List.mem_filter.mp ht
  simp only [flagged, Bool.and_eq_true, Bool.not_eq_true'] at ht2
  exact ⟨t, ht1, ht2.1, ht2.2, rfl, rfl, getContent_textOf src t (h t ht1)⟩

/-- **the converse clause: every unaccepted word is reported**, on exactly its span -/
theorem spellCheck_reports_every_unaccepted (senv : SpellEnv) (src : List Char) (toks : List Tok) (h : InText src toks)
    (ls : List RuleLint) (e : ruleSpellCheck senv src toks = .ok ls) (t : Tok) (ht : t ∈ toks) (hw : t.kind.isWord = true)
    (ha : accepted (senv.data (textOf src t.span)) = false) : ∃ l ∈ ls, l = lintAt senv src t ∧ l.span = t.span := by
  rw [ruleSpellCheck_eq_of_ok senv src toks h ls e]
  refine ⟨_, List.mem_map.mpr ⟨t, List.mem_filter.mpr ⟨ht, ?_⟩, rfl⟩, rfl, rfl⟩
  simp only [flagged, hw, ha, Bool.not_false, Bool.and_self]

/-- **exactly one lint per unaccepted word, none on an accepted one**: when the word tokens have pairwise different spans
(tokens that tile the text do, `spellCheck_tiled` below), the lints lying on the span of a word token `t` are exactly one when
`t`'s characters are not accepted and none when they are -/
theorem spellCheck_lints_per_word (senv : SpellEnv) (src : List Char) (toks : List Tok) (h : InText src toks)
    (hd : (toks.filter fun t => t.kind.isWord).Pairwise fun a b => a.span ≠ b.span)
    (ls : List RuleLint) (e : ruleSpellCheck senv src toks = .ok ls) (t : Tok) (ht : t ∈ toks) (hw : t.kind.isWord = true) :
    (ls.filter fun l => l.span = t.span).length = if accepted (senv.data (textOf src t.span)) = true then 0 else 1 := by
  rw [ruleSpellCheck_eq_of_ok senv src toks h ls e, count_lints_on_span]
  have hff : toks.filter (flagged senv src) =
      (toks.filter fun t => t.kind.isWord).filter fun t => !accepted (senv.data (textOf src t.span)) := by
    rw [List.filter_filter]
    exact List.filter_congr fun x _ => by simp only [flagged, Bool.and_comm]
  rw [hff, count_span_filter _ _ hd t (List.mem_filter.mpr ⟨ht, hw⟩)]
  cases accepted (senv.data (textOf src t.span)) <;> rfl

/-- tokens that tile the text (what `Document::new` delivers for plain English, `C02.document_tiles`): all hypotheses on the
tokens hold, and for EVERY token `t` — word or not — the number of lints on `t`'s span is one when `t` is an unaccepted word and
zero otherwise -/
theorem spellCheck_tiled (senv : SpellEnv) (hs : SuggestOK senv) (src : List Char) (toks : List Tok)
    (ht : Tiles toks 0 src.length) :
    ∃ ls, ruleSpellCheck senv src toks = .ok ls ∧ ls = (toks.filter (flagged senv src)).map (lintAt senv src) ∧
      ∀ t ∈ toks, (ls.filter fun l => l.span = t.span).length = if flagged senv src t = true then 1 else 0 := by
  refine ⟨_, ruleSpellCheck_eq senv hs src toks (inText_of_tiles src toks ht), rfl, ?_⟩
  intro t htm
  rw [count_lints_on_span]
  exact count_span_filter _ toks (tiles_spans_distinct toks 0 src.length ht).2 t htm

/-- **plain-English documents**: `Document::new(text, &PlainEnglish, _)` followed by `SpellCheck::lint` — the tokens exist, and
the lints are exactly those of the unaccepted word tokens, one per token (`C02.document_tiles` + `spellCheck_tiled`) -/
theorem spellCheck_document (cls : Cls) (ext : Ext) (src : List Char) (hext : ExtOK ext src.length) (senv : SpellEnv)
    (hs : SuggestOK senv) :
    ∃ toks ls, document cls ext src = .ok toks ∧ ruleSpellCheck senv src toks = .ok ls ∧
      ls = (toks.filter (flagged senv src)).map (lintAt senv src) ∧
      ∀ t ∈ toks, (ls.filter fun l => l.span = t.span).length = if flagged senv src t = true then 1 else 0 := by
  obtain ⟨toks, e, ht⟩ := C02.document_tiles cls ext src hext
  obtain ⟨ls, e1, e2, e3⟩ := spellCheck_tiled senv hs src toks ht
  exact ⟨toks, ls, e, e1, e2, e3⟩

/-! #### the bridge to the dictionary: `SpellRule.FaithfulTo senv f dict` — the `continue` condition of `senv` IS `Spell.accept` over
`dict` (true of every `SpellEnv` whose word data are `SpellRule.dataOf f dict _`, `faithfulTo_dataOf`) -/

/-- **the run in terms of the dictionary**: the lint spans are, in order, the spans of the word tokens whose characters
`Spell.accept` rejects -/
theorem spellCheck_exact_dict (senv : SpellEnv) (f : Fns) (dict : List Entry) (hf : FaithfulTo senv f dict)
    (hs : SuggestOK senv) (src : List Char) (toks : List Tok) (h : InText src toks) :
    ∃ ls, ruleSpellCheck senv src toks = .ok ls ∧
      ls.map (·.span) = (toks.filter fun t => t.kind.isWord && !accept f dict (textOf src t.span)).map (·.span) := by
  obtain ⟨ls, e, _, e2⟩ := spellCheck_exact senv hs src toks h
  refine ⟨ls, e, ?_⟩
  rw [e2]
  congr 1
  exact List.filter_congr fun t _ => by rw [hf]

/-- **C06 at rule level, both directions, per word token**: over a dictionary with unique keys and `lower` / `normalize`
satisfying `Laws`, for a word token `t` of a token list whose word tokens have different spans, the number of lints on `t`'s span
is ZERO when some entry has the key of `t`'s characters, allows the dialect and is spelt as the (normalized) characters or
their lower-casing — the word is in the dictionary — and ONE otherwise: every word the dictionary does not contain is reported,
once, on exactly its span; no word it contains is -/
theorem spellCheck_reported_iff_not_in_dictionary (senv : SpellEnv) (f : Fns) (hl : Laws f) (dict : List Entry)
    (hu : UniqueKeys f dict) (hf : FaithfulTo senv f dict) (src : List Char) (toks : List Tok) (h : InText src toks)
    (hd : (toks.filter fun t => t.kind.isWord).Pairwise fun a b => a.span ≠ b.span)
    (ls : List RuleLint) (e : ruleSpellCheck senv src toks = .ok ls) (t : Tok) (ht : t ∈ toks) (hw : t.kind.isWord = true) :
    ((∃ en ∈ dict, key f en.canon = key f (textOf src t.span) ∧ en.dialectOk = true ∧
        (en.canon = f.normalize (textOf src t.span) ∨ en.canon = f.normalize (f.lower (textOf src t.span)))) →
      (ls.filter fun l => l.span = t.span).length = 0) ∧
    ((¬ ∃ en ∈ dict, key f en.canon = key f (textOf src t.span) ∧ en.dialectOk = true ∧
        (en.canon = f.normalize (textOf src t.span) ∨ en.canon = f.normalize (f.lower (textOf src t.span)))) →
      (ls.filter fun l => l.span = t.span).length = 1 ∧ ∃ l ∈ ls, l.span = t.span ∧ l = lintAt senv src t) := by
  have hc := spellCheck_lints_per_word senv src toks h hd ls e t ht hw
  rw [hf] at hc
  have hiff := accept_iff f hl dict hu (textOf src t.span)
  constructor
  · intro hin
    rw [hc, if_pos (hiff.mpr hin)]
  · intro hnin
    have ha : accept f dict (textOf src t.span) = false := by
      cases hacc : accept f dict (textOf src t.span) with
      | false => rfl
      | true => exact absurd (hiff.mp hacc) hnin
    refine ⟨by rw [hc, ha]; rfl, ?_⟩
    obtain ⟨l, hl1, hl2, hl3⟩ := spellCheck_reports_every_unaccepted senv src toks h ls e t ht hw (by rw [hf, ha])
    exact ⟨l, hl1, hl3, hl2⟩

/-- a word token whose key no entry has (a word that is not in the dictionary in any capitalisation) is reported, whatever the
other tokens are — no law, no uniqueness needed -/
theorem spellCheck_unlisted_reported (senv : SpellEnv) (f : Fns) (dict : List Entry) (hf : FaithfulTo senv f dict)
    (src : List Char) (toks : List Tok) (h : InText src toks) (ls : List RuleLint)
    (e : ruleSpellCheck senv src toks = .ok ls) (t : Tok) (ht : t ∈ toks) (hw : t.kind.isWord = true)
    (hn : ∀ en ∈ dict, key f en.canon ≠ key f (textOf src t.span)) : ∃ l ∈ ls, l.span = t.span := by
  obtain ⟨l, hl1, _, hl3⟩ := spellCheck_reports_every_unaccepted senv src toks h ls e t ht hw
    (by rw [hf]; exact unlisted_flagged f dict _ hn)
  exact ⟨l, hl1, hl3⟩

/-! #### non-vacuity: `teh Cat lift` over `tinyDict` (`cat`, `Paris`, `lift` of another dialect) -/

/-- a `SpellEnv` BUILT from the dictionary `tinyDict` (`dataOf`): the search offers `cat` for `teh`, nothing otherwise -/
def envTiny : SpellEnv :=
  ⟨dataOf fnsAscii tinyDict fun w => if w = ['t','e','h'] then some [['c','a','t']] else some [], asciiIsUpper, asciiUp⟩

theorem faithful_envTiny : FaithfulTo envTiny fnsAscii tinyDict := faithfulTo_dataOf _ _ _ _ _

theorem suggestOK_envTiny : SuggestOK envTiny := by
  intro w _
  show (if w = ['t','e','h'] then some [['c','a','t']] else some []) ≠ none
  split <;> exact Option.some_ne_none _

/-- `teh Cat lift`: five tokens; `teh` (unknown) and `lift` (other dialect) are reported on their spans, `Cat` (capitalised form of
the entry `cat`) and the spaces are not -/
def tehCatLift : List Char := ['t','e','h',' ','C','a','t',' ','l','i','f','t']
def tehCatLiftToks : List Tok := [⟨⟨0, 3⟩, .word⟩, ⟨⟨3, 4⟩, .space 1⟩, ⟨⟨4, 7⟩, .word⟩, ⟨⟨7, 8⟩, .space 1⟩, ⟨⟨8, 12⟩, .word⟩]

example : ruleSpellCheck envTiny tehCatLift tehCatLiftToks =
    .ok [⟨⟨0, 3⟩, [.replaceWith ['c','a','t']], 60, 1⟩, ⟨⟨8, 12⟩, [], 60, 0⟩] := by decide +kernel

theorem tiles_tehCatLift : Tiles tehCatLiftToks 0 tehCatLift.length := by decide +kernel

/-- non-vacuity of `spellCheck_exact` / `spellCheck_exact_dict` / `spellCheck_tiled`: all hypotheses together -/
example : ∃ ls, ruleSpellCheck envTiny tehCatLift tehCatLiftToks = .ok ls ∧
    ls.map (·.span) = (tehCatLiftToks.filter fun t => t.kind.isWord && !accept fnsAscii tinyDict (textOf tehCatLift t.span)).map
      (·.span) :=
  spellCheck_exact_dict envTiny fnsAscii tinyDict faithful_envTiny suggestOK_envTiny tehCatLift tehCatLiftToks
    (inText_of_tiles _ _ tiles_tehCatLift)

example : (tehCatLiftToks.filter fun t => t.kind.isWord && !accept fnsAscii tinyDict (textOf tehCatLift t.span)).map (·.span) =
    [⟨0, 3⟩, ⟨8, 12⟩] := by decide +kernel

example : ∃ ls, ruleSpellCheck envTiny tehCatLift tehCatLiftToks = .ok ls ∧
    ls = (tehCatLiftToks.filter (flagged envTiny tehCatLift)).map (lintAt envTiny tehCatLift) ∧
    ∀ t ∈ tehCatLiftToks, (ls.filter fun l => l.span = t.span).length = if flagged envTiny tehCatLift t = true then 1 else 0 :=
  spellCheck_tiled envTiny suggestOK_envTiny tehCatLift tehCatLiftToks tiles_tehCatLift

/-- non-vacuity of `spellCheck_reported_iff_not_in_dictionary` (`Laws`, `UniqueKeys`, `FaithfulTo`, tokens in the text with
different spans, a run that returned): `Cat` is in the dictionary — no lint on `4..7`; `lift` is not (its entry is of another
dialect) — one lint on `8..12` -/
example : ∀ ls, ruleSpellCheck envTiny tehCatLift tehCatLiftToks = .ok ls →
    (ls.filter fun l => l.span = (⟨4, 7⟩ : Span)).length = 0 ∧ (ls.filter fun l => l.span = (⟨8, 12⟩ : Span)).length = 1 := by
  intro ls e
  have hin := inText_of_tiles _ _ tiles_tehCatLift
  have hd : (tehCatLiftToks.filter fun t => t.kind.isWord).Pairwise fun a b => a.span ≠ b.span := by decide +kernel
  refine ⟨(spellCheck_reported_iff_not_in_dictionary envTiny fnsAscii laws_fnsAscii tinyDict uniqueKeys_tinyDict faithful_envTiny
      tehCatLift tehCatLiftToks hin hd ls e ⟨⟨4, 7⟩, .word⟩ (by decide +kernel) rfl).1
        ⟨⟨['c','a','t'], true⟩, by decide +kernel, by decide +kernel, rfl, Or.inr (by decide +kernel)⟩,
    ((spellCheck_reported_iff_not_in_dictionary envTiny fnsAscii laws_fnsAscii tinyDict uniqueKeys_tinyDict faithful_envTiny
      tehCatLift tehCatLiftToks hin hd ls e ⟨⟨8, 12⟩, .word⟩ (by decide +kernel) rfl).2 ?_).1⟩
  rintro ⟨en, hen, _, hd', _⟩
  simp only [tinyDict, List.mem_cons, List.not_mem_nil, or_false] at hen
  rcases hen with rfl | rfl | rfl
  · revert ‹key fnsAscii _ = _›; decide +kernel
  · revert ‹key fnsAscii _ = _›; decide +kernel
  · cases hd'

/-- the word cache and the session of the driver on the same text, linted twice by one instance with a one-entry cache -/
example : spellSession envTiny id 1 [] [(tehCatLift, tehCatLiftToks), (tehCatLift, tehCatLiftToks)] =
    [.ok [⟨⟨0, 3⟩, [.replaceWith ['c','a','t']], 60, 1⟩, ⟨⟨8, 12⟩, [], 60, 0⟩],
     .ok [⟨⟨0, 3⟩, [.replaceWith ['c','a','t']], 60, 1⟩, ⟨⟨8, 12⟩, [], 60, 0⟩]] := by decide +kernel

/-- **the hypothesis "different spans" of `spellCheck_lints_per_word` is needed**: a token list that names the same word twice
(never produced by `Document::new`) gets two lints on that span -/
example : (ruleSpellCheck envTiny ['t','e','h'] [⟨⟨0, 3⟩, .word⟩, ⟨⟨0, 3⟩, .word⟩]).map
    (fun ls => (ls.filter fun l => l.span = (⟨0, 3⟩ : Span)).length) = .ok 2 := by decide +kernel

/-- **`SuggestOK` is needed for `spellCheck_exact`, and `spellCheck_panics_iff` is not vacuous**: a flagged word whose search
panics ends the run -/
example : ruleSpellCheck { envTiny with data := fun _ => ⟨false, false, false, false, none⟩ } tehCatLift tehCatLiftToks =
    .error .unwrapNone := by decide +kernel

/-- non-vacuity of `spellCheck_exact_of_ok`, `spellCheck_lint_covers_word`, `spellCheck_reports_every_unaccepted`,
`spellCheck_unlisted_reported` on that run (which returns, by the evaluated example above): every lint sits on an unaccepted word
token; `lift` is reported; `teh`, whose key no entry has, is reported -/
example : ∀ ls, ruleSpellCheck envTiny tehCatLift tehCatLiftToks = .ok ls →
    ls = (tehCatLiftToks.filter (flagged envTiny tehCatLift)).map (lintAt envTiny tehCatLift) ∧
    (∀ l ∈ ls, ∃ t ∈ tehCatLiftToks, t.kind.isWord = true ∧ accepted (envTiny.data (textOf tehCatLift t.span)) = false ∧
      l = lintAt envTiny tehCatLift t ∧ l.span = t.span ∧ l.span.getContent tehCatLift = .ok (textOf tehCatLift t.span)) ∧
    (∃ l ∈ ls, l = lintAt envTiny tehCatLift ⟨⟨8, 12⟩, .word⟩ ∧ l.span = ⟨8, 12⟩) ∧
    (∃ l ∈ ls, l.span = ⟨0, 3⟩) := by
  intro ls e
  have hin := inText_of_tiles _ _ tiles_tehCatLift
  exact ⟨(spellCheck_exact_of_ok envTiny tehCatLift tehCatLiftToks hin ls e).1,
    spellCheck_lint_covers_word envTiny tehCatLift tehCatLiftToks hin ls e,
    spellCheck_reports_every_unaccepted envTiny tehCatLift tehCatLiftToks hin ls e ⟨⟨8, 12⟩, .word⟩ (by decide +kernel) rfl (by decide +kernel),
    spellCheck_unlisted_reported envTiny fnsAscii tinyDict faithful_envTiny tehCatLift tehCatLiftToks hin ls e ⟨⟨0, 3⟩, .word⟩
      (by decide +kernel) rfl (by decide +kernel)⟩

/-- non-vacuity of `spellCheck_panics_iff` (direction ←, on `envTiny` with `suggest = none`, example above) -/
example : ∃ p, ruleSpellCheck { envTiny with data := fun _ => ⟨false, false, false, false, none⟩ } tehCatLift tehCatLiftToks =
    .error p :=
  (spellCheck_panics_iff _ tehCatLift tehCatLiftToks (inText_of_tiles _ _ tiles_tehCatLift)).mpr
    ⟨⟨⟨0, 3⟩, .word⟩, by decide +kernel, rfl, rfl⟩

/-- non-vacuity of `spellCheck_cached_exact`: a cache that already holds the entry for `teh` (`CacheInv`), capacity 1 -/
example : (spellCheckLint envTiny 1 [(['t','e','h'], [['c','a','t']])] tehCatLift tehCatLiftToks).1 =
    .ok ((tehCatLiftToks.filter (flagged envTiny tehCatLift)).map (lintAt envTiny tehCatLift)) :=
  spellCheck_cached_exact envTiny suggestOK_envTiny 1 _ (by
      intro en hen
      simp only [List.mem_singleton] at hen
      subst hen
      rfl)
    tehCatLift tehCatLiftToks (inText_of_tiles _ _ tiles_tehCatLift)

/-- non-vacuity of `spellSession_exact`: the two-document session evaluated above -/
example : spellSession envTiny id 1 [] [(tehCatLift, tehCatLiftToks), (tehCatLift, tehCatLiftToks)] =
    [(tehCatLift, tehCatLiftToks), (tehCatLift, tehCatLiftToks)].map fun d =>
      .ok ((d.2.filter (flagged envTiny d.1)).map (lintAt envTiny d.1)) :=
  spellSession_exact envTiny suggestOK_envTiny 1 _ (by
    intro d hd
    simp only [List.mem_cons, List.not_mem_nil, or_false, or_self] at hd
    subst hd
    exact inText_of_tiles _ _ tiles_tehCatLift)

/-- non-vacuity of `spellCheck_document`: the ASCII class table, no external tokens; the tokens `Document::new` delivers for
`teh Cat lift` are the five of the example -/
example : ∃ toks ls, document C02.asciiCls (fun _ => none) tehCatLift = .ok toks ∧
    ruleSpellCheck envTiny tehCatLift toks = .ok ls ∧
    ls = (toks.filter (flagged envTiny tehCatLift)).map (lintAt envTiny tehCatLift) ∧
    ∀ t ∈ toks, (ls.filter fun l => l.span = t.span).length = if flagged envTiny tehCatLift t = true then 1 else 0 :=
  spellCheck_document C02.asciiCls (fun _ => none) tehCatLift (by intro _ _ _ h; cases h) envTiny suggestOK_envTiny

example : document C02.asciiCls (fun _ => none) tehCatLift = .ok tehCatLiftToks := by decide +kernel

end sentence

end Harper.C06
