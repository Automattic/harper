import Harper.Lemmas.Leaves
import Harper.Props.C12b
import Harper.Props.C01Leaves
/-!
# C12 (generic rule constructions) — every phrase-correction rule is paragraph-local, whatever its table row

`Props/C12b.lean` proves locality of eleven hand-modelled rules. Most shipped rules are instances of
`MapPhraseLinter` (`phrase_corrections.rs`: 166 rule names; `closed_compounds.rs`: 46) or of
`ProperNounCapitalizationLinter` (`proper_noun_rules.json`: 25 entries, 434 phrases): a pattern tree over
the real leaves, `run_on_chunk`, and one generic `match_to_lint`. With `Model/Leaves.lean` (compared with
the shipped rules row by row on every run):

* `mapPhrase_xlocal`: for EVERY pattern tree over the real leaves and all combinators (`RPat`) — except
  a `then_strict` / `TokenKindPatternGroup` key that is a PAIRED quote, whose `twin_loc` is a token index
  (`Loc`; witness below that such a pattern is not translation invariant) — the piece function
  `run_on_chunk ∘ match_to_lint` of the `MapPhraseLinter` is `XLocalE`;
* `mapPhrase_paragraphs_separately`: hence, end to end from the characters of `P` and `D`, the rule reports
  on `P ++ D` its lints on `P` followed by its lints on `D` moved by `|P|` — and panics exactly when one side does;
* `phraseCorrection_paragraphs_separately` / `closedCompound_paragraphs_separately`: the trees that
  `MapPhraseLinter::new_exact_phrases` / `new_closed_compound` build from ANY phrase documents without a
  paired quotation mark are `Loc`: every row of the two tables, present and future;
* `properNoun_xlocal`, `properNoun_paragraphs_separately`: the same for `ProperNounCapitalizationLinter`.
-/
namespace Harper.C12
open Harper Harper.Chunks Harper.Rules Harper.Leaves

/-! ## `MapPhraseLinter` over any tree -/

/-- **chunk-locality of every `MapPhraseLinter`**: nothing on the empty chunk; text after the chunk does
not matter; moving the chunk with its text moves the lints — panics included -/
theorem mapPhrase_xlocal (env : Env) (p : RPat) (hp : p.Loc) (forms : List (List Char)) :
    XLocalE (mapPhrasePiece env p forms) := mapPhrase_xlocalE env p hp forms

/-- `MapPhraseLinter::match_to_lint` moves with its match -/
theorem mapPhraseMatch_translation (env : Env) (forms : List (List Char)) (P D : List Char) (m : List Tok) (j : Nat) :
    mapPhraseMatch env forms (P ++ D) (shiftDoc P.length j m) = (mapPhraseMatch env forms D m).map (shiftRLs P.length) :=
  mapPhraseMatch_shift env forms P D m j

/-- every pattern tree over the real leaves is translation invariant -/
theorem matches_translation (env : Env) (p : RPat) (hp : p.Loc) (P D : List Char) (ts : List Tok) (j : Nat) :
    p.matcher env (P ++ D) (shiftDoc P.length j ts) = p.matcher env D ts := (matcher_loc env p hp).right P D ts j

/-- … and does not look at text after its tokens -/
theorem matches_left (env : Env) (p : RPat) (hp : p.Loc) (P D : List Char) (ts : List Tok)
    (h : ∀ t ∈ ts, t.span.start ≤ t.span.stop ∧ t.span.stop ≤ P.length) :
    p.matcher env (P ++ D) ts = p.matcher env P ts := (matcher_loc env p hp).left P D ts h

theorem mapPhrase_appends (env : Env) (p : RPat) (hp : p.Loc) (forms : List (List Char)) :
    Appends (ruleMapPhrase env p forms) := appends_chunks _ (mapPhrase_xlocal env p hp forms)

/-- **C12 for every `MapPhraseLinter`, end to end** (lexer, condensing passes, `iter_chunks`, `run_on_chunk`,
the pattern tree, `match_to_lint`) -/
theorem mapPhrase_paragraphs_separately (env : Env) (p : RPat) (hp : p.Loc) (forms : List (List Char))
    (cls : Cls) (P0 D : List Char) (k : Nat) (extP extD extPD : Ext) (h : ParagraphPair cls P0 D k extP extD extPD) :
    docRule cls extPD (ruleMapPhrase env p forms) ((P0 ++ List.replicate k '\n') ++ D) =
      joinE (P0 ++ List.replicate k '\n').length (docRule cls extP (ruleMapPhrase env p forms) (P0 ++ List.replicate k '\n'))
        (docRule cls extD (ruleMapPhrase env p forms) D) :=
  separately_of_appends _ (mapPhrase_appends env p hp forms) cls P0 D k extP extD extPD h

/-! ## the trees of the tables -/

/-- `ExactPhrase::from_document` of a phrase without a PAIRED quotation mark is `Loc` -/
theorem exactPhrase_loc (env : Env) (psrc : List Char) (ptoks : List Tok) (hq : ∀ t ∈ ptoks, stableKind t.kind = true)
    (p : RPat) (h : exactPhraseOf env psrc ptoks = some p) : p.Loc := by
  simp only [exactPhraseOf, Option.map_eq_some_iff] at h
  obtain ⟨ls, hls, rfl⟩ := h
  simp only [RPat.Loc]
  apply leavesToRPats_loc
  intro l hl
  obtain ⟨t, htm, ht⟩ := mapM_some_mem _ _ _ hls l hl
  have hst := hq t htm
  simp only [exactPhraseLeaf] at ht
  split at ht <;> first
    | (cases ht; trivial)
    | (rename_i tw hk; cases ht; simp only [Leaf.Loc]; rw [hk] at hst; exact hst)
    | cases ht

theorem exactPhrases_loc (env : Env) (docs : List (List Char × List Tok))
    (hq : ∀ d ∈ docs, ∀ t ∈ d.2, stableKind t.kind = true) (p : RPat) (h : exactPhrasesOf env docs = some p) : p.Loc := by
  simp only [exactPhrasesOf, Option.map_eq_some_iff] at h
  obtain ⟨ps, hps, rfl⟩ := h
  simp only [RPat.Loc]
  apply ofList_loc
  intro q hqm
  obtain ⟨d, hdm, hd⟩ := mapM_some_mem _ _ _ hps q hqm
  exact exactPhrase_loc env d.1 d.2 (hq d hdm) q hd

/-- **every row of `phrase_corrections.rs`** — `MapPhraseLinter::new_exact_phrases(phrases, corrections, …)`
for ANY list of phrase documents without a paired quotation mark and ANY corrections — is paragraph-local -/
theorem phraseCorrection_paragraphs_separately (env : Env) (docs : List (List Char × List Tok))
    (hq : ∀ d ∈ docs, ∀ t ∈ d.2, stableKind t.kind = true) (p : RPat) (hp : exactPhrasesOf env docs = some p)
    (forms : List (List Char)) (cls : Cls) (P0 D : List Char) (k : Nat) (extP extD extPD : Ext)
    (h : ParagraphPair cls P0 D k extP extD extPD) :
    docRule cls extPD (ruleMapPhrase env p forms) ((P0 ++ List.replicate k '\n') ++ D) =
      joinE (P0 ++ List.replicate k '\n').length (docRule cls extP (ruleMapPhrase env p forms) (P0 ++ List.replicate k '\n'))
        (docRule cls extD (ruleMapPhrase env p forms) D) :=
  mapPhrase_paragraphs_separately env p (exactPhrases_loc env docs hq p hp) forms cls P0 D k extP extD extPD h

/-- **every row of `closed_compounds.rs`**: `MapPhraseLinter::new_closed_compound(bad, good)` -/
theorem closedCompound_paragraphs_separately (env : Env) (psrc : List Char) (ptoks : List Tok)
    (hq : ∀ t ∈ ptoks, stableKind t.kind = true) (good : List Char) (r : PieceRule)
    (hr : ruleClosedCompound env psrc ptoks good = some r)
    (cls : Cls) (P0 D : List Char) (k : Nat) (extP extD extPD : Ext) (h : ParagraphPair cls P0 D k extP extD extPD) :
    docRule cls extPD r ((P0 ++ List.replicate k '\n') ++ D) =
      joinE (P0 ++ List.replicate k '\n').length (docRule cls extP r (P0 ++ List.replicate k '\n')) (docRule cls extD r D) := by
  simp only [ruleClosedCompound, Option.map_eq_some_iff] at hr
  obtain ⟨p, hp, rfl⟩ := hr
  exact mapPhrase_paragraphs_separately env p (exactPhrase_loc env psrc ptoks hq p hp) [good] cls P0 D k extP extD extPD h


/-! ## `ProperNounCapitalizationLinter` -/

/-- chunk-locality of the proper-noun linter for ANY rows whose patterns are `Loc`: the `PatternMap`, the second
`lookup` on the matched tokens, the token-by-token comparison with the canonical document, the span -/
theorem properNoun_xlocal (env : Env) (rows : List PNRow) (hrows : ∀ r ∈ rows, r.pat.Loc) :
    XLocalE (properNounPiece env rows) := properNoun_xlocalE env rows hrows

theorem properNoun_appends (env : Env) (rows : List PNRow) (hrows : ∀ r ∈ rows, r.pat.Loc) :
    Appends (ruleProperNoun env rows) := appends_chunks _ (properNoun_xlocal env rows hrows)

theorem properNoun_paragraphs_separately (env : Env) (rows : List PNRow) (hrows : ∀ r ∈ rows, r.pat.Loc)
    (cls : Cls) (P0 D : List Char) (k : Nat) (extP extD extPD : Ext) (h : ParagraphPair cls P0 D k extP extD extPD) :
    docRule cls extPD (ruleProperNoun env rows) ((P0 ++ List.replicate k '\n') ++ D) =
      joinE (P0 ++ List.replicate k '\n').length (docRule cls extP (ruleProperNoun env rows) (P0 ++ List.replicate k '\n'))
        (docRule cls extD (ruleProperNoun env rows) D) :=
  separately_of_appends _ (properNoun_appends env rows hrows) cls P0 D k extP extD extPD h

/-- a row built by `ProperNounCapitalizationLinter::new` from a canonical version without a paired quotation mark -/
theorem pnRow_loc (env : Env) (psrc : List Char) (ptoks : List Tok) (hq : ∀ t ∈ ptoks, stableKind t.kind = true) (r : PNRow)
    (h : pnRowOf env psrc ptoks = some r) : r.pat.Loc := by
  simp only [pnRowOf, Option.map_eq_some_iff] at h
  obtain ⟨p, hp, rfl⟩ := h
  exact exactPhrase_loc env psrc ptoks hq p hp

/-- **every entry of `proper_noun_rules.json`**: the linter built from ANY canonical versions (given by their
documents) without a paired quotation mark -/
theorem properNounRule_paragraphs_separately (env : Env) (docs : List (List Char × List Tok))
    (hq : ∀ d ∈ docs, ∀ t ∈ d.2, stableKind t.kind = true) (rows : List PNRow)
    (hrows : docs.mapM (fun d => pnRowOf env d.1 d.2) = some rows)
    (cls : Cls) (P0 D : List Char) (k : Nat) (extP extD extPD : Ext) (h : ParagraphPair cls P0 D k extP extD extPD) :
    docRule cls extPD (ruleProperNoun env rows) ((P0 ++ List.replicate k '\n') ++ D) =
      joinE (P0 ++ List.replicate k '\n').length (docRule cls extP (ruleProperNoun env rows) (P0 ++ List.replicate k '\n'))
        (docRule cls extD (ruleProperNoun env rows) D) := by
  apply properNoun_paragraphs_separately env rows _ cls P0 D k extP extD extPD h
  intro r hr
  obtain ⟨d, hd, hrd⟩ := mapM_some_mem _ _ _ hrows r hr
  exact pnRow_loc env d.1 d.2 (hq d hd) r hrd

/-! ## non-vacuity and the counter-example (kernel-evaluated) -/

open Harper.C02 (asciiCls)
open Harper.C01 (phIntact)

/-- the tree `ExactPhrase::from_phrase("in tact")` builds -/
def intactPat : RPat :=
  .seq (.cons (.leaf (.anyCap ['i', 'n'])) (.cons (.leaf .whitespace) (.cons (.leaf (.anyCap ['t', 'a', 'c', 't'])) .nil)))

example : exactPhraseOf env0 phIntact.1 phIntact.2 = some intactPat := rfl

/-- the rule `Intact` of `closed_compounds.rs` on `in tact.¶¶` + `In  tact`: one lint per paragraph, the second
moved by 10, over the two-character blank, capital kept (`replace_with_match_case`) -/
example : docRule asciiCls noExt (ruleMapPhrase env0 intactPat [['i', 'n', 't', 'a', 'c', 't']])
      (['i', 'n', ' ', 't', 'a', 'c', 't', '.', '\n', '\n'] ++ ['I', 'n', ' ', ' ', 't', 'a', 'c', 't']) =
    .ok [⟨⟨0, 7⟩, [.replaceWith ['i', 'n', 't', 'a', 'c', 't']], 13, 0⟩,
      ⟨⟨10, 18⟩, [.replaceWith ['I', 'n', 't', 'a', 'c', 't']], 13, 0⟩] := by decide +kernel

/-- the hypothesis of `closedCompound_paragraphs_separately` about the phrase holds of it -/
example : ∀ t ∈ phIntact.2, stableKind t.kind = true := by decide +kernel

/-- **`Loc` is needed**: `then_strict(Quote { twin_loc: Some(1) })` matches the opening quote of `"a"` at token 0 —
and nothing once the same text stands behind a one-token paragraph (`twin_loc` has become 2) -/
example : (RPat.leaf (.strict (.quote (some 1)))).matcher env0 ['"', 'a', '"'] [⟨⟨0, 1⟩, .quote (some 1)⟩] = .ok 1 ∧
    (RPat.leaf (.strict (.quote (some 1)))).matcher env0 (['x'] ++ ['"', 'a', '"']) (shiftDoc 1 1 [⟨⟨0, 1⟩, .quote (some 1)⟩]) = .ok 0 := by
  decide +kernel

/-- the canonical version `Port au` as the linter stores it, and the tokens of `port Au.¶¶` + `Port  AU`:
one capitalisation lint per paragraph, the suggestion is the canonical document's source -/
def pnDoc : List Char × List Tok :=
  (['P', 'o', 'r', 't', ' ', 'a', 'u'], [⟨⟨0, 4⟩, .word⟩, ⟨⟨4, 5⟩, .space 1⟩, ⟨⟨5, 7⟩, .word⟩])

def pnRow : PNRow where
  pat := .seq (.cons (.leaf (.anyCap ['P', 'o', 'r', 't'])) (.cons (.leaf .whitespace) (.cons (.leaf (.anyCap ['a', 'u'])) .nil)))
  contents := [['P', 'o', 'r', 't'], [' '], ['a', 'u']]
  canon := ['P', 'o', 'r', 't', ' ', 'a', 'u']

example : pnRowOf env0 pnDoc.1 pnDoc.2 = some pnRow := rfl

example : ruleProperNoun env0 [pnRow]
      (['p', 'o', 'r', 't', ' ', 'A', 'u', '.', '\n', '\n'] ++ ['P', 'o', 'r', 't', ' ', ' ', 'A', 'U'])
      [⟨⟨0, 4⟩, .word⟩, ⟨⟨4, 5⟩, .space 1⟩, ⟨⟨5, 7⟩, .word⟩, ⟨⟨7, 8⟩, .punct .Period⟩, ⟨⟨8, 10⟩, .paragraphBreak⟩,
        ⟨⟨10, 14⟩, .word⟩, ⟨⟨14, 16⟩, .space 2⟩, ⟨⟨16, 18⟩, .word⟩] =
    .ok [⟨⟨0, 7⟩, [.replaceWith ['P', 'o', 'r', 't', ' ', 'a', 'u']], 14, 0⟩,
      ⟨⟨10, 18⟩, [.replaceWith ['P', 'o', 'r', 't', ' ', 'a', 'u']], 14, 0⟩] := by decide +kernel

/-- … and nothing on the canonical spelling itself -/
example : docRule asciiCls noExt (ruleProperNoun env0 [pnRow]) ['P', 'o', 'r', 't', ' ', 'a', 'u'] = .ok [] := by decide +kernel

/-! ## every theorem above applied, all its hypotheses together -/

/-- the text-level hypotheses on `in tact.¶¶` + `In  tact` (no url / e-mail / hostname token) -/
theorem paragraphPair_intact : ParagraphPair asciiCls ['i', 'n', ' ', 't', 'a', 'c', 't', '.'] ['I', 'n', ' ', ' ', 't', 'a', 'c', 't'] 2
    noExt noExt noExt where
  cls_ok := ⟨by decide, by decide, by
    intro c h
    simp only [asciiCls, isAsciiDigit, Bool.and_eq_true, decide_eq_true_eq] at h
    refine ⟨?_, ?_, ?_⟩
    · simp only [isAsciiAlpha, Bool.or_eq_false_iff, Bool.and_eq_false_imp, decide_eq_true_eq, decide_eq_false_iff_not]
      constructor <;> intro h3 <;> intro h4
      · exact absurd (Char.le_trans h3 h.2) (by decide)
      · exact absurd (Char.le_trans h3 h.2) (by decide)
    · intro hc; subst hc; exact absurd h.1 (by decide)
    · intro hc; subst hc; exact absurd h.1 (by decide)⟩
  two := by decide
  no_nl_end := by decide
  d_head := by decide
  no_quotes := by decide
  ext_local := ⟨fun _ _ => rfl, fun _ => rfl⟩
  ext_ok_p := by intro _ _ _ h; cases h
  ext_ok_d := by intro _ _ _ h; cases h
  ext_no_nl := by intro _ _ _ h; cases h

/-- … and on `port Au.¶¶` + `Port  AU` -/
theorem paragraphPair_port : ParagraphPair asciiCls ['p', 'o', 'r', 't', ' ', 'A', 'u', '.'] ['P', 'o', 'r', 't', ' ', ' ', 'A', 'U'] 2
    noExt noExt noExt :=
  { paragraphPair_intact with
    no_nl_end := (by decide), d_head := (by decide), no_quotes := (by decide),
    ext_local := ⟨fun _ _ => rfl, fun _ => rfl⟩, ext_ok_p := (by intro _ _ _ h; cases h),
    ext_ok_d := (by intro _ _ _ h; cases h), ext_no_nl := (by intro _ _ _ h; cases h) }

/-- non-vacuity of `exactPhrase_loc` (both hypotheses together), hence of `mapPhrase_xlocal`, `matches_translation`,
`mapPhrase_appends`: the tree of `in tact` is `Loc` -/
theorem intactPat_loc : intactPat.Loc := exactPhrase_loc env0 phIntact.1 phIntact.2 (by decide) intactPat rfl

example : XLocalE (mapPhrasePiece env0 intactPat [['i', 'n', 't', 'a', 'c', 't']]) := mapPhrase_xlocal env0 intactPat intactPat_loc _

/-- non-vacuity of `matches_translation` / `matches_left`: `In  tact` behind `ab ` and in front of ` now` -/
example : intactPat.matcher env0 (['a', 'b', ' '] ++ ['I', 'n', ' ', ' ', 't', 'a', 'c', 't'])
      (shiftDoc 3 2 [⟨⟨0, 2⟩, .word⟩, ⟨⟨2, 4⟩, .space 2⟩, ⟨⟨4, 8⟩, .word⟩]) =
    intactPat.matcher env0 ['I', 'n', ' ', ' ', 't', 'a', 'c', 't'] [⟨⟨0, 2⟩, .word⟩, ⟨⟨2, 4⟩, .space 2⟩, ⟨⟨4, 8⟩, .word⟩] :=
  matches_translation env0 intactPat intactPat_loc _ _ _ 2

example : intactPat.matcher env0 (['I', 'n', ' ', ' ', 't', 'a', 'c', 't'] ++ [' ', 'n', 'o', 'w'])
      [⟨⟨0, 2⟩, .word⟩, ⟨⟨2, 4⟩, .space 2⟩, ⟨⟨4, 8⟩, .word⟩] =
    intactPat.matcher env0 ['I', 'n', ' ', ' ', 't', 'a', 'c', 't'] [⟨⟨0, 2⟩, .word⟩, ⟨⟨2, 4⟩, .space 2⟩, ⟨⟨4, 8⟩, .word⟩] :=
  matches_left env0 intactPat intactPat_loc _ _ _ (by decide +kernel)

example : intactPat.matcher env0 ['I', 'n', ' ', ' ', 't', 'a', 'c', 't'] [⟨⟨0, 2⟩, .word⟩, ⟨⟨2, 4⟩, .space 2⟩, ⟨⟨4, 8⟩, .word⟩] = .ok 3 := by
  decide +kernel

/-- non-vacuity of `mapPhrase_paragraphs_separately` (its conclusion is computed in the `example` above: one lint per
paragraph) -/
example : docRule asciiCls noExt (ruleMapPhrase env0 intactPat [['i', 'n', 't', 'a', 'c', 't']])
      ((['i', 'n', ' ', 't', 'a', 'c', 't', '.'] ++ List.replicate 2 '\n') ++ ['I', 'n', ' ', ' ', 't', 'a', 'c', 't']) =
    joinE (['i', 'n', ' ', 't', 'a', 'c', 't', '.'] ++ List.replicate 2 '\n').length
      (docRule asciiCls noExt (ruleMapPhrase env0 intactPat [['i', 'n', 't', 'a', 'c', 't']]) (['i', 'n', ' ', 't', 'a', 'c', 't', '.'] ++ List.replicate 2 '\n'))
      (docRule asciiCls noExt (ruleMapPhrase env0 intactPat [['i', 'n', 't', 'a', 'c', 't']]) ['I', 'n', ' ', ' ', 't', 'a', 'c', 't']) :=
  mapPhrase_paragraphs_separately env0 intactPat intactPat_loc _ asciiCls _ _ 2 _ _ _ paragraphPair_intact

/-- non-vacuity of `exactPhrases_loc` and `phraseCorrection_paragraphs_separately`: `new_exact_phrases(["in tact"], …)` -/
example : (RPat.either (.cons intactPat .nil)).Loc := exactPhrases_loc env0 [phIntact] (by decide +kernel) _ rfl

example : docRule asciiCls noExt (ruleMapPhrase env0 (.either (.cons intactPat .nil)) [['i', 'n', 't', 'a', 'c', 't']])
      ((['i', 'n', ' ', 't', 'a', 'c', 't', '.'] ++ List.replicate 2 '\n') ++ ['I', 'n', ' ', ' ', 't', 'a', 'c', 't']) =
    joinE (['i', 'n', ' ', 't', 'a', 'c', 't', '.'] ++ List.replicate 2 '\n').length
      (docRule asciiCls noExt (ruleMapPhrase env0 (.either (.cons intactPat .nil)) [['i', 'n', 't', 'a', 'c', 't']])
        (['i', 'n', ' ', 't', 'a', 'c', 't', '.'] ++ List.replicate 2 '\n'))
      (docRule asciiCls noExt (ruleMapPhrase env0 (.either (.cons intactPat .nil)) [['i', 'n', 't', 'a', 'c', 't']]) ['I', 'n', ' ', ' ', 't', 'a', 'c', 't']) :=
  phraseCorrection_paragraphs_separately env0 [phIntact] (by decide +kernel) _ rfl _ asciiCls _ _ 2 _ _ _ paragraphPair_intact

/-- non-vacuity of `closedCompound_paragraphs_separately`: `new_closed_compound("in tact", "intact")` -/
example : docRule asciiCls noExt (ruleMapPhrase env0 intactPat [['i', 'n', 't', 'a', 'c', 't']])
      ((['i', 'n', ' ', 't', 'a', 'c', 't', '.'] ++ List.replicate 2 '\n') ++ ['I', 'n', ' ', ' ', 't', 'a', 'c', 't']) =
    joinE (['i', 'n', ' ', 't', 'a', 'c', 't', '.'] ++ List.replicate 2 '\n').length
      (docRule asciiCls noExt (ruleMapPhrase env0 intactPat [['i', 'n', 't', 'a', 'c', 't']]) (['i', 'n', ' ', 't', 'a', 'c', 't', '.'] ++ List.replicate 2 '\n'))
      (docRule asciiCls noExt (ruleMapPhrase env0 intactPat [['i', 'n', 't', 'a', 'c', 't']]) ['I', 'n', ' ', ' ', 't', 'a', 'c', 't']) :=
  closedCompound_paragraphs_separately env0 phIntact.1 phIntact.2 (by decide +kernel) ['i', 'n', 't', 'a', 'c', 't'] _ rfl asciiCls _ _ 2 _ _ _
    paragraphPair_intact

/-- non-vacuity of `pnRow_loc`, `properNoun_xlocal`, `properNoun_appends`: the row of `Port au` -/
theorem pnRow_isLoc : pnRow.pat.Loc := pnRow_loc env0 pnDoc.1 pnDoc.2 (by decide) pnRow rfl

example : XLocalE (properNounPiece env0 [pnRow]) :=
  properNoun_xlocal env0 [pnRow] (by intro r hr; simp at hr; subst hr; exact pnRow_isLoc)

theorem pnRows_of : [pnDoc].mapM (fun d => pnRowOf env0 d.1 d.2) = some [pnRow] := by
  simp only [List.mapM_cons, List.mapM_nil]
  rfl

/-- non-vacuity of `properNoun_paragraphs_separately` / `properNounRule_paragraphs_separately`: `port Au.¶¶` + `Port  AU` -/
example : docRule asciiCls noExt (ruleProperNoun env0 [pnRow])
      ((['p', 'o', 'r', 't', ' ', 'A', 'u', '.'] ++ List.replicate 2 '\n') ++ ['P', 'o', 'r', 't', ' ', ' ', 'A', 'U']) =
    joinE (['p', 'o', 'r', 't', ' ', 'A', 'u', '.'] ++ List.replicate 2 '\n').length
      (docRule asciiCls noExt (ruleProperNoun env0 [pnRow]) (['p', 'o', 'r', 't', ' ', 'A', 'u', '.'] ++ List.replicate 2 '\n'))
      (docRule asciiCls noExt (ruleProperNoun env0 [pnRow]) ['P', 'o', 'r', 't', ' ', ' ', 'A', 'U']) :=
  properNounRule_paragraphs_separately env0 [pnDoc] (by decide +kernel) [pnRow] pnRows_of asciiCls _ _ 2 _ _ _ paragraphPair_port

/-- … where the tokens of the `example` above are the document of these characters (so its two lints, one per
paragraph, are the left-hand side here) -/
example : (document asciiCls noExt
      ((['p', 'o', 'r', 't', ' ', 'A', 'u', '.'] ++ List.replicate 2 '\n') ++ ['P', 'o', 'r', 't', ' ', ' ', 'A', 'U'])).toOption =
    some [⟨⟨0, 4⟩, .word⟩, ⟨⟨4, 5⟩, .space 1⟩, ⟨⟨5, 7⟩, .word⟩, ⟨⟨7, 8⟩, .punct .Period⟩, ⟨⟨8, 10⟩, .paragraphBreak⟩,
      ⟨⟨10, 14⟩, .word⟩, ⟨⟨14, 16⟩, .space 2⟩, ⟨⟨16, 18⟩, .word⟩] := by decide +kernel

end Harper.C12
