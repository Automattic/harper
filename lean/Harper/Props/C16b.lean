import Harper.Props.C16
import Harper.Props.C13c
/-!
# C16, second part — what the JS API reports does not depend on the order of the rules

`harper_wasm::Linter::lint` hands `LintGroup::lint`'s output — pushed rule by rule in the order of a
hash map — to `remove_overlaps`. `Props/C13c.lean` shows that the spans `remove_overlaps` keeps are
a function of the multiset of spans; this file carries that through the position look-up of the
model's `dedup` (`Model/Wasm.lean`), which is what the driver runs for the `lint` op:

* `dedup_spans` (`Props/C16.lean`) — the spans of `dedup raw` are the keys `removeOverlaps` keeps;
* `dedup_spans_order_independent` — permuting the raw lints leaves the reported spans unchanged;
* `dedup_spans_idempotent` — de-duplicating the reported lints again reports the same spans, so a
  client that post-processes with `remove_overlaps` once more (the CLI does, `harper.js` may) loses
  nothing.
-/
namespace Harper.C16
open Harper Harper.Wasm Harper.C13

/-- the span of a raw lint -/
def rspan (l : RawLint) : Nat × Nat := (l.start, l.stop)

theorem toOv_keys (raw : List RawLint) : (toOv raw).map Lint.key = raw.map rspan := by
  unfold toOv
  rw [List.map_map]
  have : (Lint.key ∘ fun p : RawLint × Nat => (⟨p.1.start, p.1.stop, p.2⟩ : Harper.Lint))
      = rspan ∘ Prod.fst := by
    funext p; rfl
  rw [this, ← List.map_map, List.zipIdx_map_fst]

/-- `dedup_spans` (`Props/C16.lean`) in the vocabulary of `Props/C13c.lean` -/
theorem dedup_rspans (raw : List RawLint) :
    (dedup raw).map rspan = (removeOverlaps (toOv raw)).map Lint.key :=
  dedup_spans raw

/-- **the reported spans do not depend on the order in which the rules pushed their lints** -/
theorem dedup_spans_order_independent (raw₁ raw₂ : List RawLint) (h : raw₁.Perm raw₂) :
    (dedup raw₁).map rspan = (dedup raw₂).map rspan := by
  rw [dedup_rspans, dedup_rspans]
  apply removeOverlaps_spans_keyperm_invariant
  rw [toOv_keys, toOv_keys]
  exact h.map _

theorem dedup_idempotent (raw : List RawLint) : dedup (dedup raw) = dedup raw := by
  rw [dedup_eq, dedup_eq]; exact removeOverlapsBy_idempotent raw

/-- **resolving the reported lints once more reports the same spans** -/
theorem dedup_spans_idempotent (raw : List RawLint) :
    (dedup (dedup raw)).map rspan = (dedup raw).map rspan := by
  rw [dedup_idempotent]

/-! non-vacuity: four raw lints (a long one containing two disjoint others, and one touching its
end), in two orders -/
def exRaw : List RawLint :=
  [{ (default : RawLint) with start := 0, stop := 9 }, { (default : RawLint) with start := 2, stop := 4 },
   { (default : RawLint) with start := 5, stop := 8 }, { (default : RawLint) with start := 9, stop := 12 }]

example : (dedup exRaw).map rspan = [(0, 9), (9, 12)] := by decide +kernel
example : (dedup exRaw.reverse).map rspan = [(0, 9), (9, 12)] := by decide +kernel

end Harper.C16
