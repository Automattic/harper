import Harper.Lemmas.Suggestion
/-!
# C03 — every lint points into the text; every suggestion is a well-defined local edit

Property theorems only; helper lemmas are in `Harper/Lemmas/Suggestion.lean`.
The model (`Harper/Model/Suggestion.lean`) is `Suggestion::apply` branch by branch
(`span.len()` with overflow checks, in-place overwrite loop, `split_off`/`extend`/`skip`,
shifting loop + `truncate`) and the `pull_by`/`push_by` arithmetic of the chunk cache of
`LintGroup::lint`. All theorems are for an arbitrary element type `α`.

What is *proved* here is the primitive (every suggestion on an in-range span is the splice
`take start ++ new ++ drop end`, and exactly which out-of-range spans panic) and the rebasing
(spans built by `TokenStringExt::span` from tokens of a chunk survive the cache at any offset).
That every rule builds its span inside the text is *explored* by the harness on real lints, not
proved.
-/
namespace Harper.C03
open Harper

variable {α : Type}

/-! ### What each branch does on any span -/

/-- `ReplaceWith` on any span: `start > end` panics in `span.len()`; with equal lengths the in-place
loop indexes out of bounds when the (non-empty) replacement does not fit; with different lengths
`split_off(start)` panics when `start > len`; otherwise the splice. -/
theorem apply_replace_eq (src r : List α) (sp : Span) :
    (Suggestion.replaceWith r).apply sp src =
      if sp.start > sp.stop
          ∨ (r.length = sp.stop - sp.start ∧ r ≠ [] ∧ sp.stop > src.length)
          ∨ (r.length ≠ sp.stop - sp.start ∧ sp.start > src.length)
      then .error (if sp.start > sp.stop then .underflow else .sliceOOB)
      else .ok (src.take sp.start ++ r ++ src.drop sp.stop) := by
  by_cases hbad : sp.start > sp.stop
  · rw [if_pos (Or.inl hbad), if_pos hbad]
    simp only [Suggestion.apply, Span.lenChecked, hbad, if_true]
  · have hse := Nat.add_sub_cancel' (Nat.le_of_not_lt hbad)
    by_cases hlen : r.length = sp.stop - sp.start
    · by_cases hfit : sp.stop ≤ src.length ∨ r = []
      · rw [if_neg]
        · simp only [Suggestion.apply, Span.lenChecked, hbad, if_false, hlen, if_true,
            overwriteLoop_eq, Nat.zero_add, hse, hfit]
        · rintro (h | ⟨_, hne, hgt⟩ | ⟨hn, _⟩)
          · exact hbad h
          · exact absurd (hfit.resolve_right hne) (Nat.not_le.mpr hgt)
          · exact hn hlen
      · rw [if_pos (Or.inr (Or.inl ⟨hlen, (not_or.mp hfit).2, Nat.lt_of_not_le (not_or.mp hfit).1⟩)),
          if_neg hbad]
        simp only [Suggestion.apply, Span.lenChecked, hbad, if_false, hlen, if_true,
          overwriteLoop_eq, Nat.zero_add, hse, hfit]
    · by_cases hs : sp.start > src.length
      · rw [if_pos (Or.inr (Or.inr ⟨hlen, hs⟩)), if_neg hbad]
        simp only [Suggestion.apply, Span.lenChecked, hbad, if_false, hlen, Vec.splitOff, hs,
          if_true]
      · rw [if_neg]
        · simp only [Suggestion.apply, Span.lenChecked, hbad, if_false, hlen, Vec.splitOff, hs,
            List.drop_drop, hse]
        · rintro (h | ⟨he, _⟩ | ⟨_, h⟩)
          · exact hbad h
          · exact hlen he
          · exact hs h

/-- `InsertAfter` only looks at `end`: `split_off(end)`. -/
theorem apply_insertAfter_eq (src r : List α) (sp : Span) :
    (Suggestion.insertAfter r).apply sp src =
      if sp.stop > src.length then .error .sliceOOB
      else .ok (src.take sp.stop ++ r ++ src.drop sp.stop) := by
  by_cases hs : sp.stop > src.length
  · simp only [Suggestion.apply, Vec.splitOff, hs, if_true]
  · simp only [Suggestion.apply, Vec.splitOff, hs, if_false]

/-- `Remove` on any span: `span.len()` underflows when `start > end`, `source.len() - span.len()`
when the span is longer than the text; a span inside the text is cut out; one that ends past the
end of the text is not shifted over at all and `truncate` cuts its length off the END. -/
theorem apply_remove_eq (src : List α) (sp : Span) :
    (Suggestion.remove : Suggestion α).apply sp src =
      if sp.start > sp.stop ∨ sp.stop - sp.start > src.length then .error .underflow
      else .ok (if sp.stop ≤ src.length then src.take sp.start ++ src.drop sp.stop
                else src.take (src.length - (sp.stop - sp.start))) := by
  by_cases hbad : sp.start > sp.stop
  · cases hk : src.length - sp.stop with
    | zero => simp only [Suggestion.apply, hk, shiftLoop, Span.lenChecked, hbad, true_or, if_true]
    | succ k => simp only [Suggestion.apply, hk, shiftLoop_err sp hbad, hbad, true_or, if_true]
  · have hl : sp.lenChecked = .ok (sp.stop - sp.start) := by
      simp only [Span.lenChecked, hbad, if_false]
    by_cases he : sp.stop ≤ src.length
    · have hse : sp.start + (sp.stop - sp.start) = sp.stop := by omega
      have hsh := shiftLoop_ok sp _ hl (src.length - sp.stop) sp.start src (by omega)
      rw [hse, List.take_of_length_le (l := src.drop sp.stop)
        (by rw [List.length_drop]; exact Nat.le_refl _)] at hsh
      have hlen : (src.take sp.start ++ src.drop sp.stop
          ++ src.drop (sp.start + (src.length - sp.stop))).length = src.length := by
        simp only [List.length_append, List.length_take, List.length_drop]; omega
      have hlong : ¬ sp.stop - sp.start > src.length := by omega
      simp only [Suggestion.apply, hsh, hl, Vec.checkedSub, hlen, hlong, hbad, or_self, he,
        if_true, if_false]
      congr 1
      apply List.take_left'
      simp only [List.length_append, List.length_take, List.length_drop]; omega
    · have hk : src.length - sp.stop = 0 := by omega
      by_cases hlong : sp.stop - sp.start > src.length
      · simp only [Suggestion.apply, hk, shiftLoop, hl, Vec.checkedSub, hlong, or_true, if_true]
      · simp only [Suggestion.apply, hk, shiftLoop, hl, Vec.checkedSub, hlong, hbad, or_self, he,
          if_false]

/-! ### The three branches on a span that points into the text -/

/-- `ReplaceWith` substitutes exactly the flagged characters (both the in-place branch for equal
lengths and the `split_off` branch). -/
theorem apply_replace (src r : List α) (sp : Span)
    (h1 : sp.start ≤ sp.stop) (h2 : sp.stop ≤ src.length) :
    (Suggestion.replaceWith r).apply sp src
      = .ok (src.take sp.start ++ r ++ src.drop sp.stop) := by
  rw [apply_replace_eq, if_neg (by omega)]

/-- `InsertAfter` adds text right after the flagged characters, which stay. -/
theorem apply_insertAfter (src r : List α) (sp : Span)
    (h1 : sp.start ≤ sp.stop) (h2 : sp.stop ≤ src.length) :
    (Suggestion.insertAfter r).apply sp src
      = .ok (src.take sp.start ++ ((src.drop sp.start).take (sp.stop - sp.start) ++ r)
              ++ src.drop sp.stop) := by
  rw [apply_insertAfter_eq, if_neg (by omega), ← take_append_flagged src h1]
  simp only [List.append_assoc]

/-- `Remove` deletes exactly the flagged characters (index-shifting loop, then `truncate`). -/
theorem apply_remove (src : List α) (sp : Span)
    (h1 : sp.start ≤ sp.stop) (h2 : sp.stop ≤ src.length) :
    (Suggestion.remove : Suggestion α).apply sp src
      = .ok (src.take sp.start ++ [] ++ src.drop sp.stop) := by
  rw [apply_remove_eq, if_neg (by omega), if_pos h2, List.append_nil]

/-- All three at once: a suggestion on a span that points into the text is the splice that puts
`newText` (replacement / flagged text ++ inserted / nothing) in place of the flagged text. -/
theorem apply_spec (sug : Suggestion α) (src : List α) (sp : Span)
    (h1 : sp.start ≤ sp.stop) (h2 : sp.stop ≤ src.length) :
    sug.apply sp src
      = .ok (src.take sp.start
              ++ sug.newText ((src.drop sp.start).take (sp.stop - sp.start))
              ++ src.drop sp.stop) := by
  cases sug with
  | replaceWith r => exact apply_replace src r sp h1 h2
  | insertAfter r => exact apply_insertAfter src r sp h1 h2
  | remove => exact apply_remove src sp h1 h2

/-- in particular applying a suggestion to a lint that points into the text never panics -/
theorem apply_succeeds (sug : Suggestion α) (src : List α) (sp : Span)
    (h1 : sp.start ≤ sp.stop) (h2 : sp.stop ≤ src.length) : ∃ out, sug.apply sp src = .ok out :=
  ⟨_, apply_spec sug src sp h1 h2⟩

/-! ### Corollaries: everything before and after the span is preserved -/

theorem apply_prefix_preserved (sug : Suggestion α) (src out : List α) (sp : Span)
    (h1 : sp.start ≤ sp.stop) (h2 : sp.stop ≤ src.length) (h : sug.apply sp src = .ok out) :
    out.take sp.start = src.take sp.start := by
  rw [apply_spec sug src sp h1 h2] at h
  cases h
  rw [List.append_assoc, List.take_left' (by rw [List.length_take]; omega)]

/-- the last `src.length - end` characters of the result are the text after the span -/
theorem apply_suffix_preserved (sug : Suggestion α) (src out : List α) (sp : Span)
    (h1 : sp.start ≤ sp.stop) (h2 : sp.stop ≤ src.length) (h : sug.apply sp src = .ok out) :
    out.drop (out.length - (src.length - sp.stop)) = src.drop sp.stop := by
  rw [apply_spec sug src sp h1 h2] at h
  cases h
  apply List.drop_left'
  simp only [List.length_append, List.length_take, List.length_drop]
  omega

theorem apply_length (sug : Suggestion α) (src out : List α) (sp : Span)
    (h1 : sp.start ≤ sp.stop) (h2 : sp.stop ≤ src.length) (h : sug.apply sp src = .ok out) :
    out.length = sp.start
      + (sug.newText ((src.drop sp.start).take (sp.stop - sp.start))).length
      + (src.length - sp.stop) := by
  rw [apply_spec sug src sp h1 h2] at h
  cases h
  simp only [List.length_append, List.length_take, List.length_drop]
  omega

/-- per kind: `|out| = |src| - |flagged| + |r|`, `|src| + |r|`, `|src| - |flagged|` -/
theorem apply_length_kinds (src r : List α) (sp : Span)
    (h1 : sp.start ≤ sp.stop) (h2 : sp.stop ≤ src.length) :
    (∀ out, (Suggestion.replaceWith r).apply sp src = .ok out →
        out.length = src.length - (sp.stop - sp.start) + r.length) ∧
    (∀ out, (Suggestion.insertAfter r).apply sp src = .ok out →
        out.length = src.length + r.length) ∧
    (∀ out, (Suggestion.remove : Suggestion α).apply sp src = .ok out →
        out.length = src.length - (sp.stop - sp.start)) := by
  have hfl : ((src.drop sp.start).take (sp.stop - sp.start)).length = sp.stop - sp.start := by
    rw [List.length_take, List.length_drop]; omega
  have e : sp.start + (src.length - sp.stop) = src.length - (sp.stop - sp.start) := by omega
  refine ⟨fun out h => ?_, fun out h => ?_, fun out h => ?_⟩
  · rw [apply_length _ src out sp h1 h2 h, Suggestion.newText, Nat.add_right_comm, e]
  · rw [apply_length _ src out sp h1 h2 h, Suggestion.newText, List.length_append, hfl,
      ← Nat.add_assoc, Nat.add_sub_of_le h1, Nat.add_right_comm, Nat.add_sub_of_le h2]
  · rw [apply_length _ src out sp h1 h2 h, Suggestion.newText, List.length_nil, Nat.add_zero, e]

/-! ### Which out-of-range spans the code rejects (one `…_panics_iff` per branch) -/

/-- `ReplaceWith` panics exactly when `start > end` (in `span.len()`), or, replacement and span
having equal non-zero length, when `end > len` (index out of bounds), or, the lengths being
different, when `start > len` (`split_off`). In every other case — including an empty replacement
at an empty span anywhere, and `end > len` with different lengths — it returns the splice. -/
theorem apply_replace_panics_iff (src r : List α) (sp : Span) :
    (∃ p, (Suggestion.replaceWith r).apply sp src = .error p) ↔
      (sp.start > sp.stop
        ∨ (r.length = sp.stop - sp.start ∧ r ≠ [] ∧ sp.stop > src.length)
        ∨ (r.length ≠ sp.stop - sp.start ∧ sp.start > src.length)) :=
  (of_eq_ite (apply_replace_eq src r sp)).1

/-- whenever `ReplaceWith` does not panic, its result is the splice (past the end of the text
`drop` is empty) -/
theorem apply_replace_of_no_panic (src r out : List α) (sp : Span)
    (h : (Suggestion.replaceWith r).apply sp src = .ok out) :
    out = src.take sp.start ++ r ++ src.drop sp.stop :=
  (of_eq_ite (apply_replace_eq src r sp)).2 out h

/-- `InsertAfter` panics exactly when `end > len` (`split_off(span.end)`); `start` is never
looked at. -/
theorem apply_insertAfter_panics_iff (src r : List α) (sp : Span) :
    (∃ p, (Suggestion.insertAfter r).apply sp src = .error p) ↔ sp.stop > src.length :=
  (of_eq_ite (apply_insertAfter_eq src r sp)).1

theorem apply_insertAfter_of_no_panic (src r out : List α) (sp : Span)
    (h : (Suggestion.insertAfter r).apply sp src = .ok out) :
    out = src.take sp.stop ++ r ++ src.drop sp.stop :=
  (of_eq_ite (apply_insertAfter_eq src r sp)).2 out h

/-- `Remove` panics exactly when `start > end` (in `span.len()`) or the span is longer than the
text (`source.len() - span.len()` underflows). -/
theorem apply_remove_panics_iff (src : List α) (sp : Span) :
    (∃ p, (Suggestion.remove : Suggestion α).apply sp src = .error p) ↔
      (sp.start > sp.stop ∨ sp.stop - sp.start > src.length) :=
  (of_eq_ite (apply_remove_eq src sp)).1

/-- A quirk the model shares with the code: a well-formed span that ends past the end of the
text, but is not longer than the text, does not panic — the loop does not run and `truncate`
cuts `end - start` characters off the END of the text. -/
theorem apply_remove_past_end (src : List α) (sp : Span)
    (h1 : sp.start ≤ sp.stop) (h2 : sp.stop > src.length)
    (h3 : sp.stop - sp.start ≤ src.length) :
    (Suggestion.remove : Suggestion α).apply sp src
      = .ok (src.take (src.length - (sp.stop - sp.start))) := by
  rw [apply_remove_eq, if_neg (by omega), if_neg (by omega)]

/-! ### Rebasing in the chunk cache of `LintGroup::lint` -/

/-- `pull_by` (dev profile) panics exactly when it would go below zero. -/
theorem pullBy_panics_iff (s : Span) (c : Nat) :
    (∃ p, s.pullBy c = .error p) ↔ (c > s.start ∨ c > s.stop) := by
  unfold Span.pullBy
  by_cases h : c > s.start ∨ c > s.stop
  · rw [if_pos h]; exact ⟨fun _ => h, fun _ => ⟨_, rfl⟩⟩
  · rw [if_neg h]; exact ⟨fun ⟨_, hp⟩ => (by cases hp), fun hc => absurd hc h⟩

/-- Storing a span relative to a chunk start that is not after it, and replaying it at the same
chunk start, gives the span back. (`c ≤ s.stop` follows from `c ≤ s.start` for a well-formed
span; `pull_by` subtracts from both fields.) -/
theorem rebase_roundtrip (s : Span) (c : Nat) (h : c ≤ s.start) (h' : c ≤ s.stop) :
    ∃ s', s.pullBy c = .ok s' ∧ s'.pushBy c = s := by
  refine ⟨_, pullBy_of_le s c h h', ?_⟩
  rw [Span.pushBy, Nat.sub_add_cancel h, Nat.sub_add_cancel h']

theorem rebase_roundtrip_wf (s : Span) (c : Nat) (hwf : s.WF) (h : c ≤ s.start) :
    ∃ s', s.pullBy c = .ok s' ∧ s'.pushBy c = s :=
  rebase_roundtrip s c h (Nat.le_trans h hwf)

/-- `TokenStringExt::span` of the tokens of a chunk, when their spans are well formed and in
increasing order, is (first.start, last.end). -/
theorem tokenSpan_first_last (t : Span) (ts : List Span)
    (hwf : ∀ x ∈ t :: ts, x.start ≤ x.stop)
    (hord : (t :: ts).Pairwise (fun a b => a.stop ≤ b.start)) :
    tokenSpan (t :: ts) = some ⟨t.start, ((t :: ts).getLast (by simp)).stop⟩ := by
  obtain ⟨sp, hs⟩ := tokenSpan_cons t ts
  obtain ⟨hmin, hmax, hall⟩ := tokenSpan_some hs
  have hb := endpoints_between t ts hwf hord
  -- first.start and last.stop are endpoints themselves, so they bound `sp` and `sp` bounds them
  have a1 := (hall _ (mem_endpoints.mpr ⟨t, List.mem_cons_self, Or.inl rfl⟩)).1
  have a2 := (hall _ (mem_endpoints.mpr ⟨_, List.getLast_mem (by simp), Or.inr rfl⟩)).2
  have b1 := (hb _ hmin).1
  have b2 := (hb _ hmax).2
  rw [hs]
  cases sp
  simp only [Option.some.injEq, Span.mk.injEq]
  simp only at a1 a2 b1 b2
  omega

/-- A lint whose span is `TokenStringExt::span` of any non-empty selection `sub` of the tokens of
a chunk (in particular a contiguous sub-slice, as `run_on_chunk` hands to `match_to_lint`) lies
within the chunk's span and is well formed. No ordering hypothesis is needed: `span()` is a
min/max over endpoints. -/
theorem tokenSpan_in_chunk (chunk sub : List Span) (cs ls : Span)
    (hsub : ∀ t ∈ sub, t ∈ chunk)
    (hc : tokenSpan chunk = some cs) (hl : tokenSpan sub = some ls) :
    cs.start ≤ ls.start ∧ ls.start ≤ ls.stop ∧ ls.stop ≤ cs.stop := by
  obtain ⟨_, _, hcall⟩ := tokenSpan_some hc
  obtain ⟨hmin, hmax, hlall⟩ := tokenSpan_some hl
  have hsube : ∀ x ∈ endpoints sub, x ∈ endpoints chunk := by
    intro x hx
    obtain ⟨u, hu, h⟩ := mem_endpoints.mp hx
    exact mem_endpoints.mpr ⟨u, hsub u hu, h⟩
  exact ⟨(hcall _ (hsube _ hmin)).1, (hlall _ hmax).1, (hcall _ (hsube _ hmax)).2⟩

/-- the contiguous case, as in `run_on_chunk`: `chunk[cursor .. cursor + match_len]` -/
theorem tokenSpan_in_chunk_slice (pre sub post : List Span) (cs ls : Span)
    (hc : tokenSpan (pre ++ sub ++ post) = some cs) (hl : tokenSpan sub = some ls) :
    cs.start ≤ ls.start ∧ ls.start ≤ ls.stop ∧ ls.stop ≤ cs.stop :=
  tokenSpan_in_chunk (pre ++ sub ++ post) sub cs ls
    (fun _ ht => List.mem_append_left _ (List.mem_append_right _ ht)) hc hl

/-- Hence in `LintGroup::lint` the `pull_by(chunk_span.start)` of such a lint cannot underflow,
and the cached relative span replayed (`push_by`) for a chunk starting at any other offset `c'`
lies within `[c', c' + chunk length]` — the other chunk's span, since equal cache keys mean equal
chunk characters, hence equal length — is well formed and keeps its length. -/
theorem cachedLint_inbounds (chunk sub : List Span) (cs ls : Span) (c' : Nat)
    (hsub : ∀ t ∈ sub, t ∈ chunk)
    (hc : tokenSpan chunk = some cs) (hl : tokenSpan sub = some ls) :
    ∃ out, rebase ls cs.start c' = .ok out ∧
      c' ≤ out.start ∧ out.start ≤ out.stop ∧ out.stop ≤ c' + (cs.stop - cs.start) ∧
      out.stop - out.start = ls.stop - ls.start := by
  obtain ⟨h1, h2, h3⟩ := tokenSpan_in_chunk chunk sub cs ls hsub hc hl
  refine ⟨⟨ls.start - cs.start + c', ls.stop - cs.start + c'⟩, ?_, ?_⟩
  · rw [rebase, pullBy_of_le ls cs.start h1 (Nat.le_trans h1 h2)]; rfl
  · show c' ≤ ls.start - cs.start + c' ∧ ls.start - cs.start + c' ≤ ls.stop - cs.start + c' ∧
      ls.stop - cs.start + c' ≤ c' + (cs.stop - cs.start) ∧
      ls.stop - cs.start + c' - (ls.start - cs.start + c') = ls.stop - ls.start
    omega

/-- on a cache miss (`c' = chunk start`) the lint comes back unchanged -/
theorem cachedLint_same_offset (chunk sub : List Span) (cs ls : Span)
    (hsub : ∀ t ∈ sub, t ∈ chunk)
    (hc : tokenSpan chunk = some cs) (hl : tokenSpan sub = some ls) :
    rebase ls cs.start cs.start = .ok ls := by
  obtain ⟨h1, h2, h3⟩ := tokenSpan_in_chunk chunk sub cs ls hsub hc hl
  obtain ⟨s', hp, hq⟩ := rebase_roundtrip ls cs.start h1 (Nat.le_trans h1 h2)
  rw [rebase, hp]; exact congrArg Except.ok hq

/-! ### Non-vacuity and witnesses (concrete, kernel-evaluated; text as code points) -/

/-- in-range instances of the three branches ("abcde", span 1..3) -/
example : (Suggestion.replaceWith [120, 121]).apply ⟨1, 3⟩ [97, 98, 99, 100, 101]
    = .ok [97, 120, 121, 100, 101] := rfl   -- equal length: in place
example : (Suggestion.replaceWith [120]).apply ⟨1, 3⟩ [97, 98, 99, 100, 101]
    = .ok [97, 120, 100, 101] := rfl        -- split_off / extend / skip
example : (Suggestion.insertAfter [44]).apply ⟨1, 3⟩ [97, 98, 99, 100, 101]
    = .ok [97, 98, 99, 44, 100, 101] := rfl
example : (Suggestion.remove : Suggestion Nat).apply ⟨1, 3⟩ [97, 98, 99, 100, 101]
    = .ok [97, 100, 101] := rfl
/-- the hypotheses `start ≤ end ≤ len` hold of that instance -/
example : (⟨1, 3⟩ : Span).start ≤ (⟨1, 3⟩ : Span).stop
    ∧ (⟨1, 3⟩ : Span).stop ≤ [97, 98, 99, 100, 101].length := by decide +kernel

/-- `start > end` panics in `ReplaceWith` and `Remove` (`span.len()` underflow) … -/
example : (Suggestion.replaceWith [120]).apply ⟨2, 1⟩ [97, 98, 99] = .error .underflow := rfl
example : (Suggestion.remove : Suggestion Nat).apply ⟨2, 1⟩ [97, 98, 99] = .error .underflow := rfl
/-- … but not in `InsertAfter`, which only looks at `end` -/
example : (Suggestion.insertAfter [44]).apply ⟨2, 1⟩ [97, 98, 99] = .ok [97, 44, 98, 99] := rfl
/-- `end > len`: equal-length replace indexes out of bounds, the other replace branch does not -/
example : (Suggestion.replaceWith [120]).apply ⟨3, 4⟩ [97, 98, 99] = .error .sliceOOB := rfl
example : (Suggestion.replaceWith [120, 121]).apply ⟨3, 4⟩ [97, 98, 99]
    = .ok [97, 98, 99, 120, 121] := rfl
/-- `start > len`: `split_off` panics; an empty replacement at an empty span does nothing -/
example : (Suggestion.replaceWith [120]).apply ⟨4, 4⟩ [97, 98, 99] = .error .sliceOOB := rfl
example : (Suggestion.replaceWith ([] : List Nat)).apply ⟨4, 4⟩ [97, 98, 99]
    = .ok [97, 98, 99] := rfl
example : (Suggestion.insertAfter [44]).apply ⟨3, 4⟩ [97, 98, 99] = .error .sliceOOB := rfl
/-- `Remove` with `end > len` silently cuts the end of the text; longer than the text: panic -/
example : (Suggestion.remove : Suggestion Nat).apply ⟨2, 4⟩ [97, 98, 99] = .ok [97] := rfl
example : (Suggestion.remove : Suggestion Nat).apply ⟨0, 4⟩ [97, 98, 99] = .error .underflow := rfl

/-- rebasing: `pull_by` underflow is a panic; a round trip; a replay at another offset -/
example : (⟨3, 5⟩ : Span).pullBy 4 = .error .underflow := rfl
example : rebase ⟨7, 9⟩ 5 5 = .ok ⟨7, 9⟩ := rfl
example : rebase ⟨7, 9⟩ 5 20 = .ok ⟨22, 24⟩ := rfl
/-- without `c ≤ s.stop` (a span with `start > end`) the round trip fails: hypothesis is needed -/
example : (⟨5, 3⟩ : Span).pullBy 4 = .error .underflow := rfl

/-- a chunk "the cat sat," at offset 10 (word, space, word, space, word, comma) and the sub-slice
"cat sat": the hypotheses of `tokenSpan_in_chunk` / `cachedLint_inbounds` hold non-trivially -/
example : tokenSpan [⟨10, 13⟩, ⟨13, 14⟩, ⟨14, 17⟩, ⟨17, 18⟩, ⟨18, 21⟩, ⟨21, 22⟩]
    = some ⟨10, 22⟩ := by decide +kernel
example : tokenSpan [⟨14, 17⟩, ⟨17, 18⟩, ⟨18, 21⟩] = some ⟨14, 21⟩ := by decide +kernel
example : ∀ t ∈ [(⟨14, 17⟩ : Span), ⟨17, 18⟩, ⟨18, 21⟩],
    t ∈ [(⟨10, 13⟩ : Span), ⟨13, 14⟩, ⟨14, 17⟩, ⟨17, 18⟩, ⟨18, 21⟩, ⟨21, 22⟩] := by decide +kernel
example : rebase ⟨14, 21⟩ 10 40 = .ok ⟨44, 51⟩ := rfl
/-- `span()` is a min/max, not first/last: unordered tokens still give the enclosing span -/
example : tokenSpan [⟨5, 7⟩, ⟨1, 2⟩] = some ⟨1, 7⟩ := by decide +kernel
example : tokenSpan [] = none := rfl
/-- the hypotheses of `tokenSpan_first_last` are satisfiable -/
example : (∀ x ∈ [(⟨10, 13⟩ : Span), ⟨13, 14⟩, ⟨14, 17⟩], x.start ≤ x.stop) ∧
    [(⟨10, 13⟩ : Span), ⟨13, 14⟩, ⟨14, 17⟩].Pairwise (fun a b => a.stop ≤ b.start) := by
  decide +kernel

/-! ### The theorems applied to concrete values -/

/-- non-vacuity of `apply_spec` / `apply_succeeds` / `apply_prefix_preserved` / `apply_suffix_preserved` /
`apply_length`: the theorems applied at "abcde", span 1..3, all hypotheses discharged together -/
example : (Suggestion.replaceWith [120]).apply ⟨1, 3⟩ [97, 98, 99, 100, 101]
    = .ok ([97, 98, 99, 100, 101].take 1 ++ [120] ++ [97, 98, 99, 100, 101].drop 3) :=
  apply_spec (.replaceWith [120]) [97, 98, 99, 100, 101] ⟨1, 3⟩ (by decide +kernel) (by decide +kernel)
example : ([97, 120, 100, 101] : List Nat).take 1 = [97, 98, 99, 100, 101].take 1 :=
  apply_prefix_preserved (.replaceWith [120]) [97, 98, 99, 100, 101] [97, 120, 100, 101] ⟨1, 3⟩
    (by decide +kernel) (by decide +kernel) rfl
example : ([97, 120, 100, 101] : List Nat).drop (4 - (5 - 3)) = [97, 98, 99, 100, 101].drop 3 :=
  apply_suffix_preserved (.replaceWith [120]) [97, 98, 99, 100, 101] [97, 120, 100, 101] ⟨1, 3⟩
    (by decide +kernel) (by decide +kernel) rfl

/-- spans touching either end of the text, the whole text, and a zero-width span at the very end
(in range: `start ≤ end ≤ len` allows `start = end = len`) -/
example : (Suggestion.remove : Suggestion Nat).apply ⟨0, 2⟩ [97, 98, 99, 100, 101] = .ok [99, 100, 101] := rfl
example : (Suggestion.remove : Suggestion Nat).apply ⟨3, 5⟩ [97, 98, 99, 100, 101] = .ok [97, 98, 99] := rfl
example : (Suggestion.replaceWith [120]).apply ⟨0, 5⟩ [97, 98, 99, 100, 101] = .ok [120] := rfl
example : (Suggestion.replaceWith [120, 121]).apply ⟨3, 5⟩ [97, 98, 99, 100, 101]
    = .ok [97, 98, 99, 120, 121] := rfl
example : (Suggestion.insertAfter [44]).apply ⟨5, 5⟩ [97, 98, 99, 100, 101]
    = .ok [97, 98, 99, 100, 101, 44] := rfl
example : (Suggestion.insertAfter [44]).apply ⟨0, 0⟩ [97, 98, 99, 100, 101]
    = .ok [44, 97, 98, 99, 100, 101] := rfl

/-- non-vacuity of `apply_remove_past_end`: "abc", span 2..4 — its three hypotheses together -/
example : (Suggestion.remove : Suggestion Nat).apply ⟨2, 4⟩ [97, 98, 99]
    = .ok ([97, 98, 99].take (3 - (4 - 2))) :=
  apply_remove_past_end [97, 98, 99] ⟨2, 4⟩ (by decide +kernel) (by decide +kernel) (by decide +kernel)

/-- non-vacuity of `apply_replace_of_no_panic` / `apply_insertAfter_of_no_panic` on OUT-of-range
spans that do not panic -/
example : ([97, 98, 99, 120, 121] : List Nat) = [97, 98, 99].take 3 ++ [120, 121] ++ [97, 98, 99].drop 4 :=
  apply_replace_of_no_panic [97, 98, 99] [120, 121] _ ⟨3, 4⟩ rfl
example : ([97, 44, 98, 99] : List Nat) = [97, 98, 99].take 1 ++ [44] ++ [97, 98, 99].drop 1 :=
  apply_insertAfter_of_no_panic [97, 98, 99] [44] _ ⟨2, 1⟩ rfl

/-- non-vacuity of `rebase_roundtrip_wf` -/
example : ∃ s', (⟨7, 9⟩ : Span).pullBy 5 = .ok s' ∧ s'.pushBy 5 = ⟨7, 9⟩ :=
  rebase_roundtrip_wf ⟨7, 9⟩ 5 (by decide +kernel) (by decide +kernel)

/-- non-vacuity of `tokenSpan_in_chunk_slice`, `cachedLint_inbounds`, `cachedLint_same_offset`:
"the cat sat," at offset 10, sub-slice "cat sat", replayed at offset 40 -/
example : (10 : Nat) ≤ 14 ∧ 14 ≤ 21 ∧ 21 ≤ 22 :=
  tokenSpan_in_chunk_slice [⟨10, 13⟩, ⟨13, 14⟩] [⟨14, 17⟩, ⟨17, 18⟩, ⟨18, 21⟩] [⟨21, 22⟩] ⟨10, 22⟩ ⟨14, 21⟩
    (by decide +kernel) (by decide +kernel)
example : ∃ out, rebase ⟨14, 21⟩ 10 40 = .ok out ∧ 40 ≤ out.start ∧ out.start ≤ out.stop ∧
    out.stop ≤ 40 + (22 - 10) ∧ out.stop - out.start = 21 - 14 :=
  cachedLint_inbounds [⟨10, 13⟩, ⟨13, 14⟩, ⟨14, 17⟩, ⟨17, 18⟩, ⟨18, 21⟩, ⟨21, 22⟩]
    [⟨14, 17⟩, ⟨17, 18⟩, ⟨18, 21⟩] ⟨10, 22⟩ ⟨14, 21⟩ 40 (by decide +kernel) (by decide +kernel) (by decide +kernel)
example : rebase ⟨14, 21⟩ 10 10 = .ok ⟨14, 21⟩ :=
  cachedLint_same_offset [⟨10, 13⟩, ⟨13, 14⟩, ⟨14, 17⟩, ⟨17, 18⟩, ⟨18, 21⟩, ⟨21, 22⟩]
    [⟨14, 17⟩, ⟨17, 18⟩, ⟨18, 21⟩] ⟨10, 22⟩ ⟨14, 21⟩ (by decide +kernel) (by decide +kernel) (by decide +kernel)
/-- … and `tokenSpan_first_last` applied -/
example : tokenSpan [⟨10, 13⟩, ⟨13, 14⟩, ⟨14, 17⟩] = some ⟨10, 17⟩ :=
  tokenSpan_first_last ⟨10, 13⟩ [⟨13, 14⟩, ⟨14, 17⟩] (by decide +kernel) (by decide +kernel)

end Harper.C03
