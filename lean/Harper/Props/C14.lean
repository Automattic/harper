import Harper.Lemmas.Ignore
/-!
# C14 — ignoring hides that lint, only that lint, and keeps hiding it

Property theorems; helper lemmas and the witness data are in `Harper/Lemmas/Ignore.lean`.
The model (`Harper/Model/Ignore.lean`) is `LintContext::from_lint` / `IgnoredLints` as written,
over the real tokens of the real document; the 64-bit hash is abstracted to the context itself
(injectivity on the contexts seen is a monitor of the harness).
-/
namespace Harper.C14
open Harper.Ignore

/-- Exactly: the lints that remain are those whose context is not in the set. -/
theorem removeIgnored_exact (s : IgnoreSet) (lints : List LintM) (toks : List Tok) :
    removeIgnored s lints toks = lints.filter (fun l => decide (contextOf l toks ∉ s)) :=
  removeIgnored_eq_filter_mem s lints toks

/-- "That lint and only that lint", as one equation: ignoring `l` removes from the result exactly
the lints with `l`'s context — same order, nothing added, nothing else removed. -/
theorem ignore_removes_exactly (s : IgnoreSet) (l : LintM) (toks : List Tok) (lints : List LintM) :
    removeIgnored (ignoreLint s l toks) lints toks
      = (removeIgnored s lints toks).filter (fun l' => decide (contextOf l' toks ≠ contextOf l toks)) :=
  removeIgnored_insertCtx s _ lints toks

/-- After the user ignores lint `l` in document `toks`, `remove_ignored` on the lints of the same
document no longer contains `l` — nor any lint with `l`'s context. -/
theorem ignored_is_removed (s : IgnoreSet) (l : LintM) (toks : List Tok) (lints : List LintM) :
    l ∉ removeIgnored (ignoreLint s l toks) lints toks ∧
    ∀ l' ∈ removeIgnored (ignoreLint s l toks) lints toks, contextOf l' toks ≠ contextOf l toks := by
  have key : ∀ l' ∈ removeIgnored (ignoreLint s l toks) lints toks,
      contextOf l' toks ≠ contextOf l toks := by
    intro l' hm
    rw [ignore_removes_exactly] at hm
    exact of_decide_eq_true (List.mem_filter.mp hm).2
  exact ⟨fun hm => key l hm rfl, key⟩

/-- Ignoring further lints (of any document) never brings an ignored lint back. -/
theorem ignored_stays_ignored (s : IgnoreSet) (l l₂ : LintM) (toks toks₂ : List Tok)
    (h : isIgnored s l toks = true) : isIgnored (ignoreLint s l₂ toks₂) l toks = true := by
  rw [isIgnored_ignoreLint, h, Bool.true_or]

/-- non-vacuity of ignored_stays_ignored: `x y`, lint `a` on `x` ignored, then lint `b` on `y`
(another context: the set grows to two entries); `a` is still ignored -/
example :
    let toks : List Tok := [⟨[0,0],[120],0,1⟩, ⟨[4,1],[32],1,2⟩, ⟨[0,0],[121],2,3⟩]
    let a : LintM := ⟨0, 0, 1, 0, [], [1], 63⟩
    let b : LintM := ⟨1, 2, 3, 0, [], [2], 63⟩
    let s := ignoreLint [] a toks
    isIgnored s a toks = true ∧ isIgnored s b toks = false ∧
    isIgnored (ignoreLint s b toks) a toks = true ∧ (ignoreLint s b toks).length = 2 := by decide +kernel

/-- Only that lint: `remove_ignored` returns a sub-list (order preserved) which keeps every lint
whose context differs from every ignored context. -/
theorem different_context_kept (s : IgnoreSet) (lints : List LintM) (toks : List Tok) :
    (removeIgnored s lints toks).Sublist lints ∧
    ∀ l ∈ lints, (∀ c ∈ s, contextOf l toks ≠ c) → l ∈ removeIgnored s lints toks := by
  rw [removeIgnored_exact]
  exact ⟨List.filter_sublist,
    fun l hl hne => List.mem_filter.mpr ⟨hl, decide_eq_true (fun hm => hne _ hm rfl)⟩⟩

/-- non-vacuity of different_context_kept: a non-empty set, a lint whose context differs from every
stored one (it differs in the message only) and is kept, next to one that is removed -/
example :
    let toks : List Tok := [⟨[0,0],[120],0,1⟩, ⟨[4,1],[32],1,2⟩, ⟨[0,0],[120],2,3⟩]
    let a : LintM := ⟨0, 0, 1, 0, [], [1], 63⟩
    let b : LintM := ⟨1, 0, 1, 0, [], [2], 63⟩
    let s := ignoreLint [] a toks
    s ≠ [] ∧ (∀ c ∈ s, contextOf b toks ≠ c) ∧ b ∈ removeIgnored s [a, b] toks ∧
    a ∉ removeIgnored s [a, b] toks := by decide +kernel

/-- a context differs iff kind, suggestions, message, priority or one of the window tokens does -/
theorem context_eq_iff (l l' : LintM) (toks toks' : List Tok) :
    contextOf l' toks' = contextOf l toks ↔
      l'.kind = l.kind ∧ l'.suggestions = l.suggestions ∧ l'.message = l.message ∧
      l'.priority = l.priority ∧
      prequel toks' l' ++ problem toks' l' ++ sequel toks' l' =
        prequel toks l ++ problem toks l ++ sequel toks l := by
  unfold contextOf
  constructor
  · intro h; injection h with h1 h2 h3 h4 h5; exact ⟨h1, h2, h3, h4, h5⟩
  · rintro ⟨h1, h2, h3, h4, h5⟩; simp [h1, h2, h3, h4, h5]

/-- Clause 2 in the property's own words, for the SAME document: a lint that was reported and
differs from the ignored lint `l` in kind, suggestions, message, priority or in a token of its
windows is still reported after `l` is ignored. -/
theorem differing_lint_still_reported (s : IgnoreSet) (l l' : LintM) (toks : List Tok)
    (lints : List LintM) (hm : l' ∈ removeIgnored s lints toks)
    (hd : l'.kind ≠ l.kind ∨ l'.suggestions ≠ l.suggestions ∨ l'.message ≠ l.message ∨
      l'.priority ≠ l.priority ∨
      prequel toks l' ++ problem toks l' ++ sequel toks l' ≠
        prequel toks l ++ problem toks l ++ sequel toks l) :
    l' ∈ removeIgnored (ignoreLint s l toks) lints toks := by
  have hne : contextOf l' toks ≠ contextOf l toks := by
    intro h
    obtain ⟨h1, h2, h3, h4, h5⟩ := (context_eq_iff l l' toks toks).mp h
    rcases hd with hd | hd | hd | hd | hd
    · exact hd h1
    · exact hd h2
    · exact hd h3
    · exact hd h4
    · exact hd h5
  rw [ignore_removes_exactly]
  exact List.mem_filter.mpr ⟨hm, decide_eq_true hne⟩

/-- non-vacuity of differing_lint_still_reported: a non-empty set already hides `c`; `b` (other
message) and `d` (other token after it) are reported, and stay reported when `a` is ignored -/
example :
    let toks : List Tok := [⟨[0,0],[120],0,1⟩, ⟨[4,1],[32],1,2⟩, ⟨[0,0],[120],2,3⟩, ⟨[1,4],[46],3,4⟩]
    let a : LintM := ⟨0, 0, 1, 0, [], [1], 63⟩
    let b : LintM := ⟨1, 0, 1, 0, [], [2], 63⟩
    let c : LintM := ⟨2, 0, 1, 5, [], [3], 63⟩
    let d : LintM := ⟨3, 2, 3, 0, [], [1], 63⟩
    let s := ignoreLint [] c toks
    removeIgnored s [a, b, c, d] toks = [a, b, d] ∧ b.message ≠ a.message ∧
    prequel toks d ++ problem toks d ++ sequel toks d ≠ prequel toks a ++ problem toks a ++ sequel toks a ∧
    removeIgnored (ignoreLint s a toks) [a, b, c, d] toks = [b, d] := by decide +kernel

/-- The ignore list survives export/import: the re-imported list hides exactly the same lints. -/
theorem export_import_id (s : IgnoreSet) (lints : List LintM) (toks : List Tok) :
    removeIgnored (importL (exportL s)) lints toks = removeIgnored s lints toks ∧
    ∀ l, isIgnored (importL (exportL s)) l toks = isIgnored s l toks := by
  have h : ∀ c, c ∈ importL (exportL s) ↔ c ∈ s := fun c => mem_importL
  exact ⟨removeIgnored_congr h lints toks, fun l => isIgnored_congr h l toks⟩

/-- … and is the very same list when it has no duplicate entries, which every list built by
`ignore_lint` / `append` / import has (`reachable_nodup`). -/
theorem export_import_eq (s : IgnoreSet) (h : s.Nodup) : importL (exportL s) = s := by
  exact (foldl_insertCtx_eq_append s [] (by rwa [List.nil_append])).trans (List.nil_append s)

theorem reachable_nodup :
    (∀ (s : IgnoreSet) l toks, s.Nodup → (ignoreLint s l toks).Nodup) ∧
    (∀ (s o : IgnoreSet), s.Nodup → (Ignore.append s o).Nodup) ∧
    (∀ l : List Context, (importL l).Nodup) :=
  ⟨fun _ _ _ h => nodup_insertCtx h _, fun _ o h => nodup_foldl_insertCtx o h,
   fun l => nodup_foldl_insertCtx l List.nodup_nil⟩

/-- `append` hides what either list hid. -/
theorem append_ignored (s o : IgnoreSet) (l : LintM) (toks : List Tok) :
    isIgnored (Ignore.append s o) l toks = (isIgnored s l toks || isIgnored o l toks) := by
  rw [Bool.eq_iff_iff, Bool.or_eq_true, isIgnored_iff_mem, isIgnored_iff_mem, isIgnored_iff_mem,
    Ignore.append, mem_foldl_insertCtx]

/-- Stability, the part that is true: if an edit leaves the fat tokens of the three windows
unchanged — same payloads (characters *and* full token kind) in the same order — the context is
unchanged and the lint stays ignored (or stays reported).
**Partial**: "same payload" is more than the property's "untouched": a quotation mark's payload
holds `twin_loc`, a document-wide token index (`quote_breaks_stability`). -/
theorem stable_under_edit_partial (s : IgnoreSet) (l l' : LintM) (toks toks' : List Tok)
    (hk : l'.kind = l.kind) (hs : l'.suggestions = l.suggestions) (hm : l'.message = l.message)
    (hp : l'.priority = l.priority)
    (h1 : prequel toks' l' = prequel toks l) (h2 : problem toks' l' = problem toks l)
    (h3 : sequel toks' l' = sequel toks l) :
    contextOf l' toks' = contextOf l toks ∧ isIgnored s l' toks' = isIgnored s l toks := by
  have : contextOf l' toks' = contextOf l toks :=
    (context_eq_iff l l' toks toks').mpr ⟨hk, hs, hm, hp, by rw [h1, h2, h3]⟩
  exact ⟨this, by unfold isIgnored; rw [this]⟩

/-- non-vacuity of stable_under_edit_partial: `a problm in` → `Oh. a problm in.` (text before AND
after; every offset moves by 4, the lint gets another id); all seven hypotheses hold together and
the theorem yields that the moved lint is still ignored -/
example :
    let toks : List Tok := [⟨[0,1],[97],0,1⟩, ⟨[4,1],[32],1,2⟩, ⟨[0,0],[112,114,111,98,108,109],2,8⟩,
      ⟨[4,1],[32],8,9⟩, ⟨[0,2],[105,110],9,11⟩]
    let toks' : List Tok := [⟨[0,3],[79,104],0,2⟩, ⟨[1,4],[46],2,3⟩, ⟨[4,1],[32],3,4⟩] ++
      toks.map (Tok.shift 4) ++ [⟨[1,4],[46],15,16⟩]
    let l : LintM := ⟨0, 2, 8, 0, [], [63], 63⟩
    let l' : LintM := ⟨3, 6, 12, 0, [], [63], 63⟩
    toks' ≠ toks ∧ l' ≠ l ∧ isIgnored (ignoreLint [] l toks) l' toks' = true := by
  intro toks toks' l l'
  refine ⟨by decide +kernel, by decide +kernel, ?_⟩
  rw [(stable_under_edit_partial (ignoreLint [] l toks) l l' toks toks' rfl rfl rfl rfl
    (by decide +kernel) (by decide +kernel) (by decide +kernel)).2]
  decide +kernel

/-- Prepending text: new tokens before position `d`, every old token moved right by `d` with its
payload as it was. A lint at least two characters into the old text keeps its context.
**Partial**: real payloads of quotation marks do change (`quote_breaks_stability`). -/
theorem stable_under_prepend_partial (d : Nat) (added toks : List Tok) (l : LintM)
    (hl : 2 ≤ l.start) (hadd : ∀ t ∈ added, t.stop ≤ d) :
    contextOf (l.shift d) (added ++ toks.map (Tok.shift d)) = contextOf l toks := by
  have hw : ∀ a b, fatsIn (added ++ toks.map (Tok.shift d)) (a + d) (b + d) = fatsIn toks a b := by
    intro a b
    rw [fatsIn_append, fatsIn_before added hadd (Nat.le_add_left d a), fatsIn_shift, List.nil_append]
  have hs : (l.shift d).start = l.start + d := rfl
  refine (context_eq_iff _ _ _ _).mpr ⟨rfl, rfl, rfl, rfl, ?_⟩
  have e1 : prequel (added ++ toks.map (Tok.shift d)) (l.shift d) = prequel toks l := by
    rw [prequel, prequel, hs, if_neg (Nat.not_lt.mpr (Nat.le_add_right_of_le hl)),
      if_neg (Nat.not_lt.mpr hl), Nat.sub_add_comm hl, Nat.add_sub_cancel, Nat.add_sub_cancel, hw]
  have e2 : problem (added ++ toks.map (Tok.shift d)) (l.shift d) = problem toks l := hw _ _
  have e3 : sequel (added ++ toks.map (Tok.shift d)) (l.shift d) = sequel toks l := by
    rw [sequel, sequel, hs, Nat.add_right_comm, Nat.add_right_comm (l.start + 2), hw]
  rw [e1, e2, e3]

/-- Appending text: new tokens at or after position `n`, beyond all three windows. -/
theorem stable_under_append_partial (n : Nat) (added toks : List Tok) (l : LintM)
    (hadd : ∀ t ∈ added, n ≤ t.start) (h4 : l.start + 4 ≤ n) (he : l.stop ≤ n) :
    contextOf l (toks ++ added) = contextOf l toks := by
  have hw : ∀ a b, b ≤ n → fatsIn (toks ++ added) a b = fatsIn toks a b := by
    intro a b hb
    rw [fatsIn_append, fatsIn_after added hadd a hb, List.append_nil]
  refine (context_eq_iff _ _ _ _).mpr ⟨rfl, rfl, rfl, rfl, ?_⟩
  have e1 : prequel (toks ++ added) l = prequel toks l := by
    unfold prequel
    by_cases h : 2 > l.start
    · rw [if_pos h, if_pos h]
    · rw [if_neg h, if_neg h, hw _ _ (by omega)]
  have e2 : problem (toks ++ added) l = problem toks l := hw _ _ he
  have e3 : sequel (toks ++ added) l = sequel toks l := hw _ _ h4
  rw [e1, e2, e3]

/-- non-vacuity of stable_under_append_partial: `a problm in` + ` it.` appended at 11; the three
hypotheses hold together (the context has four tokens) -/
example :
    let toks : List Tok := [⟨[0,1],[97],0,1⟩, ⟨[4,1],[32],1,2⟩, ⟨[0,0],[112,114,111,98,108,109],2,8⟩,
      ⟨[4,1],[32],8,9⟩, ⟨[0,2],[105,110],9,11⟩]
    let added : List Tok := [⟨[4,1],[32],11,12⟩, ⟨[0,3],[105,116],12,14⟩, ⟨[1,4],[46],14,15⟩]
    let l : LintM := ⟨0, 2, 8, 0, [], [63], 63⟩
    (∀ t ∈ added, 11 ≤ t.start) ∧ l.start + 4 ≤ 11 ∧ l.stop ≤ 11 ∧
    contextOf l (toks ++ added) = contextOf l toks ∧ (contextOf l toks).tokens.length = 4 := by
  intro toks added l
  have h1 : ∀ t ∈ added, 11 ≤ t.start := by decide +kernel
  have h2 : l.start + 4 ≤ 11 := by decide +kernel
  have h3 : l.stop ≤ 11 := by decide +kernel
  exact ⟨h1, h2, h3, stable_under_append_partial 11 added toks l h1 h2 h3, by decide +kernel⟩

/-- The FULL stability clause — an ignored lint stays ignored whenever the flagged text and the
tokens of its windows are untouched — is **false of the code**: a quotation mark's `twin_loc` is
an index into the whole document's token vector and is part of the hashed context. Witness (real
tokens, as encoded by the harness): `Well, "Ths" is bad.`, ignore the spelling lint on `Ths`,
prepend `Hello there. ` — five new tokens, so the quotes' `twin_loc` go from 5/3 to 10/8 — and
the ignored lint is reported again. Recorded finding `c14-quote-twin-loc`. -/
theorem quote_breaks_stability :
    ¬ (∀ (s : IgnoreSet) (toks toks' : List Tok) (l l' : LintM), Untouched toks toks' l l' →
        isIgnored s l toks = true → isIgnored s l' toks' = true) := by
  intro h
  have hu : Untouched toksW toksW' lintW lintW' := by decide +kernel
  have h1 : isIgnored (ignoreLint [] lintW toksW) lintW toksW = true := by
    rw [isIgnored_ignoreLint, decide_eq_true rfl, Bool.or_true]
  have h2 : isIgnored (ignoreLint [] lintW toksW) lintW' toksW' = false := by decide +kernel
  have := h _ _ _ _ _ hu h1
  rw [h2] at this
  exact Bool.false_ne_true this

/-- Read literally — "as long as the flagged text and the tokens within two characters of it are
untouched" — the stability clause fails a second way: the after-window is
`with_len(2).pushed_by(2)` = `[s+2,s+4)`, counted from the START of the lint. For a one-character
lint it reaches the third character after the flagged text. Witness (real tokens): `more than 4$.`,
ignore the "spell out numbers" lint on `4`, append ` Thanks.`: `$` and `.` are untouched, the new
space lands in `[s+2,s+4)`, and the lint is reported again. Recorded finding
`c14-after-window-from-start`. -/
theorem after_window_breaks_stability :
    ¬ (∀ (s : IgnoreSet) (toks toks' : List Tok) (l l' : LintM), UntouchedLiteral toks toks' l l' →
        NoQuote toks l → NoQuote toks' l' →
        isIgnored s l toks = true → isIgnored s l' toks' = true) := by
  intro h
  have hu : UntouchedLiteral toksA (toksA ++ addedA) lintA lintA := by decide +kernel
  have hq : NoQuote toksA lintA := by decide +kernel
  have hq' : NoQuote (toksA ++ addedA) lintA := by decide +kernel
  have h1 : isIgnored (ignoreLint [] lintA toksA) lintA toksA = true := by
    rw [isIgnored_ignoreLint, decide_eq_true rfl, Bool.or_true]
  have h2 : isIgnored (ignoreLint [] lintA toksA) lintA (toksA ++ addedA) = false := by decide +kernel
  have := h _ _ _ _ _ hu hq hq' h1
  rw [h2] at this
  exact Bool.false_ne_true this

/-- the same witness against `stable_under_append_partial`: its hypothesis `l.start + 4 ≤ n` is
what fails (10 + 4 > 13), although the lint ends two characters before the end of the text -/
example : lintA.stop + 2 ≤ 13 ∧ ¬ (lintA.start + 4 ≤ 13) ∧ (∀ t ∈ addedA, 13 ≤ t.start) ∧
    sequel toksA lintA = [⟨[46],[1,5]⟩] ∧
    sequel (toksA ++ addedA) lintA = [⟨[46],[1,5]⟩, ⟨[32],[4,1]⟩] := by decide +kernel

/-- a lint longer than two characters has nothing after it in its context: the after-window lies
inside the lint (`a problm in` / `a problm of`: the two spelling lints share one context) -/
example :
    let t1 : List Tok := [⟨[0,1],[97],0,1⟩, ⟨[4,1],[32],1,2⟩, ⟨[0,0],[112,114,111,98,108,109],2,8⟩,
      ⟨[4,1],[32],8,9⟩, ⟨[0,2],[105,110],9,11⟩]
    let t2 : List Tok := [⟨[0,1],[97],0,1⟩, ⟨[4,1],[32],1,2⟩, ⟨[0,0],[112,114,111,98,108,109],2,8⟩,
      ⟨[4,1],[32],8,9⟩, ⟨[0,3],[111,102],9,11⟩]
    let l : LintM := ⟨0, 2, 8, 0, [], [63], 63⟩
    contextOf l t1 = contextOf l t2 ∧ fatsIn t1 l.stop (l.stop + 2) ≠ fatsIn t2 l.stop (l.stop + 2) := by
  decide +kernel

/-- The same inside ONE document, as a kernel-checked negation of clause 2 read literally ("every
lint that differs in … surrounding words is still reported", the surrounding words being the tokens
within two characters AFTER the lint): `a problm in a problm of`, ignore the first spelling lint —
the second, followed by another word, is hidden with it. -/
theorem following_word_not_in_context :
    ¬ (∀ (toks : List Tok) (l l' : LintM) (lints : List LintM), l' ∈ lints →
        fatsIn toks l'.stop (l'.stop + 2) ≠ fatsIn toks l.stop (l.stop + 2) →
        l' ∈ removeIgnored (ignoreLint [] l toks) lints toks) := by
  intro h
  let toks : List Tok := [⟨[0,1],[97],0,1⟩, ⟨[4,1],[32],1,2⟩, ⟨[0,0],[112,114,111,98,108,109],2,8⟩,
    ⟨[4,1],[32],8,9⟩, ⟨[0,2],[105,110],9,11⟩, ⟨[4,1],[32],11,12⟩, ⟨[0,1],[97],12,13⟩,
    ⟨[4,1],[32],13,14⟩, ⟨[0,0],[112,114,111,98,108,109],14,20⟩, ⟨[4,1],[32],20,21⟩,
    ⟨[0,3],[111,102],21,23⟩]
  let l : LintM := ⟨0, 2, 8, 0, [], [63], 63⟩
  let l' : LintM := ⟨1, 14, 20, 0, [], [63], 63⟩
  have hm := h toks l l' [l, l'] (by decide +kernel) (by decide +kernel)
  exact (ignored_is_removed [] l toks [l, l']).2 l' hm (by decide +kernel)

/-- With no quotation mark in the windows, "untouched" is "same payload": the full clause holds.
(Stated for the harness's encoding, where only quotes carry a document-wide index.) -/
theorem stable_without_quotes (s : IgnoreSet) (toks toks' : List Tok) (l l' : LintM)
    (hu : Untouched toks toks' l l') (hq : NoQuote toks l) (hq' : NoQuote toks' l') :
    isIgnored s l' toks' = isIgnored s l toks := by
  obtain ⟨hk, hs, hm, hp, h1, h2, h3⟩ := hu
  have hall : (prequel toks' l' ++ problem toks' l' ++ sequel toks' l').map Fat.eraseTwin =
      (prequel toks l ++ problem toks l ++ sequel toks l).map Fat.eraseTwin := by
    simp only [List.map_append, h1, h2, h3]
  have hid : ∀ (fs : List Fat), (∀ f ∈ fs, f.isQuote = false) → fs.map Fat.eraseTwin = fs := by
    intro fs hfs
    refine (List.map_congr_left fun f hf => ?_).trans (List.map_id fs)
    have hq := hfs f hf
    unfold Fat.isQuote at hq
    unfold Fat.eraseTwin
    split
    · rename_i hk; rw [hk] at hq; cases hq
    · rfl
  rw [hid _ hq', hid _ hq] at hall
  have : contextOf l' toks' = contextOf l toks :=
    (context_eq_iff l l' toks toks').mpr ⟨hk, hs, hm, hp, hall⟩
  unfold isIgnored; rw [this]

/-- non-vacuity of stable_without_quotes: all three hypotheses together on `a problm in` →
`Oh. a problm in` (offsets move by 4), and the theorem's conclusion used -/
example :
    let toks : List Tok := [⟨[0,1],[97],0,1⟩, ⟨[4,1],[32],1,2⟩, ⟨[0,0],[112,114,111,98,108,109],2,8⟩,
      ⟨[4,1],[32],8,9⟩, ⟨[0,2],[105,110],9,11⟩]
    let toks' : List Tok := [⟨[0,3],[79,104],0,2⟩, ⟨[1,4],[46],2,3⟩, ⟨[4,1],[32],3,4⟩] ++
      toks.map (Tok.shift 4)
    let l : LintM := ⟨0, 2, 8, 0, [], [63], 63⟩
    Untouched toks toks' l (l.shift 4) ∧ NoQuote toks l ∧ NoQuote toks' (l.shift 4) ∧
    isIgnored (ignoreLint [] l toks) (l.shift 4) toks' = true := by
  intro toks toks' l
  have hu : Untouched toks toks' l (l.shift 4) := by decide +kernel
  have hq : NoQuote toks l := by decide +kernel
  have hq' : NoQuote toks' (l.shift 4) := by decide +kernel
  refine ⟨hu, hq, hq', ?_⟩
  rw [stable_without_quotes (ignoreLint [] l toks) toks toks' l (l.shift 4) hu hq hq']
  decide +kernel

/-! ### "Only that lint", and its one exception: twins

`IgnoredLints::ignore_lint` stores (the hash of) `LintContext::from_lint(lint, document)`;
`is_ignored` / `remove_ignored` look a lint's own context up. The span is NOT part of the context
(only the tokens of the three windows are), nor is the lint's index. So "only that lint" is, exactly,
"only the lints with that context": lints with another context are never affected
(`ignore_hides_only_that_context`, `ignore_many_hidden_iff`, `ignoreIds_hidden_iff`), lints with the
same context — *twins*, e.g. the same misspelling twice with the same neighbours — always go together
(`twin_context_hidden_together`, `only_that_lint_fails_for_twins`), and twins are the only exception
(`hidden_by_ignore_only_if_twin`). -/


/-- "Only that lint", two-lint form (`ignore_lint` / `is_ignored` / `remove_ignored`): if `l₂`'s
context differs from `l₁`'s, ignoring `l₁` changes nothing for `l₂` — not hidden if it was not,
still hidden if it was; and it is in the filtered result after iff it was before. (The list form —
the result after is the result before minus exactly the lints with `l₁`'s context — is
`ignore_removes_exactly`; the second half here is derived from it.) -/
theorem ignore_hides_only_that_context (s : IgnoreSet) (l₁ l₂ : LintM) (toks : List Tok)
    (lints : List LintM) (hne : contextOf l₂ toks ≠ contextOf l₁ toks) :
    isIgnored (ignoreLint s l₁ toks) l₂ toks = isIgnored s l₂ toks ∧
    (l₂ ∈ removeIgnored (ignoreLint s l₁ toks) lints toks ↔ l₂ ∈ removeIgnored s lints toks) := by
  refine ⟨?_, ?_⟩
  · rw [isIgnored_ignoreLint, decide_eq_false hne, Bool.or_false]
  · rw [ignore_removes_exactly, List.mem_filter]; exact and_iff_left (decide_eq_true hne)

/-- non-vacuity of ignore_hides_only_that_context, both directions inside ONE document
(`a thier a thier`): `lintT₃` (another rule on the second `thier`: other kind / message) has another
context than `lintT₁`; from the empty set it stays reported, from a set that already hides it it
stays hidden — while the set does grow. -/
example : contextOf lintT₃ toksT ≠ contextOf lintT₁ toksT ∧
    isIgnored [] lintT₃ toksT = false ∧ isIgnored (ignoreLint [] lintT₁ toksT) lintT₃ toksT = false ∧
    lintT₃ ∈ removeIgnored (ignoreLint [] lintT₁ toksT) [lintT₁, lintT₂, lintT₃] toksT ∧
    (let s := ignoreLint [] lintT₃ toksT
     isIgnored s lintT₃ toksT = true ∧ isIgnored (ignoreLint s lintT₁ toksT) lintT₃ toksT = true ∧
     (ignoreLint s lintT₁ toksT).length = 2 ∧
     removeIgnored s [lintT₁, lintT₂, lintT₃] toksT = [lintT₁, lintT₂] ∧
     removeIgnored (ignoreLint s lintT₁ toksT) [lintT₁, lintT₂, lintT₃] toksT = []) := by decide +kernel

/-- the same word, the same message, NOT twins: in `teh cat. teh cat.` the first `teh` starts the
document, so `pulled_by(2)` yields no tokens before it, the second has `.␣` before it — ignoring
the first leaves the second reported (and vice versa) -/
example : contextOf lintU₂ toksU ≠ contextOf lintU₁ toksU ∧
    (lintU₂.kind, lintU₂.suggestions, lintU₂.message, lintU₂.priority)
      = (lintU₁.kind, lintU₁.suggestions, lintU₁.message, lintU₁.priority) ∧
    problem toksU lintU₂ = problem toksU lintU₁ ∧ sequel toksU lintU₂ = sequel toksU lintU₁ ∧
    prequel toksU lintU₁ = [] ∧ prequel toksU lintU₂ = [⟨[46],[1,4]⟩, ⟨[32],[4,1]⟩] ∧
    removeIgnored (ignoreLint [] lintU₁ toksU) [lintU₁, lintU₂] toksU = [lintU₂] ∧
    removeIgnored (ignoreLint [] lintU₂ toksU) [lintU₁, lintU₂] toksU = [lintU₁] := by decide +kernel

/-- Several `ignore_lint` calls in a row (same document): a lint is hidden afterwards IFF it was
hidden before or its context equals the context of one of the ignored lints. -/
theorem ignore_many_hidden_iff (s : IgnoreSet) (ls : List LintM) (l : LintM) (toks : List Tok) :
    isIgnored (ls.foldl (fun s l' => ignoreLint s l' toks) s) l toks = true ↔
      isIgnored s l toks = true ∨ ∃ l' ∈ ls, contextOf l toks = contextOf l' toks := by
  rw [isIgnored_iff_mem, isIgnored_iff_mem, mem_foldl_ignoreLint]

/-- … and the list form: `remove_ignored` after the calls returns what it returned before minus
exactly the lints that share a context with one of the ignored lints — same order, nothing added,
nothing else removed. -/
theorem ignore_many_removes_exactly (s : IgnoreSet) (ls : List LintM) (toks : List Tok)
    (lints : List LintM) :
    removeIgnored (ls.foldl (fun s l' => ignoreLint s l' toks) s) lints toks
      = (removeIgnored s lints toks).filter
          (fun l => decide (∀ l' ∈ ls, contextOf l toks ≠ contextOf l' toks)) := by
  rw [removeIgnored_exact, removeIgnored_exact, List.filter_filter]
  apply List.filter_congr
  intro x _
  rw [Bool.eq_iff_iff]
  simp only [Bool.and_eq_true, decide_eq_true_eq, mem_foldl_ignoreLint, not_or, not_exists,
    not_and, ne_eq]
  exact and_comm

/-- The same for the model's `ignoreIds` (the driver's "ignore the lints with these indices"): a
lint is hidden afterwards IFF it was hidden before or its context equals the context of a lint
one of the listed ids stands for. -/
theorem ignoreIds_hidden_iff (s : IgnoreSet) (lints : List LintM) (toks : List Tok) (ids : List Nat)
    (l : LintM) :
    isIgnored (ignoreIds s lints toks ids) l toks = true ↔
      isIgnored s l toks = true ∨
      ∃ i ∈ ids, ∃ l', lints.find? (·.id == i) = some l' ∧ contextOf l toks = contextOf l' toks := by
  rw [isIgnored_iff_mem, isIgnored_iff_mem, mem_ignoreIds]
  constructor
  · rintro (h | ⟨l', hl', he⟩)
    · exact Or.inl h
    · obtain ⟨i, hi, hf⟩ := mem_idLints.mp hl'
      exact Or.inr ⟨i, hi, l', hf, he⟩
  · rintro (h | ⟨i, hi, l', hf, he⟩)
    · exact Or.inl h
    · exact Or.inr ⟨l', mem_idLints.mpr ⟨i, hi, hf⟩, he⟩

/-- … list form (`idLints lints ids` = the lints the ids stand for, in the order listed) -/
theorem ignoreIds_removes_exactly (s : IgnoreSet) (lints : List LintM) (toks : List Tok)
    (ids : List Nat) (shown : List LintM) :
    removeIgnored (ignoreIds s lints toks ids) shown toks
      = (removeIgnored s shown toks).filter
          (fun l => decide (∀ l' ∈ idLints lints ids, contextOf l toks ≠ contextOf l' toks)) := by
  rw [ignoreIds_eq_foldl, ignore_many_removes_exactly]

/-- several `ignore_lint` calls are one `IgnoredLints::append` of the contexts -/
theorem ignore_many_eq_append (s : IgnoreSet) (ls : List LintM) (toks : List Tok) :
    ls.foldl (fun s l' => ignoreLint s l' toks) s = Ignore.append s (ls.map (contextOf · toks)) := by
  unfold Ignore.append ignoreLint
  rw [List.foldl_map]

/-- instances of the sequence theorems in `a thier a thier`: ignoring ids 2 and 7 (7 is no lint)
hides `lintT₃` only; ignoring ids 2 and 0 hides all three (`lintT₂` as the twin of `lintT₁`) -/
example :
    let all := [lintT₁, lintT₂, lintT₃]
    idLints all [2, 7] = [lintT₃] ∧ idLints all [2, 0] = [lintT₃, lintT₁] ∧
    removeIgnored (ignoreIds [] all toksT [2, 7]) all toksT = [lintT₁, lintT₂] ∧
    removeIgnored (ignoreIds [] all toksT [2, 0]) all toksT = [] ∧
    (ignoreIds [] all toksT [2, 0]).length = 2 ∧
    isIgnored (ignoreIds [] all toksT [2, 0]) lintT₂ toksT = true ∧
    all.find? (·.id == 0) = some lintT₁ ∧ contextOf lintT₂ toksT = contextOf lintT₁ toksT := by
  decide +kernel

/-- The exception: TWINS. If `l₂` has the same context as `l₁` — `l₂ ≠ l₁` allowed: another
index, another span — then ignoring `l₁` DOES hide `l₂`, whatever the set was before. -/
theorem twin_context_hidden_together (s : IgnoreSet) (l₁ l₂ : LintM) (toks : List Tok)
    (lints : List LintM) (h : contextOf l₂ toks = contextOf l₁ toks) :
    isIgnored (ignoreLint s l₁ toks) l₂ toks = true ∧
    l₂ ∉ removeIgnored (ignoreLint s l₁ toks) lints toks := by
  refine ⟨?_, ?_⟩
  · rw [isIgnored_ignoreLint, decide_eq_true h, Bool.or_true]
  · exact fun hm => (ignored_is_removed s l₁ toks lints).2 l₂ hm h

/-- non-vacuity of twin_context_hidden_together, inside ONE document: `a thier a thier`, spelling
lints on the first (span 2–7) and second (span 10–15) `thier` — different lints, different spans,
equal contexts: the windows are `a␣` / `thier` / `thier` both times. -/
example : lintT₂ ≠ lintT₁ ∧ (lintT₂.start, lintT₂.stop) ≠ (lintT₁.start, lintT₁.stop) ∧
    contextOf lintT₂ toksT = contextOf lintT₁ toksT ∧
    (prequel toksT lintT₂, problem toksT lintT₂, sequel toksT lintT₂)
      = ([⟨[97],[0,1]⟩, ⟨[32],[4,1]⟩], [⟨[116,104,105,101,114],[0,0]⟩],
         [⟨[116,104,105,101,114],[0,0]⟩]) ∧
    isIgnored [] lintT₂ toksT = false ∧ isIgnored (ignoreLint [] lintT₁ toksT) lintT₂ toksT = true ∧
    removeIgnored [] [lintT₁, lintT₂, lintT₃] toksT = [lintT₁, lintT₂, lintT₃] ∧
    removeIgnored (ignoreLint [] lintT₁ toksT) [lintT₁, lintT₂, lintT₃] toksT = [lintT₃] := by decide +kernel

/-- "Only that lint", read literally (every OTHER reported lint — another lint at another place —
stays reported), is **false of the code**, kernel-checked inside one document: in `a thier a thier`
the user ignores the spelling lint on the first `thier`; the one on the second `thier` disappears
with it. (`LintContext` has no position; by design of the hash, not an accident of the model.) -/
theorem only_that_lint_fails_for_twins :
    ¬ (∀ (s : IgnoreSet) (toks : List Tok) (l₁ l₂ : LintM) (lints : List LintM), l₂ ≠ l₁ →
        (l₂.start, l₂.stop) ≠ (l₁.start, l₁.stop) → l₂ ∈ removeIgnored s lints toks →
        l₂ ∈ removeIgnored (ignoreLint s l₁ toks) lints toks) := by
  intro h
  have hm := h [] toksT lintT₁ lintT₂ [lintT₁, lintT₂, lintT₃] (by decide +kernel)
    (by decide +kernel) (by decide +kernel)
  exact (twin_context_hidden_together [] lintT₁ lintT₂ toksT _ (by decide +kernel)).2 hm

/-- Twins are the ONLY exception: if `l₂` was not hidden and ignoring `l₁` hides it, then `l₂` has
`l₁`'s context. Also in list form: reported before, not reported after ⇒ same context. -/
theorem hidden_by_ignore_only_if_twin (s : IgnoreSet) (l₁ l₂ : LintM) (toks : List Tok) :
    (isIgnored s l₂ toks = false → isIgnored (ignoreLint s l₁ toks) l₂ toks = true →
      contextOf l₂ toks = contextOf l₁ toks) ∧
    (∀ lints, l₂ ∈ removeIgnored s lints toks →
      l₂ ∉ removeIgnored (ignoreLint s l₁ toks) lints toks →
      contextOf l₂ toks = contextOf l₁ toks) := by
  refine ⟨?_, ?_⟩
  · intro h0 h1
    rw [isIgnored_ignoreLint, h0, Bool.false_or] at h1
    exact of_decide_eq_true h1
  · intro lints hm hn
    rw [ignore_removes_exactly, List.mem_filter] at hn
    apply Decidable.byContradiction
    intro hne
    exact hn ⟨hm, decide_eq_true hne⟩

/-- non-vacuity of hidden_by_ignore_only_if_twin: both pairs of hypotheses hold for the twin in
`a thier a thier`, from a NON-empty set (which hides `lintT₃`) -/
example :
    let s := ignoreLint [] lintT₃ toksT
    isIgnored s lintT₂ toksT = false ∧ isIgnored (ignoreLint s lintT₁ toksT) lintT₂ toksT = true ∧
    lintT₂ ∈ removeIgnored s [lintT₁, lintT₂, lintT₃] toksT ∧
    lintT₂ ∉ removeIgnored (ignoreLint s lintT₁ toksT) [lintT₁, lintT₂, lintT₃] toksT := by decide +kernel

/-- The exception and its completeness as one equivalence, with the context spelled out
(`context_eq_iff`): a lint that was not hidden becomes hidden by ignoring `l₁` IFF it agrees with
`l₁` in kind, suggestions, message, priority and in the fat tokens of the three windows `[s-2,s)`,
`[s,e)`, `[s+2,s+4)` taken together. Position, length and index of the lint do not enter. -/
theorem newly_hidden_iff_twin (s : IgnoreSet) (l₁ l₂ : LintM) (toks : List Tok)
    (h0 : isIgnored s l₂ toks = false) :
    isIgnored (ignoreLint s l₁ toks) l₂ toks = true ↔
      l₂.kind = l₁.kind ∧ l₂.suggestions = l₁.suggestions ∧ l₂.message = l₁.message ∧
      l₂.priority = l₁.priority ∧
      prequel toks l₂ ++ problem toks l₂ ++ sequel toks l₂ =
        prequel toks l₁ ++ problem toks l₁ ++ sequel toks l₁ := by
  rw [← context_eq_iff]
  exact ⟨(hidden_by_ignore_only_if_twin s l₁ l₂ toks).1 h0,
    fun h => (twin_context_hidden_together s l₁ l₂ toks [] h).1⟩

/-- non-vacuity of newly_hidden_iff_twin: hypothesis and both sides, twin (`lintT₂`) and non-twin
(`lintU₂`: same fields, the concatenated windows differ) -/
example : isIgnored [] lintT₂ toksT = false ∧
    isIgnored (ignoreLint [] lintT₁ toksT) lintT₂ toksT = true ∧
    isIgnored [] lintU₂ toksU = false ∧ isIgnored (ignoreLint [] lintU₁ toksU) lintU₂ toksU = false ∧
    prequel toksU lintU₂ ++ problem toksU lintU₂ ++ sequel toksU lintU₂ ≠
      prequel toksU lintU₁ ++ problem toksU lintU₁ ++ sequel toksU lintU₁ := by decide +kernel

/-- Across a sequence: a lint that was reported and is no longer reported after the lints with the
listed ids were ignored is a twin of (or is) one of those lints, which is one of `lints`. -/
theorem hidden_by_ignoreIds_only_if_twin (s : IgnoreSet) (lints : List LintM) (toks : List Tok)
    (ids : List Nat) (l : LintM) (h0 : isIgnored s l toks = false)
    (h1 : isIgnored (ignoreIds s lints toks ids) l toks = true) :
    ∃ l' ∈ lints, l'.id ∈ ids ∧ contextOf l toks = contextOf l' toks := by
  rcases (ignoreIds_hidden_iff s lints toks ids l).mp h1 with h | ⟨i, hi, l', hf, he⟩
  · rw [h0] at h; cases h
  · obtain ⟨hm, hid⟩ := idLints_sub (mem_idLints.mpr ⟨i, hi, hf⟩)
    exact ⟨l', hm, hid, he⟩

/-- non-vacuity of hidden_by_ignoreIds_only_if_twin: `lintT₂` hidden by ignoring ids `[2, 0]` -/
example : isIgnored [] lintT₂ toksT = false ∧
    isIgnored (ignoreIds [] [lintT₁, lintT₂, lintT₃] toksT [2, 0]) lintT₂ toksT = true := by decide +kernel

/-- A sufficient condition for twins that needs no look at the tokens: two lints on the SAME span
with the same kind, suggestions, message and priority (e.g. a rule reporting twice) share a context
in every document. -/
theorem same_span_same_fields_twin (l₁ l₂ : LintM) (toks : List Tok)
    (hs : l₂.start = l₁.start) (he : l₂.stop = l₁.stop) (hk : l₂.kind = l₁.kind)
    (hg : l₂.suggestions = l₁.suggestions) (hm : l₂.message = l₁.message)
    (hp : l₂.priority = l₁.priority) : contextOf l₂ toks = contextOf l₁ toks := by
  refine (context_eq_iff l₁ l₂ toks toks).mpr ⟨hk, hg, hm, hp, ?_⟩
  unfold prequel problem sequel
  rw [hs, he]

/-- non-vacuity of same_span_same_fields_twin: two lints differing in the id only -/
example :
    let l₂ : LintM := { lintT₁ with id := 9 }
    l₂ ≠ lintT₁ ∧ l₂.start = lintT₁.start ∧ l₂.stop = lintT₁.stop ∧ l₂.kind = lintT₁.kind ∧
    l₂.suggestions = lintT₁.suggestions ∧ l₂.message = lintT₁.message ∧
    l₂.priority = lintT₁.priority ∧ contextOf l₂ toksT = contextOf lintT₁ toksT := by decide +kernel


/-! ### Non-vacuity and witnesses (concrete, kernel-evaluated) -/

/-- the witness's contexts differ only in the quotes' `twin_loc` -/
example : contextOf lintW' toksW' ≠ contextOf lintW toksW ∧
    (contextOf lintW' toksW').tokens.map Fat.eraseTwin = (contextOf lintW toksW).tokens.map Fat.eraseTwin := by
  decide +kernel

/-- the windows of the witness: `␣ "` before, `Ths`, and `[s+2,s+4)` = `Ths "` after -/
example : (prequel toksW lintW, problem toksW lintW, sequel toksW lintW) =
    ([⟨[32],[4,1]⟩, ⟨[34],[1,0,1,5]⟩], [⟨[84,104,115],[0,0]⟩],
     [⟨[84,104,115],[0,0]⟩, ⟨[34],[1,0,1,3]⟩]) := by decide +kernel

/-- the witness is a prepend in the sense of `stable_under_prepend_partial` except for the two
quotes' payloads -/
example : toksW'.drop 5 = (toksW.map (Tok.shift 13)).map
    (fun t => if t.kind = [1,0,1,5] then { t with kind := [1,0,1,10] }
              else if t.kind = [1,0,1,3] then { t with kind := [1,0,1,8] } else t) := by decide +kernel

/-- hypotheses of `stable_under_prepend_partial` / `stable_under_edit_partial` on a quote-free
instance: `a problm in` (lint on `problm`), prepend `Oh. ` -/
example :
    let toks : List Tok := [⟨[0,1],[97],0,1⟩, ⟨[4,1],[32],1,2⟩, ⟨[0,0],[112,114,111,98,108,109],2,8⟩,
      ⟨[4,1],[32],8,9⟩, ⟨[0,2],[105,110],9,11⟩]
    let added : List Tok := [⟨[0,3],[79,104],0,2⟩, ⟨[1,4],[46],2,3⟩, ⟨[4,1],[32],3,4⟩]
    let l : LintM := ⟨0, 2, 8, 0, [], [63], 63⟩
    2 ≤ l.start ∧ (∀ t ∈ added, t.stop ≤ 4) ∧
    contextOf (l.shift 4) (added ++ toks.map (Tok.shift 4)) = contextOf l toks ∧
    NoQuote toks l ∧ Untouched toks (added ++ toks.map (Tok.shift 4)) l (l.shift 4) := by decide +kernel

/-- a lint within the first two characters has no prequel window at all (`pulled_by` → `None`),
not even the character directly before it -/
example : prequel [⟨[1,0,0],[34],0,1⟩, ⟨[0,0],[84,104,115],1,4⟩] ⟨0, 1, 4, 0, [], [], 63⟩ = [] := by
  decide +kernel

/-- ignoring one of two lints with different messages hides only that one; two occurrences with
the same context go together -/
example :
    let toks : List Tok := [⟨[0,0],[120],0,1⟩, ⟨[4,1],[32],1,2⟩, ⟨[0,0],[120],2,3⟩]
    let a : LintM := ⟨0, 0, 1, 0, [], [1], 63⟩
    let b : LintM := ⟨1, 0, 1, 0, [], [2], 63⟩
    let c : LintM := ⟨2, 0, 1, 0, [], [1], 63⟩
    removeIgnored (ignoreLint [] a toks) [a, b, c] toks = [b] := by decide +kernel

/-- export/import of a two-entry list -/
example :
    let toks : List Tok := [⟨[0,0],[120],0,1⟩]
    let s := ignoreLint (ignoreLint [] ⟨0, 0, 1, 0, [], [1], 63⟩ toks) ⟨1, 0, 1, 0, [], [2], 63⟩ toks
    s.length = 2 ∧ s.Nodup ∧ importL (exportL s) = s := by decide +kernel

end Harper.C14
