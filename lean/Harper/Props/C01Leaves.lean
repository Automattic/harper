import Harper.Lemmas.Leaves
import Harper.Props.C12b
/-!
# C01 (leaf patterns) — the contract of `Pattern::matches` is a THEOREM for every real leaf

`Props/C01Pattern.lean` proves the combinators safe under the assumption that every leaf returns at
most the length of its slice. Here the leaves of `harper-core/src/patterns/*.rs` are in the model
(`Model/Leaves.lean`, compared with the real patterns on every suffix of real documents' token
vectors on every run), and

* `leaf_contract` / `matches_contract_real`: every leaf, and every tree `RPat` built from the leaves and
  ALL the combinators (`SequencePattern`, `RepeatingPattern`, `EitherPattern`, `All`, `Invert`,
  `ConsumesRemainingPattern`, `NaivePatternGroup`, `PatternMap`, `SimilarToPhrase`, `IsNotTitleCase`,
  `WordPatternGroup`, `TokenKindPatternGroup`), returns at most the length of its slice — on ANY tokens,
  with no hypothesis at all;
* `leaf_total` / `matches_safe_real`: on well-formed tokens inside the text — in any order, zero-width tokens included —
  a tree without `WithinEditDistance`, `SplitCompoundWord` and `IsNotTitleCase` (`plain`; every tree
  of the shipped tables is one: `exactPhrases_plain`) does not panic and does not hang;
* the three demanding patterns: `withinEditDistance_total` needs every lower-cased word to fit the `u8`
  rows (≤ 254 characters) — and `withinEditDistance_panics_long`: a word of more than 255 characters
  PANICS (a finding: `SimilarToPhrase` on any document with such a word; no shipped rule uses it);
  `splitCompoundWord_total` needs the dictionary to have a canonical form of every word it knows;
  `isNotTitleCase_total` needs the tokens in text order (witness: it panics otherwise);
* `matches_safe_real_full`: hence every tree whatsoever is safe on ordered tokens with short words;
* `runOnChunk_safe_real`: `run_on_chunk` around any such tree and any `match_to_lint` that is total on
  non-empty in-text slices;
* `matches_never_hangs_real`, `rep_terminates_real` / `rep_fuel_tight_real` / `rep_fuel_irrelevant` /
  `rep_iterations_le_match`, `runOnChunk_never_hangs_real`, `ruleMapPhrase_never_hangs`, `ruleProperNoun_never_hangs`,
  `condensePasses_never_hang`: no hang and the iteration bound, with no hypothesis; `split_flatten`: the chunk iterators partition.
-/
namespace Harper.C01
open Harper Harper.Chunks Harper.Rules Harper.Leaves

/-! ## the contract, unconditionally -/

/-- every real leaf pattern returns at most the length of the slice it was given -/
theorem leaf_contract (env : Env) (l : Leaf) (src : List Char) (toks : List Tok) (n : Nat)
    (h : l.matcher env src toks = .ok n) : n ≤ toks.length := leaf_mc env l src toks n h

/-- **`Contract` for every tree over the real leaves**: whatever `matches` returns is inside the slice -/
theorem matches_contract_real (env : Env) (p : RPat) (src : List Char) (toks : List Tok) (n : Nat)
    (h : p.matcher env src toks = .ok n) : n ≤ toks.length := matcher_mc env p src toks n h

theorem anyCapitalization_contract (w : List Char) (src : List Char) (toks : List Tok) (n : Nat)
    (h : anyCapAtom w src toks = .ok n) : n ≤ toks.length := anyCapAtom_mc w src toks n h
theorem wordSet_contract (ws : List (List Char)) (src : List Char) (toks : List Tok) (n : Nat)
    (h : wordSetAtom ws src toks = .ok n) : n ≤ toks.length := wordSetAtom_mc ws src toks n h
theorem withinEditDistance_contract (env : Env) (w : List Char) (d : Nat) (src : List Char) (toks : List Tok) (n : Nat)
    (h : withinEditAtom env w d src toks = .ok n) : n ≤ toks.length := withinEdit_mc env w d src toks n h
theorem nominalPhrase_contract (env : Env) (src : List Char) (toks : List Tok) (n : Nat)
    (h : nominalPhraseAtom env src toks = .ok n) : n ≤ toks.length := nominalPhrase_mc env src toks n h
theorem impliesQuantity_contract (env : Env) (src : List Char) (toks : List Tok) (n : Nat)
    (h : impliesQuantityAtom env src toks = .ok n) : n ≤ toks.length := impliesQuantity_mc env src toks n h
theorem splitCompoundWord_contract (env : Env) (bit : Nat) (src : List Char) (toks : List Tok) (n : Nat)
    (h : splitCompoundAtom env bit src toks = .ok n) : n ≤ toks.length := splitCompound_mc env bit src toks n h
theorem isNotTitleCase_contract (env : Env) (p : RPat) (src : List Char) (toks : List Tok) (n : Nat)
    (h : (RPat.notTitleCase p).matcher env src toks = .ok n) : n ≤ toks.length :=
  matches_contract_real env (.notTitleCase p) src toks n h
theorem similarToPhrase_contract (env : Env) (a b : RPat) (src : List Char) (toks : List Tok) (n : Nat)
    (h : (RPat.similar a b).matcher env src toks = .ok n) : n ≤ toks.length :=
  matches_contract_real env (.similar a b) src toks n h

/-! ## totality -/

/-- a leaf other than `WithinEditDistance` / `SplitCompoundWord` does not panic on tokens inside the text -/
theorem leaf_total (env : Env) (l : Leaf) (hl : l.plain = true) (src : List Char) (toks : List Tok)
    (h : InText src toks) : ∃ n, l.matcher env src toks = .ok n ∧ n ≤ toks.length :=
  leaf_okh inText_hyp env l (l.side_of_plain env _ hl) src toks h

/-- `WithinEditDistance` returns when the pattern's word and every word token, lower-cased, have at most
254 characters (`u8_checked_ok_iff`: that is exactly the domain of the dev-profile routine) -/
theorem withinEditDistance_total (env : Env) (w : List Char) (d : Nat) (hw : (toLowerCow env w).length ≤ 254)
    (src : List Char) (toks : List Tok) (h : InText src toks) (hs : ShortWords env src toks) :
    ∃ n, withinEditAtom env w d src toks = .ok n ∧ n ≤ toks.length :=
  withinEdit_ok (and_hyp inText_hyp (ShortWords env) (shortWords_sub env)) env w d hw (fun _ _ hh => hh.2) src toks ⟨h, hs⟩

/-- **finding**: on a word token whose lower-cased text has more than 255 characters `WithinEditDistance`
(hence `SimilarToPhrase`, hence `MapPhraseLinter::new_similar_to_phrase`) panics:
`assert!(source.len() <= 255 && target.len() <= 255)` in the dev profile -/
theorem withinEditDistance_panics_long (env : Env) (w : List Char) (d : Nat) (src : List Char) (t : Tok) (rest : List Tok)
    (hk : t.kind.isWord = true) (hin : TokIn src t) (hl : 255 < (toLowerCow env (textOf src t.span)).length) :
    withinEditAtom env w d src (t :: rest) = .error .assertFail := by
  simp only [withinEditAtom, hk, Bool.not_true, Bool.false_eq_true, if_false, getContent_textOf src t hin]
  rw [editDistance_assert _ _ (.inl hl)]

-- … and in the release profile (wrapping arithmetic, no assertion) a word of 256 characters indexes
-- `previous_row` out of bounds: `0u8..=(256 as u8)` has one element (as in `Props/C15.lean`)
set_option maxRecDepth 20000 in
example : editDistance .wrapping (List.replicate 256 (0 : Nat)) ([] : List Nat) = .error .sliceOOB := by decide +kernel

/-- a word of exactly 255 characters overflows a `u8` cell in the dev profile -/
example : editDistance .checked (List.replicate 255 'a') ['a', 'b'] = .error .overflow :=
  editDistance_overflow_source _ _ List.length_replicate (List.cons_ne_nil _ _) (by decide +kernel)

theorem splitCompoundWord_total (env : Env) (bit : Nat) (hd : DictOK env) (src : List Char) (toks : List Tok)
    (h : InText src toks) : ∃ n, splitCompoundAtom env bit src toks = .ok n ∧ n ≤ toks.length :=
  splitCompound_ok inText_hyp env bit hd src toks h

/-- `IsNotTitleCase` around a safe pattern is safe on tokens in text order -/
theorem isNotTitleCase_total (env : Env) (hc : CanonOK env) (p : RPat) (hp : p.plain = true) (src : List Char)
    (toks : List Tok) (h : Ord src.length toks) :
    ∃ n, (RPat.notTitleCase p).matcher env src toks = .ok n ∧ n ≤ toks.length := by
  rw [RPat.matcher]
  exact notTitleCasePat_okh env hc (fun _ _ hh => hh) _ (matcher_okh inOrder_hyp env p (side_of_plain env _ p hp)) src toks h

/-- text order is needed: `output[word.span.start - start_index]` underflows when a word-like token
starts before the slice's first token -/
example : (RPat.notTitleCase (.rep (.leaf .any) 0)).matcher C12.env0 ['a', ' ', 'b']
    [⟨⟨2, 3⟩, .word⟩, ⟨⟨0, 1⟩, .word⟩] = .error .sliceOOB := by decide +kernel

/-- **`matches_safe` with no leaf assumption**: a tree of the real leaves and combinators, without the
three demanding patterns, never panics, never hangs and stays inside its slice — on well-formed tokens
inside the text, in ANY order, zero-width tokens included (also what the Markdown front-end delivers) -/
theorem matches_safe_real (env : Env) (p : RPat) (hp : p.plain = true) (src : List Char) (toks : List Tok)
    (h : InText src toks) : ∃ n, p.matcher env src toks = .ok n ∧ n ≤ toks.length :=
  matcher_okh inText_hyp env p (side_of_plain env _ p hp) src toks h

/-- the general form: any hypothesis `H` on the tokens that sub-lists inherit, and what the demanding
leaves of the tree ask of it (`Side`) -/
theorem matches_safe_real_side {H : List Char → List Tok → Prop} (hH : SliceHyp H) (env : Env) (p : RPat)
    (hs : p.Side env H) (src : List Char) (toks : List Tok) (h : H src toks) :
    ∃ n, p.matcher env src toks = .ok n ∧ n ≤ toks.length := matcher_okh hH env p hs src toks h

/-- **every tree whatsoever** (all leaves, all combinators) is safe on tokens in text order whose
lower-cased words — and the tree's own — have at most 254 characters, for a dictionary that has a
canonical form, at least as long, of every word it knows -/
theorem matches_safe_real_full (env : Env) (hd : DictOK env) (hc : CanonOK env) (p : RPat) (hw : WordsShort env p)
    (src : List Char) (toks : List Tok) (ho : Ord src.length toks) (hs : ShortWords env src toks) :
    ∃ n, p.matcher env src toks = .ok n ∧ n ≤ toks.length :=
  matcher_okh (orderedShort_hyp env) env p (side_full env hd hc p hw) src toks ⟨ho, hs⟩

/-! ## `run_on_chunk` -/

/-- **`runOnChunk_safe` with no leaf assumption**: `run_on_chunk` around a tree of real leaves and a
`match_to_lint` that is total on non-empty slices of in-text tokens never panics, and every lint it
collects points into the text -/
theorem runOnChunk_safe_real (env : Env) (p : RPat) (hp : p.plain = true)
    (f : List Char → List Tok → Except Panic (List RuleLint)) (src : List Char)
    (hf : ∀ l, l ≠ [] → InText src l → ∃ ls, f src l = .ok ls ∧ ∀ x ∈ ls, LintOK src.length x)
    (chunk : List Tok) (h : InText src chunk) :
    ∃ ls, runOnChunkGo (p.matcher env) f src 0 chunk = .ok ls ∧ ∀ x ∈ ls, LintOK src.length x :=
  runOnChunkGo_okh inText_hyp _ (matcher_okh inText_hyp env p (side_of_plain env _ p hp)) f src hf chunk h 0

theorem runOnChunk_safe_real_full (env : Env) (hd : DictOK env) (hc : CanonOK env) (p : RPat) (hw : WordsShort env p)
    (f : List Char → List Tok → Except Panic (List RuleLint)) (src : List Char)
    (hf : ∀ l, l ≠ [] → OrderedShort env src l → ∃ ls, f src l = .ok ls ∧ ∀ x ∈ ls, LintOK src.length x)
    (chunk : List Tok) (ho : Ord src.length chunk) (hs : ShortWords env src chunk) :
    ∃ ls, runOnChunkGo (p.matcher env) f src 0 chunk = .ok ls ∧ ∀ x ∈ ls, LintOK src.length x :=
  runOnChunkGo_okh (orderedShort_hyp env) _ (matcher_okh (orderedShort_hyp env) env p (side_full env hd hc p hw)) f src hf
    chunk ⟨ho, hs⟩ 0

/-! ## the chunk iterators the rule models run over -/

/-- **the Tok-level `iter_chunks` / `iter_sentences` / `iter_paragraphs` of `Model/Chunks.lean`** (the ones the rule models
`ruleMapPhrase`, `ruleProperNoun`, … iterate over) partition the token vector too: the pieces, concatenated, are the tokens —
nothing lost, duplicated or reordered (`iterSplit_flatten` of `Props/C01Pattern.lean` is about the kind-code model) -/
theorem split_flatten (term : Kind → Bool) (toks : List Tok) : (Chunks.split term toks).flatten = toks := by
  have key : ∀ (toks cur : List Tok), (splitGo term cur toks).flatten = cur.reverse ++ toks := by
    intro toks
    induction toks with
    | nil =>
      intro cur
      unfold splitGo
      cases cur <;> simp
    | cons t ts ih =>
      intro cur
      unfold splitGo
      split
      · simp [ih []]
      · rw [ih (t :: cur)]; simp
  unfold Chunks.split
  split
  · rename_i h; simp at h; simp [h]
  · simpa using key toks []

theorem iterChunks_tok_flatten (toks : List Tok) : (Chunks.iterChunks toks).flatten = toks := split_flatten _ _
theorem iterSentences_tok_flatten (toks : List Tok) : (Chunks.iterSentences toks).flatten = toks := split_flatten _ _
theorem iterParagraphs_tok_flatten (toks : List Tok) : (Chunks.iterParagraphs toks).flatten = toks := split_flatten _ _

/-- e.g. the tokens of `ab,cd.e`: a comma and a period close their chunks, the trailing word is a chunk of its own -/
example : Chunks.iterChunks [⟨⟨0, 2⟩, .word⟩, ⟨⟨2, 3⟩, .punct .Comma⟩, ⟨⟨3, 5⟩, .word⟩, ⟨⟨5, 6⟩, .punct .Period⟩, ⟨⟨6, 7⟩, .word⟩] =
    [[⟨⟨0, 2⟩, .word⟩, ⟨⟨2, 3⟩, .punct .Comma⟩], [⟨⟨3, 5⟩, .word⟩, ⟨⟨5, 6⟩, .punct .Period⟩], [⟨⟨6, 7⟩, .word⟩]] := by decide +kernel

/-! ## the trees of the shipped tables are `plain` -/

/-- `ExactPhrase::from_document` builds a sequence of `AnyCapitalization`, `WhitespacePattern` and kind
closures: nothing demanding -/
theorem exactPhrase_plain (env : Env) (psrc : List Char) (ptoks : List Tok) (p : RPat)
    (h : exactPhraseOf env psrc ptoks = some p) : p.plain = true :=
  isPhrasePat_plain p (exactPhrase_isPhrase env psrc ptoks p h)

/-- … and so is the `EitherPattern` of `MapPhraseLinter::new_exact_phrases`: every row of
`phrase_corrections.rs` and `closed_compounds.rs`, whatever its phrases -/
theorem exactPhrases_plain (env : Env) (docs : List (List Char × List Tok)) (p : RPat)
    (h : exactPhrasesOf env docs = some p) : p.plain = true := by
  simp only [exactPhrasesOf, Option.map_eq_some_iff] at h
  obtain ⟨ps, hps, rfl⟩ := h
  simp only [RPat.plain]
  apply ofList_plain
  intro q hq
  obtain ⟨d, _, hd⟩ := mapM_some_mem _ _ _ hps q hq
  exact exactPhrase_plain env d.1 d.2 q hd

/-! ## non-vacuity (kernel-evaluated) -/

open Harper.C12 (env0)

/-- the phrase document of `in tact` and the tokens of `We in  tact now.` -/
def phIntact : List Char × List Tok := (['i', 'n', ' ', 't', 'a', 'c', 't'], [⟨⟨0, 2⟩, .word⟩, ⟨⟨2, 3⟩, .space 1⟩, ⟨⟨3, 7⟩, .word⟩])
def srcIntact : List Char := ['W', 'e', ' ', 'I', 'n', ' ', ' ', 't', 'a', 'c', 't', ' ', 'n', 'o', 'w', '.']
def toksIntact : List Tok :=
  [⟨⟨0, 2⟩, .word⟩, ⟨⟨2, 3⟩, .space 1⟩, ⟨⟨3, 5⟩, .word⟩, ⟨⟨5, 7⟩, .space 2⟩, ⟨⟨7, 11⟩, .word⟩, ⟨⟨11, 12⟩, .space 1⟩,
    ⟨⟨12, 15⟩, .word⟩, ⟨⟨15, 16⟩, .punct .Period⟩]

example : exactPhraseOf env0 phIntact.1 phIntact.2 =
    some (.seq (.cons (.leaf (.anyCap ['i', 'n'])) (.cons (.leaf .whitespace) (.cons (.leaf (.anyCap ['t', 'a', 'c', 't'])) .nil)))) := by
  rfl

theorem inText_intact : InText srcIntact toksIntact := by
  intro t ht
  simp only [toksIntact, List.mem_cons, List.mem_nil_iff, or_false] at ht
  rcases ht with rfl | rfl | rfl | rfl | rfl | rfl | rfl | rfl <;> exact ⟨by decide, by decide⟩

example : InText srcIntact toksIntact := inText_intact

/-- the pattern matches `In  tact` (three tokens) at token 2 -/
example : ((exactPhraseOf env0 phIntact.1 phIntact.2).map fun p => p.matcher env0 srcIntact (toksIntact.drop 2)) = some (.ok 3) := by
  decide +kernel

/-- a tree that uses every combinator over real leaves: plain, hence safe -/
def sampleTree : RPat :=
  .seq (.cons (.leaf (.wordSet [['w', 'e'], ['i']])) (.cons (.leaf .whitespace)
    (.cons (.either (.cons (.rep (.leaf (.kind .word false)) 1) (.cons (.first (.cons (.leaf (.exactWord ['I', 'n'])) .nil)) .nil)))
      (.cons (.all (.cons (.invert (.leaf (.anyCap ['x']))) (.cons (.leaf .any) .nil)))
        (.cons (.wordGroup (.cons ['t', 'a', 'c', 't'] (.consumes (.rep (.leaf .any) 0)) .nil)) .nil)))))

example : sampleTree.plain = true := by decide +kernel
example : sampleTree.matcher env0 srcIntact toksIntact = .ok 8 := by decide +kernel

/-! ## every hypothesis-carrying theorem of this file at a concrete, non-trivial value -/

/-- non-vacuity of `anyCapitalization_contract`, `wordSet_contract`, `leaf_contract`: the hypothesis `… = .ok n` with `n ≠ 0` -/
example : anyCapAtom ['i', 'n'] srcIntact (toksIntact.drop 2) = .ok 1 ∧
    wordSetAtom [['w', 'e'], ['i']] srcIntact toksIntact = .ok 1 ∧
    (Leaf.exactWord ['I', 'n']).matcher env0 srcIntact (toksIntact.drop 2) = .ok 1 := by decide +kernel

/-- non-vacuity of `withinEditDistance_contract`, `similarToPhrase_contract`: `Im` is within distance 1 of `In`; the fuzzy
sequence matches three tokens where the exact one matches none -/
example : withinEditAtom env0 ['i', 'm'] 1 srcIntact (toksIntact.drop 2) = .ok 1 ∧
    (RPat.similar (.seq (.cons (.leaf (.anyCap ['i', 'm'])) (.cons (.leaf .whitespace) (.cons (.leaf (.anyCap ['t', 'a', 'c', 't'])) .nil))))
      (.seq (.cons (.leaf (.withinEdit ['i', 'm'] 1)) (.cons (.leaf .whitespace) (.cons (.leaf (.withinEdit ['t', 'a', 'c', 't'] 1)) .nil))))).matcher
      env0 srcIntact (toksIntact.drop 2) = .ok 3 := by decide +kernel

/-- non-vacuity of `nominalPhrase_contract`, `impliesQuantity_contract`: with `We` a determiner and every other word a
nominal, `We In` is a nominal phrase of three tokens and `We` implies a quantity -/
example : nominalPhraseAtom { env0 with wordFlags := fun w => if w = ['W', 'e'] then 32784 else 32832 } srcIntact toksIntact = .ok 3 ∧
    impliesQuantityAtom { env0 with wordFlags := fun w => if w = ['W', 'e'] then 32784 else 32832 } srcIntact toksIntact = .ok 1 := by
  decide +kernel

/-- non-vacuity of `leaf_total`: a plain leaf on the in-text tokens of `We In  tact now.` -/
example : ∃ n, (Leaf.anyCap ['w', 'e']).matcher env0 srcIntact toksIntact = .ok n ∧ n ≤ toksIntact.length :=
  leaf_total env0 (.anyCap ['w', 'e']) rfl srcIntact toksIntact inText_intact

/-- non-vacuity of `withinEditDistance_total`: its three hypotheses together, and the theorem applied -/
example : ∃ n, withinEditAtom env0 ['i', 'm'] 1 srcIntact toksIntact = .ok n ∧ n ≤ toksIntact.length :=
  withinEditDistance_total env0 ['i', 'm'] 1 (by decide +kernel) srcIntact toksIntact inText_intact (by unfold ShortWords; decide +kernel)

/-- non-vacuity of `withinEditDistance_panics_long`, applied: a word token of 256 letters meets its three hypotheses -/
example : withinEditAtom env0 ['a'] 1 (List.replicate 256 'a') [⟨⟨0, 256⟩, .word⟩] = .error .assertFail := by
  have h : ∀ n, (toLowerCow env0 (textOf (List.replicate n 'a') ⟨0, n⟩)).length = n := by
    intro n
    simp [textOf, toLowerCow, env0]
  refine withinEditDistance_panics_long env0 _ _ _ _ [] rfl ⟨Nat.zero_le _, ?_⟩ ?_
  · show 256 ≤ (List.replicate 256 'a').length
    rw [List.length_replicate]; exact Nat.le_refl _
  · show 255 < (toLowerCow env0 (textOf (List.replicate 256 'a') ⟨0, 256⟩)).length
    rw [h]; decide +kernel

/-- non-vacuity of `matches_safe_real` and `runOnChunk_safe_real`, applied: `sampleTree` (plain) with `MapPhraseLinter`'s
`match_to_lint`, which is total on in-text slices (`mapPhraseMatch_ok`) -/
example : ∃ ls, runOnChunkGo (sampleTree.matcher env0) (mapPhraseMatch env0 [['x']]) srcIntact 0 toksIntact = .ok ls ∧
    ∀ x ∈ ls, LintOK srcIntact.length x :=
  runOnChunk_safe_real env0 sampleTree (by decide +kernel) _ srcIntact
    (fun l _ hl => mapPhraseMatch_ok env0 [['x']] srcIntact l hl) toksIntact inText_intact

/-- … and what it computes: one lint over the whole of `We In  tact now.` -/
example : runOnChunkGo (sampleTree.matcher env0) (mapPhraseMatch env0 [['x']]) srcIntact 0 toksIntact =
    .ok [⟨⟨0, 16⟩, [.replaceWith ['X']], 13, 0⟩] := by decide +kernel

/-- non-vacuity of `exactPhrases_plain`: `MapPhraseLinter::new_exact_phrases(["in tact"])` -/
example : exactPhrasesOf env0 [phIntact] =
    some (.either (.cons (.seq (.cons (.leaf (.anyCap ['i', 'n'])) (.cons (.leaf .whitespace) (.cons (.leaf (.anyCap ['t', 'a', 'c', 't'])) .nil)))) .nil)) := by
  rfl

/-- a dictionary that knows `Intact` (a noun) and the proper noun `tact` (canonical form `Tact`) -/
def envIntact : Env := { env0 with
  wordFlags := fun w => if w = ['I', 'n', 't', 'a', 'c', 't'] then 33024 else if w = ['t', 'a', 'c', 't'] then 32800 else 0
  canonical := fun w => if w = ['I', 'n', 't', 'a', 'c', 't'] then some ['I', 'n', 't', 'a', 'c', 't']
    else if w = ['t', 'a', 'c', 't'] then some ['T', 'a', 'c', 't'] else none }

/-- a tree with all three demanding patterns: `SplitCompoundWord`, `IsNotTitleCase` around the phrase `in tact`,
`SimilarToPhrase` of `im tact` -/
def demandingTree : RPat :=
  .either (.cons (.leaf (.splitCompound 8))
    (.cons (.notTitleCase (.seq (.cons (.leaf (.anyCap ['i', 'n'])) (.cons (.leaf .whitespace) (.cons (.leaf (.anyCap ['t', 'a', 'c', 't'])) .nil)))))
    (.cons (.similar (.seq (.cons (.leaf (.anyCap ['i', 'm'])) (.cons (.leaf .whitespace) (.cons (.leaf (.anyCap ['t', 'a', 'c', 't'])) .nil))))
      (.seq (.cons (.leaf (.withinEdit ['i', 'm'] 1)) (.cons (.leaf .whitespace) (.cons (.leaf (.withinEdit ['t', 'a', 'c', 't'] 1)) .nil))))) .nil)))

theorem envIntact_dictOK : DictOK envIntact := by
  intro w h
  show (if w = ['I', 'n', 't', 'a', 'c', 't'] then some ['I', 'n', 't', 'a', 'c', 't']
    else if w = ['t', 'a', 'c', 't'] then some ['T', 'a', 'c', 't'] else none) ≠ none
  by_cases h1 : w = ['I', 'n', 't', 'a', 'c', 't']
  · rw [if_pos h1]; exact fun e => nomatch e
  · rw [if_neg h1]
    by_cases h2 : w = ['t', 'a', 'c', 't']
    · rw [if_pos h2]; exact fun e => nomatch e
    · -- an unknown word has no flag at all
      have : envIntact.wordFlags w = 0 := by show (if _ then _ else if _ then _ else _) = 0; rw [if_neg h1, if_neg h2]
      rw [this] at h
      exact absurd h (by decide)

theorem envIntact_canonOK : CanonOK envIntact := by
  intro w c h
  have h' : (if w = ['I', 'n', 't', 'a', 'c', 't'] then some ['I', 'n', 't', 'a', 'c', 't']
    else if w = ['t', 'a', 'c', 't'] then some ['T', 'a', 'c', 't'] else none) = some c := h
  by_cases h1 : w = ['I', 'n', 't', 'a', 'c', 't']
  · rw [if_pos h1] at h'; cases h'; subst h1; exact Nat.le_refl _
  · rw [if_neg h1] at h'
    by_cases h2 : w = ['t', 'a', 'c', 't']
    · rw [if_pos h2] at h'; cases h'; subst h2; exact Nat.le_refl _
    · rw [if_neg h2] at h'; cases h'

theorem demandingTree_wordsShort : WordsShort envIntact demandingTree := by
  simp only [demandingTree, WordsShort, WordsShortL, Leaf.wordsShort, and_true, true_and]
  decide +kernel

theorem shortWords_intact : ShortWords envIntact srcIntact toksIntact := by
  unfold ShortWords; decide +kernel

/-- **non-vacuity of `matches_safe_real_full`, `matches_safe_real_side`, `splitCompoundWord_total`, `isNotTitleCase_total`,
`runOnChunk_safe_real_full`** — `DictOK`, `CanonOK`, `WordsShort`, `Ord`, `ShortWords` TOGETHER and none of them trivially:
a dictionary that knows `Intact` (a noun) and the proper noun `tact` (canonical form `Tact`); a tree with all three demanding
patterns — `SplitCompoundWord`, `IsNotTitleCase` around the phrase `in tact`, `SimilarToPhrase` of `im tact` — and the tiling
tokens of `We In  tact now.`; each of the three branches matches the three tokens `In  tact`, and `run_on_chunk` reports them.
(`C12.env0`, used above, knows no word: there `DictOK` and `CanonOK` hold for want of any entry.) -/
theorem full_witness : ∃ (env : Env) (p : RPat) (src : List Char) (toks : List Tok),
    DictOK env ∧ CanonOK env ∧ WordsShort env p ∧ Rules.Ord src.length toks ∧ ShortWords env src toks ∧ Tiles toks 0 src.length ∧
    p.plain = false ∧
    (RPat.leaf (.splitCompound 8)).matcher env src (toks.drop 2) = .ok 3 ∧
    (RPat.notTitleCase (.seq (.cons (.leaf (.anyCap ['i', 'n'])) (.cons (.leaf .whitespace) (.cons (.leaf (.anyCap ['t', 'a', 'c', 't'])) .nil))))).matcher
      env src (toks.drop 2) = .ok 3 ∧
    p.matcher env src (toks.drop 2) = .ok 3 ∧ p.matcher env src toks = .ok 0 ∧
    runOnChunkGo (p.matcher env) (mapPhraseMatch env [['i', 'n', 't', 'a', 'c', 't']]) src 0 toks =
      .ok [⟨⟨3, 11⟩, [.replaceWith ['I', 'n', 't', 'a', 'c', 't']], 13, 0⟩] :=
  ⟨envIntact, demandingTree, srcIntact, toksIntact, envIntact_dictOK, envIntact_canonOK, demandingTree_wordsShort,
    by unfold Rules.Ord; decide +kernel, shortWords_intact, by decide +kernel, by decide +kernel, by decide +kernel,
    by decide +kernel, by decide +kernel, by decide +kernel, by decide +kernel⟩

/-- the five theorems applied to that value: their hypotheses are exactly what `full_witness` provides -/
example : ∃ (env : Env) (p : RPat) (src : List Char) (toks : List Tok), p.plain = false ∧
    (∃ n, p.matcher env src toks = .ok n ∧ n ≤ toks.length) ∧
    (∃ n, splitCompoundAtom env 8 src toks = .ok n ∧ n ≤ toks.length) ∧
    (∃ n, (RPat.notTitleCase (.leaf .any)).matcher env src toks = .ok n ∧ n ≤ toks.length) ∧
    (∃ ls, runOnChunkGo (p.matcher env) (mapPhraseMatch env [['x']]) src 0 toks = .ok ls ∧ ∀ x ∈ ls, LintOK src.length x) := by
  obtain ⟨env, p, src, toks, hd, hc, hw, ho, hs, _, hp, _⟩ := full_witness
  exact ⟨env, p, src, toks, hp,
    matches_safe_real_side (orderedShort_hyp env) env p (side_full env hd hc p hw) src toks ⟨ho, hs⟩,
    splitCompoundWord_total env 8 hd src toks (inOrder_hyp.inb src toks ho),
    isNotTitleCase_total env hc (.leaf .any) rfl src toks ho,
    runOnChunk_safe_real_full env hd hc p hw _ src
      (fun l _ hl => mapPhraseMatch_ok env [['x']] src l ((orderedShort_hyp env).inb src l hl)) toks ho hs⟩

example : ∃ (env : Env) (p : RPat) (src : List Char) (toks : List Tok) (n : Nat), p.plain = false ∧
    p.matcher env src toks = .ok n ∧ n ≤ toks.length := by
  obtain ⟨env, p, src, toks, hd, hc, hw, ho, hs, _, hp, _⟩ := full_witness
  obtain ⟨n, h1, h2⟩ := matches_safe_real_full env hd hc p hw src toks ho hs
  exact ⟨env, p, src, toks, n, hp, h1, h2⟩

/-! ## never hangs — UNCONDITIONALLY — and the iteration bound of `RepeatingPattern`, for the real leaves

`matches_never_hangs`, `rep_terminates`, `rep_fuel_tight`, `runOnChunk_never_hangs`, `findAllMatches_never_hangs` of
`Props/C01Pattern.lean` are about the kind-code model `Pat`. The same for `RPat`, the trees over the REAL leaf patterns: no
hypothesis on the environment, the source, the tokens (spans may lie outside the text, be inverted, overlap, be out of order)
or the tree. The only fuelled loop in `RPat.matcher` is `repGo` (`RepeatingPattern::matches`); every leaf and every other
combinator is a structural recursion. -/

/-- no real leaf pattern can hang: `Leaf.matcher` never returns `Panic.outOfFuel` (`WhitespacePattern` and `NominalPhrase` walk
the slice once; `WithinEditDistance` runs the two bounded `for` loops of `edit_distance_min_alloc`; `SplitCompoundWord` a
three-element `SequencePattern`; the rest look at one token) -/
theorem leaf_never_hangs (env : Env) (l : Leaf) (src : List Char) (toks : List Tok) :
    l.matcher env src toks ≠ .error .outOfFuel := leaf_nf env l src toks

/-- **`Pattern::matches` of a tree over the real leaves never hangs** — every `env`, every tree, every source, every token
list; the counterpart of `matches_never_hangs` (kind-code model). A `RepeatingPattern` loop iteration returns (child answered
0), propagates the child's panic, panics in `&tokens[cursor..]` (child answered more than the slice holds), or shortens the slice
by at least one token — so the `toks.length + 1` iterations `repPat` allows are never used up. -/
theorem matches_never_hangs_real (env : Env) (p : RPat) (src : List Char) (toks : List Tok) :
    p.matcher env src toks ≠ .error .outOfFuel := matcher_nf env p src toks

/-- the same for `RepeatingPattern` around ANY child that does not itself hang — the child need not keep the contract -/
theorem rep_never_hangs_any (inner : Matcher) (hi : ∀ src toks, inner src toks ≠ .error .outOfFuel) (req : Nat)
    (src : List Char) (toks : List Tok) : repPat inner req src toks ≠ .error .outOfFuel := repPat_nf inner hi req src toks

/-- non-vacuity of `rep_never_hangs_any`: children that break the contract meet its hypothesis, and the loop ends in the slice
panic, not in a hang — a child that answers 5 on one token; a child that always answers 1 (the unfixed `Invert(any)` on the
empty rest: two iterations consume the two tokens, the third panics) -/
example : repPat (fun _ _ => .ok 5) 0 [] [⟨⟨0, 1⟩, .word⟩] = .error .sliceOOB ∧
    repPat (fun _ _ => .ok 1) 0 [] [⟨⟨0, 1⟩, .word⟩, ⟨⟨1, 2⟩, .word⟩] = .error .sliceOOB := by decide +kernel

/-- `matches_never_hangs_real` at work: a repetition of a leaf that answers 0 at once (`then_one_or_more(any word)` on a space);
a repetition nested in a repetition (the inner one eats the three tokens, the outer one sees 0 on the empty rest and stops); a
repetition of `Invert` (one token per round, 0 on the empty slice) -/
example : (RPat.rep (.leaf (.kind .word false)) 0).matcher C12.env0 [' '] [⟨⟨0, 1⟩, .space 1⟩] = .ok 0 ∧
    (RPat.rep (.rep (.leaf .any) 0) 0).matcher C12.env0 [] [⟨⟨0, 1⟩, .word⟩, ⟨⟨1, 2⟩, .space 1⟩, ⟨⟨2, 3⟩, .word⟩] = .ok 3 ∧
    (RPat.rep (.invert (.leaf .whitespace)) 2).matcher C12.env0 [] [⟨⟨0, 1⟩, .word⟩, ⟨⟨1, 2⟩, .word⟩, ⟨⟨2, 3⟩, .word⟩] = .ok 3 := by
  decide +kernel

/-- … and on tokens that are NOT in the text (the span 7..9 of a one-character source; an inverted span): the leaf panics —
with the slice / underflow panic, through two `RepeatingPattern`s — it does not hang -/
example : (RPat.rep (.rep (.leaf (.exactWord ['a'])) 0) 0).matcher C12.env0 ['a'] [⟨⟨7, 9⟩, .word⟩] = .error .sliceOOB ∧
    (RPat.rep (.seq (.cons (.leaf .any) (.cons (.leaf (.anyCap ['a'])) .nil))) 0).matcher C12.env0 ['a']
      [⟨⟨0, 1⟩, .word⟩, ⟨⟨1, 0⟩, .word⟩] = .error .underflow := by decide +kernel

/-! ### the iteration bound (`rep_terminates`, `rep_fuel_tight` for the real leaves) -/

/-- **`RepeatingPattern`'s loop over a real tree needs at most `toks.length + 1` iterations**, and what it ends with is a match
length inside the slice or the very panic the child raised on a suffix `toks[k..]` of the slice — never a panic of its own,
never a hang. (`fuel` = iterations of the loop body; the child's contract is `matches_contract_real`, a theorem.) -/
theorem rep_terminates_real (env : Env) (p : RPat) (req : Nat) (src : List Char) (toks : List Tok) (fuel : Nat)
    (hf : toks.length < fuel) :
    (∃ n, repGo (p.matcher env) req src fuel 0 0 toks = .ok n ∧ n ≤ toks.length) ∨
    (∃ e k, repGo (p.matcher env) req src fuel 0 0 toks = .error e ∧ e ≠ .outOfFuel ∧ k ≤ toks.length ∧
      p.matcher env src (toks.drop k) = .error e) := by
  rcases repGo_outcome (p.matcher env) (matcher_mc env p) req src fuel 0 0 toks hf with ⟨n, h1, h2⟩ | ⟨e, k, h1, h2, h3⟩
  · exact .inl ⟨n, h1, by omega⟩
  · exact .inr ⟨e, k, h1, fun he => matcher_nf env p src _ (he ▸ h3), h2, h3⟩

/-- the general form: ANY child that keeps the contract (`n ≤ toks.length` whenever it returns) -/
theorem rep_terminates_any (inner : Matcher) (hc : ∀ src toks n, inner src toks = .ok n → n ≤ toks.length) (req : Nat)
    (src : List Char) (toks : List Tok) (fuel : Nat) (hf : toks.length < fuel) :
    (∃ n, repGo inner req src fuel 0 0 toks = .ok n ∧ n ≤ toks.length) ∨
    (∃ e k, repGo inner req src fuel 0 0 toks = .error e ∧ k ≤ toks.length ∧ inner src (toks.drop k) = .error e) := by
  rcases repGo_outcome inner hc req src fuel 0 0 toks hf with ⟨n, h1, h2⟩ | h
  · exact .inl ⟨n, h1, by omega⟩
  · exact .inr h

/-- non-vacuity of `rep_terminates_any`: `kindAtom` keeps the contract (hypothesis `hc`), fuel 3 on two tokens -/
example : (∃ n, repGo (kindAtom Kind.isWord) 0 [] 3 0 0 [⟨⟨0, 1⟩, .word⟩, ⟨⟨1, 2⟩, .word⟩] = .ok n ∧ n ≤ 2) ∨
    (∃ e k, repGo (kindAtom Kind.isWord) 0 [] 3 0 0 [⟨⟨0, 1⟩, .word⟩, ⟨⟨1, 2⟩, .word⟩] = .error e ∧ k ≤ 2 ∧
      kindAtom Kind.isWord [] (List.drop k [⟨⟨0, 1⟩, .word⟩, ⟨⟨1, 2⟩, .word⟩]) = .error e) :=
  rep_terminates_any (kindAtom Kind.isWord) (tokAtom_mc fun _ t => t.kind.isWord) 0 [] _ 3 (by decide +kernel)
example : repGo (kindAtom Kind.isWord) 0 [] 3 0 0 [⟨⟨0, 1⟩, .word⟩, ⟨⟨1, 2⟩, .word⟩] = .ok 2 := by decide +kernel

/-- the bound at its smallest value, which is the fuel the model (`repPat`) runs the loop with: the statement is about
`(RPat.rep p req).matcher` itself -/
theorem rep_fuel_tight_real (env : Env) (p : RPat) (req : Nat) (src : List Char) (toks : List Tok) :
    (∃ n, (RPat.rep p req).matcher env src toks = .ok n ∧ n ≤ toks.length) ∨
    (∃ e k, (RPat.rep p req).matcher env src toks = .error e ∧ e ≠ .outOfFuel ∧ k ≤ toks.length ∧
      p.matcher env src (toks.drop k) = .error e) := by
  rw [RPat.matcher]
  exact rep_terminates_real env p req src toks (toks.length + 1) (Nat.lt_succ_self _)

/-- … and `toks.length` iterations do NOT suffice: `any` repeated over two tokens needs the third iteration to see the empty
rest and return -/
example : repGo ((RPat.leaf .any).matcher C12.env0) 0 [] 2 0 0 [⟨⟨0, 1⟩, .word⟩, ⟨⟨1, 2⟩, .word⟩] = .error .outOfFuel ∧
    repGo ((RPat.leaf .any).matcher C12.env0) 0 [] 3 0 0 [⟨⟨0, 1⟩, .word⟩, ⟨⟨1, 2⟩, .word⟩] = .ok 2 := by decide +kernel

/-- non-vacuity of `rep_terminates_real` (`hf` at `fuel = 9 = len + 1`), applied, and both disjuncts occur: on the in-text tokens
of `We In  tact now.` the loop returns; with the out-of-text token of above the child's panic comes through (`k = 0`) -/
example : (∃ n, repGo ((RPat.leaf .any).matcher env0) 3 srcIntact 9 0 0 toksIntact = .ok n ∧ n ≤ toksIntact.length) ∨
    (∃ e k, repGo ((RPat.leaf .any).matcher env0) 3 srcIntact 9 0 0 toksIntact = .error e ∧ e ≠ .outOfFuel ∧ k ≤ toksIntact.length ∧
      (RPat.leaf .any).matcher env0 srcIntact (toksIntact.drop k) = .error e) :=
  rep_terminates_real env0 (.leaf .any) 3 srcIntact toksIntact 9 (by decide +kernel)
example : repGo ((RPat.leaf .any).matcher env0) 3 srcIntact 9 0 0 toksIntact = .ok 8 ∧
    repGo ((RPat.leaf (.exactWord ['a'])).matcher env0) 0 ['a'] 2 0 0 [⟨⟨7, 9⟩, .word⟩] = .error .sliceOOB ∧
    (RPat.leaf (.exactWord ['a'])).matcher env0 ['a'] ([⟨⟨7, 9⟩, .word⟩].drop 0) = .error .sliceOOB := by decide +kernel

/-- **fuel above `toks.length` is never touched**: any two such fuels give the same result — for ANY child (the loop itself
refuses an answer longer than the slice). So the model's choice `toks.length + 1` loses nothing against the unbounded Rust `loop`. -/
theorem rep_fuel_irrelevant (inner : Matcher) (req : Nat) (src : List Char) (toks : List Tok) (fuel fuel' : Nat)
    (hf : toks.length < fuel) (hf' : toks.length < fuel') :
    repGo inner req src fuel 0 0 toks = repGo inner req src fuel' 0 0 toks :=
  repGo_fuel_irrelevant inner req src fuel fuel' 0 0 toks hf hf'

/-- non-vacuity of `rep_fuel_irrelevant`: fuels 9 and 100 on eight tokens -/
example : repGo ((RPat.leaf .any).matcher env0) 3 srcIntact 9 0 0 toksIntact =
    repGo ((RPat.leaf .any).matcher env0) 3 srcIntact 100 0 0 toksIntact :=
  rep_fuel_irrelevant _ 3 srcIntact toksIntact 9 100 (by decide +kernel) (by decide +kernel)

/-- **the fuel actually consumed is output-sensitive**: a non-zero match length `n` is reached within `n + 1` iterations (every
iteration but the last adds at least one token to the `n` matched) — for ANY child, whatever fuel the run that produced `n` had -/
theorem rep_iterations_le_match (inner : Matcher) (req : Nat) (src : List Char) (toks : List Tok) (fuel n : Nat)
    (h : repGo inner req src fuel 0 0 toks = .ok n) (hn : n ≠ 0) : repGo inner req src (n + 1) 0 0 toks = .ok n :=
  repGo_fuel_by_result inner req src fuel 0 0 toks n h hn

/-- non-vacuity of `rep_iterations_le_match`: whitespace-or-word pairs over `We In  tact now.`: 6 tokens in 3 rounds (fuel 4 ≤ 7
would do); the bound `n + 1` is attained by `any` (one token per round) -/
example : repGo ((RPat.seq (.cons (.leaf .any) (.cons (.leaf .whitespace) .nil))).matcher env0) 0 srcIntact 9 0 0 toksIntact = .ok 6 ∧
    repGo ((RPat.seq (.cons (.leaf .any) (.cons (.leaf .whitespace) .nil))).matcher env0) 0 srcIntact 7 0 0 toksIntact = .ok 6 ∧
    repGo ((RPat.seq (.cons (.leaf .any) (.cons (.leaf .whitespace) .nil))).matcher env0) 0 srcIntact 4 0 0 toksIntact = .ok 6 ∧
    repGo ((RPat.leaf .any).matcher env0) 0 srcIntact 9 0 0 toksIntact = .ok 8 ∧
    repGo ((RPat.leaf .any).matcher env0) 0 srcIntact 8 0 0 toksIntact = .error .outOfFuel := by decide +kernel

/-! ### `run_on_chunk` -/

/-- **`run_on_chunk` around any real tree cannot spin**: the cursor advances in every iteration (the model's recursion is the
cursor; it has no fuel of its own), so a hang could only come from the pattern — `matches_never_hangs_real` — or from
`match_to_lint`. The counterpart of `runOnChunk_never_hangs`; no hypothesis on source or tokens. -/
theorem runOnChunk_never_hangs_real (env : Env) (p : RPat) (f : List Char → List Tok → Except Panic (List RuleLint))
    (src : List Char) (hf : ∀ l, f src l ≠ .error .outOfFuel) (skip : Nat) (chunk : List Tok) :
    runOnChunkGo (p.matcher env) f src skip chunk ≠ .error .outOfFuel :=
  runOnChunkGo_nf _ (matcher_nf env p) f src hf chunk skip

/-- … and around ANY pattern that does not hang itself -/
theorem runOnChunk_never_hangs_any (m : Matcher) (hm : ∀ src toks, m src toks ≠ .error .outOfFuel)
    (f : List Char → List Tok → Except Panic (List RuleLint)) (src : List Char) (hf : ∀ l, f src l ≠ .error .outOfFuel)
    (skip : Nat) (chunk : List Tok) : runOnChunkGo m f src skip chunk ≠ .error .outOfFuel :=
  runOnChunkGo_nf m hm f src hf chunk skip

/-- `MapPhraseLinter` (all of `phrase_corrections.rs`, `closed_compounds.rs`): the whole linter, `iter_chunks` included, never
hangs — whatever pattern, whatever document -/
theorem ruleMapPhrase_never_hangs (env : Env) (p : RPat) (forms : List (List Char)) (src : List Char) (toks : List Tok) :
    ruleMapPhrase env p forms src toks ≠ .error .outOfFuel :=
  collectE_nf _ _ fun chunk _ => runOnChunk_never_hangs_real env p _ src (mapPhraseMatch_nf env forms src) 0 chunk

/-- `ProperNounCapitalizationLinter`: the same (its `match_to_lint` runs the patterns a second time, `PatternMap::lookup`) -/
theorem ruleProperNoun_never_hangs (env : Env) (rows : List PNRow) (src : List Char) (toks : List Tok) :
    ruleProperNoun env rows src toks ≠ .error .outOfFuel :=
  collectE_nf _ _ fun chunk _ => runOnChunk_never_hangs_real env _ _ src (properNounMatch_nf env rows src) 0 chunk

/-- non-vacuity of `runOnChunk_never_hangs_real` / `_any`: `hf` holds of `MapPhraseLinter::match_to_lint`; the theorem applied
to a tree with a nested repetition, on in-text tokens (a lint) and on a token outside the text (the leaf's panic, no hang) -/
example : runOnChunkGo ((RPat.rep (.rep (.leaf (.kind .word false)) 0) 0).matcher env0) (mapPhraseMatch env0 [['x']]) srcIntact 0
    toksIntact ≠ .error .outOfFuel :=
  runOnChunk_never_hangs_real env0 _ _ srcIntact (mapPhraseMatch_nf env0 [['x']] srcIntact) 0 toksIntact
example : runOnChunkGo ((RPat.rep (.rep (.leaf (.kind .word false)) 0) 0).matcher env0) (mapPhraseMatch env0 [['x']]) srcIntact 0
      (toksIntact.take 3) = .ok [⟨⟨0, 2⟩, [.replaceWith ['X']], 13, 0⟩, ⟨⟨3, 5⟩, [.replaceWith ['X']], 13, 0⟩] ∧
    runOnChunkGo ((RPat.rep (.leaf (.exactWord ['a'])) 0).matcher env0) (mapPhraseMatch env0 [['x']]) ['a'] 0
      [⟨⟨0, 1⟩, .word⟩, ⟨⟨7, 9⟩, .word⟩] = .error .sliceOOB := by decide +kernel

/-! ### `find_all_matches`, `condense_pattern` over real tokens -/

/-- `find_all_matches` (document.rs; one `matches` per start index, then the overlap filter) with any real tree never hangs -/
theorem findAllMatches_never_hangs_real (env : Env) (p : RPat) (src : List Char) (toks : List Tok) :
    Harper.findAllMatches (p.matcher env) src toks ≠ .error .outOfFuel :=
  findAllMatches_nf _ (matcher_nf env p) src toks

/-- `condense_pattern` with any pattern that does not hang itself never hangs (its own loops are `for`s over the matches) -/
theorem condensePattern_never_hangs (m : Matcher) (hm : ∀ src toks, m src toks ≠ .error .outOfFuel) (edit : Kind → Kind)
    (src : List Char) (toks : List Tok) : condensePattern m edit src toks ≠ .error .outOfFuel :=
  condensePattern_nf m hm edit src toks

/-- hence the three pattern passes of `Document::parse` — `condense_contractions`, `condense_ellipsis` (a `RepeatingPattern`),
`condense_latin` — never hang, on any token vector -/
theorem condensePasses_never_hang (src : List Char) (toks : List Tok) :
    condenseContractions src toks ≠ .error .outOfFuel ∧ condenseEllipsis src toks ≠ .error .outOfFuel ∧
    condenseLatin src toks ≠ .error .outOfFuel :=
  ⟨condensePattern_nf _ contractionPat_nf _ src toks, condensePattern_nf _ ellipsisPat_nf _ src toks,
    condensePattern_nf _ latinPat_nf _ src toks⟩

/-- non-vacuity of `condensePattern_never_hangs`: its hypothesis holds of `ellipsisPat` (a `repPat`), and the pass at work on
`a...` with the three periods merged -/
example : condensePattern ellipsisPat (fun _ => .punct .Ellipsis) ['a', '.', '.', '.'] [⟨⟨0, 1⟩, .word⟩, ⟨⟨1, 2⟩, .punct .Period⟩,
    ⟨⟨2, 3⟩, .punct .Period⟩, ⟨⟨3, 4⟩, .punct .Period⟩] ≠ .error .outOfFuel :=
  condensePattern_never_hangs ellipsisPat ellipsisPat_nf _ _ _
example : condenseEllipsis ['a', '.', '.', '.'] [⟨⟨0, 1⟩, .word⟩, ⟨⟨1, 2⟩, .punct .Period⟩,
    ⟨⟨2, 3⟩, .punct .Period⟩, ⟨⟨3, 4⟩, .punct .Period⟩] = .ok [⟨⟨0, 1⟩, .word⟩, ⟨⟨1, 4⟩, .punct .Ellipsis⟩] := by decide +kernel

end Harper.C01
