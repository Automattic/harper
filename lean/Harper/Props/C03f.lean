import Harper.Lemmas.MergeRules
import Harper.Lemmas.SpellRule
import Harper.Props.C03d
import Harper.Props.C03e
import Harper.Props.C01Merge
/-!
# C03 (`merge_linters!` rules) — spans point into the text, outputs are pairwise disjoint, suggestions are local edits

For HopHope, CompoundNouns, PronounContraction, LetsConfusion (`Model/MergeRules.lean`, compared lint for lint with the real
structs on every run of the check):

* `<rule>_spans_wf : RunsWF …`: on well-formed tokens inside the text — ANY order, zero-width ones included — the merged rule
  returns and every lint has `start ≤ stop ≤ src.length`;
* `<rule>_disjoint`: what it returns is pairwise disjoint and in text order (each lint ends before the next starts):
  `remove_overlaps` (`removeOverlapsBy_disjoint` through `mergeLinters_disjoint`);
* `<rule>_suggestions_local`: every suggestion is an edit inside the lint's span (`Suggestion::apply` = splice);
* `mergedRule_subset`: every lint of a merged rule is a lint of one of its children (the macro adds nothing);
* `mergeChild_span_within_match`: a child's lint lies inside `matched_tokens.span()`.

`pronounContraction_…` under `ContractLowerOK env`, `compoundNouns_…` under `DictOK env` (see `Props/C01Merge.lean`).

SpellCheck as a rule (`Model/SpellRule.lean`): `spellCheck_spans_wf`; `spellCheck_span_is_word` (every lint sits on exactly one
word token); `spellCheck_suggestions_replace` (at most three suggestions, each a `ReplaceWith`); `spellCheck_suggestions_local`.
-/
namespace Harper.C03
open Harper Harper.Chunks Harper.Rules Harper.Leaves Harper.PatternRules Harper.MergeRules

/-- a `FineE` child, on tokens in any order: no panic, every lint in the text -/
theorem mergeChild_spans_wf (env : Env) (c : PRule) (hc : FineE env c) (src : List Char) (toks : List Tok) (h : InText src toks) :
    RunsWF (c.rule env) src toks := PRule.rule_okE env c hc src toks h

/-- **a `merge_linters!` rule over `FineE` children** returns, and every lint points into the text -/
theorem mergedRule_spans_wf (env : Env) (children : List PRule) (hc : ∀ c ∈ children, FineE env c) (src : List Char)
    (toks : List Tok) (h : InText src toks) : RunsWF (mergedRule env children) src toks := by
  apply mergeLinters_spans_wf
  intro r hr
  obtain ⟨c, hcm, rfl⟩ := List.mem_map.mp hr
  exact PRule.rule_okE env c (hc c hcm) src toks h

/-- **its output is pairwise disjoint, in text order** -/
theorem mergedRule_disjoint (env : Env) (children : List PRule) (hc : ∀ c ∈ children, FineE env c) (src : List Char)
    (toks : List Tok) (h : InText src toks) (ls : List RuleLint) (e : mergedRule env children src toks = .ok ls) :
    ls.Pairwise (fun a b => a.span.stop ≤ b.span.start) := by
  apply mergeLinters_disjoint _ src toks ls e
  intro cands hcands c hcm
  obtain ⟨cands', e', hall⟩ := collectE_ok (LintOK src.length) (fun (r : PieceRule) => r src toks) (children.map fun c => c.rule env)
    (fun r hr => by
      obtain ⟨c, hcm, rfl⟩ := List.mem_map.mp hr
      exact PRule.rule_okE env c (hc c hcm) src toks h)
  rw [e'] at hcands
  cases hcands
  exact (hall c hcm).1

/-- **the macro adds nothing**: every lint of the merged rule is a lint of one of its children on the same document -/
theorem mergedRule_subset (env : Env) (children : List PRule) (src : List Char) (toks : List Tok) (ls : List RuleLint)
    (e : mergedRule env children src toks = .ok ls) (l : RuleLint) (hl : l ∈ ls) :
    ∃ c ∈ children, ∃ a, c.rule env src toks = .ok a ∧ l ∈ a := by
  simp only [mergedRule, mergeLinters] at e
  cases hc : collectE (fun (r : PieceRule) => r src toks) (children.map fun c => c.rule env) with
  | error err => rw [hc] at e; cases e
  | ok cands =>
    rw [hc] at e
    simp only [Except.map, Except.ok.injEq] at e
    subst e
    obtain ⟨r, hr, a, ha, hla⟩ := collectE_mem _ _ _ hc l (removeOverlapsRL_mem cands l hl)
    obtain ⟨c, hcm, rfl⟩ := List.mem_map.mp hr
    exact ⟨c, hcm, a, ha, hla⟩

/-- a child reports nothing outside its match: the lint's span lies inside `matched_tokens.span()` -/
theorem mergeChild_span_within_match (env : Env) (c : PRule) (src : List Char) (matched : List Tok) (ls : List RuleLint)
    (h : c.spec.run env src matched = .ok ls) (l : RuleLint) (hl : l ∈ ls) (sp : Span) (hsp : spanOf matched = some sp) :
    sp.start ≤ l.span.start ∧ l.span.stop ≤ sp.stop :=
  matchToLint_span_within_match env c.spec src matched ls h l hl sp hsp

/-! ## the four rules -/

theorem hopHope_spans_wf (env : Env) (src : List Char) (toks : List Tok) (h : InText src toks) : RunsWF (ruleHopHope env) src toks :=
  mergedRule_spans_wf env _ (hopHope_children env) src toks h

theorem letsConfusion_spans_wf (env : Env) (src : List Char) (toks : List Tok) (h : InText src toks) :
    RunsWF (ruleLetsConfusion env) src toks := mergedRule_spans_wf env _ (letsConfusion_children env) src toks h

theorem pronounContraction_spans_wf (env : Env) (hl : ContractLowerOK env) (src : List Char) (toks : List Tok) (h : InText src toks) :
    RunsWF (rulePronounContraction env) src toks := mergedRule_spans_wf env _ (pronounContraction_children env hl) src toks h

theorem compoundNouns_spans_wf (env : Env) (hd : DictOK env) (src : List Char) (toks : List Tok) (h : InText src toks) :
    RunsWF (ruleCompoundNouns env) src toks := mergedRule_spans_wf env _ (compoundNouns_children env hd) src toks h

theorem hopHope_disjoint (env : Env) (src : List Char) (toks : List Tok) (h : InText src toks) (ls : List RuleLint)
    (e : ruleHopHope env src toks = .ok ls) : ls.Pairwise (fun a b => a.span.stop ≤ b.span.start) :=
  mergedRule_disjoint env _ (hopHope_children env) src toks h ls e

theorem letsConfusion_disjoint (env : Env) (src : List Char) (toks : List Tok) (h : InText src toks) (ls : List RuleLint)
    (e : ruleLetsConfusion env src toks = .ok ls) : ls.Pairwise (fun a b => a.span.stop ≤ b.span.start) :=
  mergedRule_disjoint env _ (letsConfusion_children env) src toks h ls e

theorem pronounContraction_disjoint (env : Env) (hl : ContractLowerOK env) (src : List Char) (toks : List Tok) (h : InText src toks)
    (ls : List RuleLint) (e : rulePronounContraction env src toks = .ok ls) : ls.Pairwise (fun a b => a.span.stop ≤ b.span.start) :=
  mergedRule_disjoint env _ (pronounContraction_children env hl) src toks h ls e

theorem compoundNouns_disjoint (env : Env) (hd : DictOK env) (src : List Char) (toks : List Tok) (h : InText src toks)
    (ls : List RuleLint) (e : ruleCompoundNouns env src toks = .ok ls) : ls.Pairwise (fun a b => a.span.stop ≤ b.span.start) :=
  mergedRule_disjoint env _ (compoundNouns_children env hd) src toks h ls e

theorem hopHope_suggestions_local (env : Env) (src : List Char) (toks : List Tok) (h : InText src toks) :
    SuggestionsLocal (ruleHopHope env) src toks := suggestions_local _ src toks (hopHope_spans_wf env src toks h)

theorem letsConfusion_suggestions_local (env : Env) (src : List Char) (toks : List Tok) (h : InText src toks) :
    SuggestionsLocal (ruleLetsConfusion env) src toks := suggestions_local _ src toks (letsConfusion_spans_wf env src toks h)

theorem pronounContraction_suggestions_local (env : Env) (hl : ContractLowerOK env) (src : List Char) (toks : List Tok)
    (h : InText src toks) : SuggestionsLocal (rulePronounContraction env) src toks :=
  suggestions_local _ src toks (pronounContraction_spans_wf env hl src toks h)

theorem compoundNouns_suggestions_local (env : Env) (hd : DictOK env) (src : List Char) (toks : List Tok) (h : InText src toks) :
    SuggestionsLocal (ruleCompoundNouns env) src toks := suggestions_local _ src toks (compoundNouns_spans_wf env hd src toks h)

/-! ## non-vacuity (kernel-evaluated) -/

open Harper.C01 (envM)

/-- tokens of the Markdown parser's shape (a zero-width `ParagraphBreak` at an earlier offset after the words) are `InText` -/
example : InText c!"# let's us go"
    [⟨⟨2, 7⟩, .word⟩, ⟨⟨7, 8⟩, .space 1⟩, ⟨⟨8, 10⟩, .word⟩, ⟨⟨10, 11⟩, .space 1⟩, ⟨⟨11, 13⟩, .word⟩, ⟨⟨2, 2⟩, .paragraphBreak⟩] := by
  intro t ht
  simp only [List.mem_cons, List.mem_nil_iff, or_false] at ht
  rcases ht with rfl | rfl | rfl | rfl | rfl | rfl <;> exact ⟨by decide +kernel, by decide +kernel⟩

/-- … and LetsConfusion on them: `let's us` → `lets us` / `let's`, span over the three matched tokens -/
example : ruleLetsConfusion { envM with wordFlags := fun w => if w == c!"us" then 2^6 + 2^12 + 2^15 else 0 } c!"# let's us go"
      [⟨⟨2, 7⟩, .word⟩, ⟨⟨7, 8⟩, .space 1⟩, ⟨⟨8, 10⟩, .word⟩, ⟨⟨10, 11⟩, .space 1⟩, ⟨⟨11, 13⟩, .word⟩, ⟨⟨2, 2⟩, .paragraphBreak⟩] =
    .ok [⟨⟨2, 10⟩, [.replaceWith c!"lets us", .replaceWith c!"let's"], 54, 0⟩] := by decide +kernel

/-- two children claim the same tokens: on `a note book is` GeneralCompoundNouns and ImpliedInstantiatedCompoundNouns both report
`note book` (`2..11`); `remove_overlaps` keeps one lint -/
example : (ruleCompoundNouns envM c!"a note book is"
      [⟨⟨0, 1⟩, .word⟩, ⟨⟨1, 2⟩, .space 1⟩, ⟨⟨2, 6⟩, .word⟩, ⟨⟨6, 7⟩, .space 1⟩, ⟨⟨7, 11⟩, .word⟩, ⟨⟨11, 12⟩, .space 1⟩, ⟨⟨12, 14⟩, .word⟩]).map
      (·.length) = .ok 1 := by decide +kernel

/-! ## SpellCheck as a rule -/

open Harper.SpellRule

theorem spellCheck_spans_wf (senv : SpellEnv) (hs : SuggestOK senv) (src : List Char) (toks : List Tok) (h : InText src toks) :
    RunsWF (ruleSpellCheck senv) src toks :=
  perTok_ok _ src.length src toks (fun t ht => spellTok_ok senv hs src t (h t ht))

/-- **every lint of SpellCheck sits on exactly one word token** (no hypothesis: whatever the tokens and the dictionary are) -/
theorem spellCheck_span_is_word (senv : SpellEnv) (src : List Char) (toks : List Tok) (ls : List RuleLint)
    (e : ruleSpellCheck senv src toks = .ok ls) (l : RuleLint) (hl : l ∈ ls) : ∃ t ∈ toks, t.kind.isWord = true ∧ l.span = t.span := by
  obtain ⟨t, ht, a, ha, hla⟩ := collectE_mem _ _ _ e l hl
  have := spellTok_shape senv src t a ha l hla
  exact ⟨t, ht, this.1, this.2.1⟩

/-- **at most three suggestions, each a `ReplaceWith`**; message code 60 -/
theorem spellCheck_suggestions_replace (senv : SpellEnv) (src : List Char) (toks : List Tok) (ls : List RuleLint)
    (e : ruleSpellCheck senv src toks = .ok ls) (l : RuleLint) (hl : l ∈ ls) :
    l.suggs.length ≤ 3 ∧ (∀ s ∈ l.suggs, ∃ cs, s = .replaceWith cs) ∧ l.msg = 60 := by
  obtain ⟨t, _, a, ha, hla⟩ := collectE_mem _ _ _ e l hl
  have := spellTok_shape senv src t a ha l hla
  exact ⟨this.2.2.1, this.2.2.2.1, this.2.2.2.2⟩

theorem spellCheck_suggestions_local (senv : SpellEnv) (hs : SuggestOK senv) (src : List Char) (toks : List Tok) (h : InText src toks) :
    SuggestionsLocal (ruleSpellCheck senv) src toks := suggestions_local _ src toks (spellCheck_spans_wf senv hs src toks h)

/-- `# Teh` in Markdown token shape: the lint sits on the word token -/
example : ruleSpellCheck C01.spellEnv0 c!"# Teh" [⟨⟨2, 5⟩, .word⟩, ⟨⟨2, 2⟩, .paragraphBreak⟩] =
    .ok [⟨⟨2, 5⟩, [.replaceWith c!"Te", .replaceWith c!"Tet"], 60, 0⟩] := by decide +kernel

end Harper.C03
