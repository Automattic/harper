import Harper.Lemmas.Stats
/-!
# C19 — the statistics log reads back exactly what was written, append after append

Property theorems only; helper lemmas are in `Harper/Lemmas/Stats.lean`, the model in
`Harper/Model/Stats.lean`.

What is proved is the *framing*: serde_json's string escaping never emits a line break and is
inverted by serde_json's string parser; `BufRead::lines` splits a log written by `Stats::write`
back into exactly the serialised records; appending two writes is writing the concatenation;
`summarize` counts every lint record exactly once. The serde-*derived* (de)serialiser of `Record`
is an abstract pair `ser`/`parse` with the hypothesis `parse (ser r) = some r`, which the harness
monitors on every record (and which the real code violates for a non-finite `Number` token — see
`read_fails_of_bad_record`).
-/
namespace Harper.C19
open Harper.Stats

/-- serde_json's escaping never emits a raw line feed or carriage return, whatever the string
contains. -/
theorem escape_no_linebreak (s : List Char) : '\n' ∉ escape s ∧ '\r' ∉ escape s :=
  Stats.escape_no_linebreak s

/-- serde_json's string parser inverts serde_json's escaping, for every string. -/
theorem unescape_escape (s : List Char) : unescape (escape s) = some s :=
  Stats.unescape_escape s

/-- a whole JSON string literal (`serde_json::to_string(&String)` then `from_str::<String>`) -/
theorem parse_jsonString (s : List Char) : parseJsonString (jsonString s) = some s :=
  parseJsonString_jsonString s

/-- `BufRead::lines` inverts "terminate every line with `\n`", provided no line contains `\n` or
ends in `\r` (both are necessary: see the examples at the end). -/
theorem lines_join (ls : List (List Char))
    (h : ∀ l ∈ ls, '\n' ∉ l ∧ l.getLast? ≠ some '\r') :
    lines ((ls.map (· ++ ['\n'])).flatten) = ls := by
  rw [← writeLog_eq_flatten]
  exact lines_writeLog ls h

/-- `Stats::read (Stats::write rs) = rs`, for any record serialiser/parser pair that round-trips
one record (monitored) and whose output is a single line (monitored; proved below for strings). -/
theorem read_write {ρ} (ser : ρ → List Char) (parse : List Char → Option ρ)
    (hrt : ∀ r, parse (ser r) = some r)
    (hline : ∀ r, '\n' ∉ ser r ∧ (ser r).getLast? ≠ some '\r')
    (rs : List ρ) : read parse (write ser rs) = some rs := by
  unfold Stats.read
  rw [lines_write ser hline]
  exact parseAll_map ser parse hrt rs

/-- The hypotheses of `read_write` hold for records that are JSON strings of ARBITRARY characters
(line feeds, carriage returns, quotes, controls, astral characters, U+2028 …): this is the part of
a `Record` (token `content`) that carries user text. -/
theorem read_write_jsonString (rs : List (List Char)) :
    readLog (write jsonString rs) = some rs :=
  read_write jsonString parseJsonString parse_jsonString jsonString_line rs

/-- The same for records that are a fixed, opaque skeleton (`pre … suf`, what serde's derive
writes around a token's `content`: starts with `{`, ends with `}`, contains no line break) around
one string of ARBITRARY characters. This is the serialiser the correspondence run compares byte
for byte with the real `Stats::write` (op `wlog`) and `Stats::read` (op `rlog`). -/
theorem read_write_framed (pre suf : List Char)
    (hpre : ∀ c, pre.head? = some c → isJsonWs c = false)
    (hsuf : ∀ c, suf.getLast? = some c → isJsonWs c = false)
    (hnl : '\n' ∉ pre ∧ '\r' ∉ pre ∧ '\n' ∉ suf ∧ '\r' ∉ suf)
    (rs : List (List Char)) :
    read (frameParse pre suf) (write (frameSer pre suf) rs) = some rs := by
  apply read_write (frameSer pre suf) (frameParse pre suf)
    (fun s => frameParse_frameSer pre suf s hpre hsuf)
  intro r
  exact ⟨frameSer_no_linebreak pre suf r '\n' (Or.inl rfl) hnl.1 hnl.2.2.1,
    fun e => frameSer_no_linebreak pre suf r '\r' (Or.inr rfl) hnl.2.1 hnl.2.2.2 (List.mem_of_getLast? e)⟩

/-- non-vacuity of `read_write_framed`: all three hypotheses hold together for a skeleton shaped
like the real one -/
example : (∀ c, ['{', '"', 'c', '"', ':'].head? = some c → isJsonWs c = false) ∧
    (∀ c, [',', '"', 'w', '"', ':', '0', '}'].getLast? = some c → isJsonWs c = false) ∧
    ('\n' ∉ ['{', '"', 'c', '"', ':'] ∧ '\r' ∉ ['{', '"', 'c', '"', ':'] ∧
     '\n' ∉ [',', '"', 'w', '"', ':', '0', '}'] ∧ '\r' ∉ [',', '"', 'w', '"', ':', '0', '}']) := by
  decide +kernel

/-- Appending a second `Stats::write` to the same log is writing the concatenation … -/
theorem append_composes {ρ} (ser : ρ → List Char) (rs₁ rs₂ : List ρ) :
    write ser rs₁ ++ write ser rs₂ = write ser (rs₁ ++ rs₂) := by
  simp [write, writeLog_append]

/-- … hence a log written in two append sessions reads back as the concatenation, in order. -/
theorem read_append {ρ} (ser : ρ → List Char) (parse : List Char → Option ρ)
    (hrt : ∀ r, parse (ser r) = some r)
    (hline : ∀ r, '\n' ∉ ser r ∧ (ser r).getLast? ≠ some '\r')
    (rs₁ rs₂ : List ρ) : read parse (write ser rs₁ ++ write ser rs₂) = some (rs₁ ++ rs₂) := by
  rw [append_composes]
  exact read_write ser parse hrt hline _

theorem read_append_jsonString (rs₁ rs₂ : List (List Char)) :
    readLog (write jsonString rs₁ ++ write jsonString rs₂) = some (rs₁ ++ rs₂) := by
  rw [append_composes]
  exact read_write_jsonString _

/-- What the recorded defect does: if one record's serialisation does not parse back (the real
serialiser writes `null` for a non-finite number), `Stats::read` rejects the WHOLE log. -/
theorem read_fails_of_bad_record {ρ} (ser : ρ → List Char) (parse : List Char → Option ρ)
    (hline : ∀ r, '\n' ∉ ser r ∧ (ser r).getLast? ≠ some '\r')
    (rs : List ρ) (bad : ρ) (hmem : bad ∈ rs) (hbad : parse (ser bad) = none) :
    read parse (write ser rs) = none := by
  unfold Stats.read
  rw [lines_write ser hline]
  exact parseAll_none_of_mem parse _ _ (List.mem_map_of_mem hmem) hbad

/-- the serialiser of the recorded defect, in miniature: a record is either a string (written as a
JSON string) or a non-finite number (written as `null`), read back by the string parser -/
def serOrNull : Option (List Char) → List Char
  | some s => jsonString s
  | none => ['n', 'u', 'l', 'l']

theorem serOrNull_line (r : Option (List Char)) :
    '\n' ∉ serOrNull r ∧ (serOrNull r).getLast? ≠ some '\r' := by
  cases r with
  | none => decide
  | some s => exact jsonString_line s

/-- non-vacuity of `read_fails_of_bad_record`: every record is written on one line, the `null`
record is in the list and does not parse back — so the whole log is rejected, although the two good
records on their own read back -/
example : (none : Option (List Char)) ∈ [some ['a', '\n'], none, some ['b']] ∧
    (parseJsonString (serOrNull none)).map some = none ∧
    read (fun l => (parseJsonString l).map some)
      (write serOrNull [some ['a', '\n'], none, some ['b']]) = none ∧
    read (fun l => (parseJsonString l).map some)
      (write serOrNull [some ['a', '\n'], some ['b']]) = some [some ['a', '\n'], some ['b']] :=
  ⟨by decide +kernel, by decide +kernel,
   read_fails_of_bad_record serOrNull _ serOrNull_line _ none (by decide +kernel) (by decide +kernel), by decide +kernel⟩

/-- `Stats::summarize` counts every lint record exactly once: the total is the number of lint
records, the counter of kind `k` is the number of lint records of kind `k`, the counters add up
to the total, no kind (and no misspelt word) has two counters, a word's counter is the number of
`Word(None)` context tokens with that content, and the final configuration is the last update.
(Counters are `u32` in the code: the statement is about fewer than 2^32 records.) -/
theorem summary_counts_once (rs : List Rec) :
    (summarize rs).totalApplied = rs.countP isLint ∧
    (∀ k, getCount k (summarize rs).lintCounts = rs.countP (isLintOf k)) ∧
    total (summarize rs).lintCounts = (summarize rs).totalApplied ∧
    ((summarize rs).lintCounts.map (·.1)).Nodup ∧
    ((summarize rs).misspelled.map (·.1)).Nodup ∧
    (∀ w, getCount w (summarize rs).misspelled = (rs.map (unknownOcc w)).sum) ∧
    (summarize rs).finalConfig = lastConfig 0 rs := by
  unfold summarize
  have hn := summarizeFrom_nodup rs {} (by simp) (by simp)
  refine ⟨?_, ?_, ?_, hn.1, hn.2, ?_, ?_⟩
  · simpa using summarizeFrom_total rs {}
  · intro k; simpa [getCount] using summarizeFrom_count k rs {}
  · rw [summarizeFrom_sum, summarizeFrom_total]; simp [total]
  · intro w; simpa [getCount] using summarizeFrom_misspelled w rs {}
  · exact summarizeFrom_config rs {}

/-- Summaries are additive over appended logs: total, per-kind and per-word counters of
`rs₁ ++ rs₂` are the sums of those of `rs₁` and `rs₂`. -/
theorem summary_additive (rs₁ rs₂ : List Rec) :
    (summarize (rs₁ ++ rs₂)).totalApplied
      = (summarize rs₁).totalApplied + (summarize rs₂).totalApplied ∧
    (∀ k, getCount k (summarize (rs₁ ++ rs₂)).lintCounts
      = getCount k (summarize rs₁).lintCounts + getCount k (summarize rs₂).lintCounts) ∧
    (∀ w, getCount w (summarize (rs₁ ++ rs₂)).misspelled
      = getCount w (summarize rs₁).misspelled + getCount w (summarize rs₂).misspelled) := by
  obtain ⟨t12, c12, _, _, _, m12, _⟩ := summary_counts_once (rs₁ ++ rs₂)
  obtain ⟨t1, c1, _, _, _, m1, _⟩ := summary_counts_once rs₁
  obtain ⟨t2, c2, _, _, _, m2, _⟩ := summary_counts_once rs₂
  refine ⟨?_, ?_, ?_⟩
  · rw [t12, t1, t2, List.countP_append]
  · intro k; rw [c12, c1, c2, List.countP_append]
  · intro w; rw [m12, m1, m2, List.map_append, List.sum_append]

/-! ### Non-vacuity and witnesses (concrete, kernel-evaluated) -/

/-- newline, CR, quote, backslash, tab, NUL, 0x1F, DEL, é, U+2028, astral -/
example : escape ['a', '\n', '\r', '"', '\\', '\t', '\x00', '\x1f', '\x7f', 'é', '\u2028', '😀'] =
    ['a', '\\', 'n', '\\', 'r', '\\', '"', '\\', '\\', '\\', 't',
     '\\', 'u', '0', '0', '0', '0', '\\', 'u', '0', '0', '1', 'f', '\x7f', 'é', '\u2028', '😀'] := by
  decide +kernel

example : parseJsonString (jsonString ['a', '\n', '\r', '"', '\\', '\x00', '\x1f', '😀'])
    = some ['a', '\n', '\r', '"', '\\', '\x00', '\x1f', '😀'] := by decide +kernel

/-- the parser also accepts what serde_json never writes: `\/`, upper-case hex, surrogate pairs -/
example : unescape ['\\', '/', '\\', 'u', '0', '0', '4', 'A', '\\', 'u', 'D', '8', '3', 'D',
    '\\', 'u', 'd', 'e', '0', '0'] = some ['/', 'J', '😀'] := by decide +kernel

/-- … and rejects a raw quote, a raw control character, a lone surrogate, a dangling backslash -/
example : unescape ['a', '"'] = none ∧ unescape ['\n'] = none ∧
    unescape ['\\', 'u', 'd', '8', '3', 'd'] = none ∧ unescape ['\\'] = none := by decide +kernel

/-- the hypotheses of `lines_join` / `read_write` are satisfied by a non-trivial log (an empty
line, a line with an inner CR, a line with U+2028) -/
example : ∀ l ∈ [['{', '}'], [], ['a', '\r', 'b'], ['\u2028']],
    '\n' ∉ l ∧ l.getLast? ≠ some '\r' := by decide +kernel

example : lines (writeLog [['{', '}'], [], ['a', '\r', 'b'], ['\u2028']])
    = [['{', '}'], [], ['a', '\r', 'b'], ['\u2028']] := by decide +kernel

/-- both hypotheses are necessary: a raw line feed splits a record, a trailing CR is eaten -/
example : lines (writeLog [['a', '\n', 'b']]) = [['a'], ['b']] := by decide +kernel
example : lines (writeLog [['a', '\r']]) = [['a']] := by decide +kernel

/-- `BufRead::lines` corner cases: no line after a final `\n`; CRLF; only one CR is stripped; an
unterminated last line keeps its CR -/
example : lines [] = [] ∧ lines ['\n'] = [[]] ∧ lines ['a', '\r', '\n', 'b'] = [['a'], ['b']] ∧
    lines ['\r', '\r', '\n'] = [['\r']] ∧ lines ['a', '\n', 'b', '\r'] = [['a'], ['b', '\r']] := by
  decide +kernel

/-- two append sessions with hostile text read back as the concatenation -/
example : readLog (write jsonString [['\n'], ['"', '\r']] ++ write jsonString [[], ['😀', '\x01']])
    = some [['\n'], ['"', '\r'], [], ['😀', '\x01']] := by decide +kernel

/-- the hypotheses of `read_write_framed` hold for a skeleton shaped like the real one -/
example : (∀ c, ['{', '"', 'c', '"', ':'].head? = some c → isJsonWs c = false) ∧
    (∀ c, [',', '"', 'w', '"', ':', '0', '}'].getLast? = some c → isJsonWs c = false) := by
  decide +kernel

example : read (frameParse ['{', '"', 'c', '"', ':'] [',', '"', 'w', '"', ':', '0', '}'])
    (write (frameSer ['{', '"', 'c', '"', ':'] [',', '"', 'w', '"', ':', '0', '}']) [['\n', '"'], ['😀']])
    = some [['\n', '"'], ['😀']] := by decide +kernel

/-- `Stats::read` is lenient where serde_json is: CRLF line ends and trailing blanks are accepted,
a blank line is not -/
example : readLog ['"', 'a', '"', '\r', '\n', '"', 'b', '"', ' ', '\n'] = some [['a'], ['b']] ∧
    readLog ['"', 'a', '"', '\n', '\n'] = none := by decide +kernel

/-- a summary over lints of two kinds, a config update in between, repeated unknown words -/
example : summarize [.lint 0 [['t', 'e', 'h']], .configUpdate 3, .lint 7 [], .lint 0 [['t', 'e', 'h'], ['x']]]
    = { lintCounts := [(0, 2), (7, 1)], totalApplied := 3, finalConfig := 3,
        misspelled := [(['t', 'e', 'h'], 2), (['x'], 1)] } := by decide +kernel

end Harper.C19
