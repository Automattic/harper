import Harper.Lemmas.Pattern
/-!
# C01 (pattern-framework part) — matching never panics, never hangs, stays inside its slice

Property theorems only; helper lemmas are in `Harper/Lemmas/Pattern.lean`, the model in
`Harper/Model/Pattern.lean` (`Pat.matchLen` is `Pattern::matches`; `matches` is a Lean keyword).

The contract of `Pattern::matches` is nowhere written down in the Rust code: *the returned
length is at most `tokens.len()`*. `SequencePattern`, `RepeatingPattern` and `run_on_chunk` slice
by returned lengths, so a leaf that breaks it makes them panic (the `example`s under **The contract is needed** below; this is
what `Invert` did before it was fixed — it answered 1 on an empty slice). Every combinator
preserves the contract, so a pattern built from contract-keeping leaves is safe.
-/
namespace Harper.C01
open Harper Harper.Pat

/-! ### `Pattern::matches` -/

/-- Under the contract on the leaves, `matches` of any combinator tree never panics, never runs
out of fuel, and returns a length inside the slice it was given. -/
theorem matches_safe (p : Pat) (h : Contract p) (toks : List Nat) :
    ∃ n, matchLen p toks = .ok n ∧ n ≤ toks.length :=
  matchLen_safe p h toks

/-- `RepeatingPattern`'s `loop` makes progress: with a contract-keeping inner pattern every
iteration that does not return consumes at least one token, so `len + 1` iterations always
suffice (the model runs it with `len + 2`, see there). -/
theorem rep_terminates (p : Pat) (h : Contract p) (req : Nat) (toks : List Nat) (fuel : Nat)
    (hf : toks.length < fuel) :
    ∃ n, repLoop (matchLen p) req toks fuel 0 0 = .ok n ∧ n ≤ toks.length :=
  repLoop_safe (matchLen p) (matchLen_safe p h) req toks fuel 0 0 (Nat.zero_le _) (by omega)

/-- the fuel bound of `rep_terminates` at its smallest value (`Model/Pattern.lean` refers to it by this name):
`len + 1` iterations always suffice for a contract-keeping inner pattern … -/
theorem rep_fuel_tight (p : Pat) (h : Contract p) (req : Nat) (toks : List Nat) :
    ∃ n, repLoop (matchLen p) req toks (toks.length + 1) 0 0 = .ok n ∧ n ≤ toks.length :=
  rep_terminates p h req toks (toks.length + 1) (Nat.lt_succ_self _)

/-- … and `len` do not: `any` repeated over two tokens needs a third iteration to see the empty rest and return -/
example : repLoop (matchLen .any) 0 [0, 0] 2 0 0 = .error .outOfFuel ∧ repLoop (matchLen .any) 0 [0, 0] 3 0 0 = .ok 2 := by
  decide +kernel

/-- No combinator tree can hang, **whatever** its leaves return: a loop either returns or walks
its cursor past the end of the slice, where `&tokens[cursor..]` panics. -/
theorem matches_never_hangs (p : Pat) (toks : List Nat) :
    matchLen p toks ≠ .error .outOfFuel :=
  matchLen_noHang p toks

/-! ### `run_on_chunk` -/

/-- `run_on_chunk` with a contract-keeping pattern never panics; it needs at most
`chunk.length` iterations (fuel = iterations of the loop body); every match handed to
`match_to_lint` is non-empty and inside the chunk, and the matches are increasing and pairwise
disjoint. -/
theorem runOnChunk_safe (p : Pat) (h : Contract p) (chunk : List Nat) :
    ∃ ms, runOnChunk p chunk = .ok ms ∧
      (∀ m ∈ ms, 1 ≤ m.2 ∧ m.1 + m.2 ≤ chunk.length) ∧
      ms.Pairwise (fun a b => a.1 + a.2 ≤ b.1) := by
  obtain ⟨ms, hms, hch⟩ := runLoop_safe p h chunk chunk.length 0 (Nat.le_of_eq (Nat.zero_add _).symm)
  exact ⟨ms, hms, fun m hm => (hch.bounds m hm).2, hch.disjoint⟩

/-- `run_on_chunk` cannot spin for any pattern: the cursor advances in every iteration. -/
theorem runOnChunk_never_hangs (p : Pat) (chunk : List Nat) :
    runOnChunk p chunk ≠ .error .outOfFuel :=
  runLoop_noHang p chunk chunk.length 0 (Nat.le_of_eq (Nat.zero_add _).symm)

/-! ### `iter_chunks`, `iter_sentences`, `iter_paragraphs` (any terminator predicate) -/

/-- the chunks, concatenated, are the token list: nothing lost, duplicated or reordered -/
theorem iterSplit_flatten (term : Nat → Bool) (toks : List Nat) :
    (iterSplit term toks).flatten = toks := by
  unfold iterSplit
  by_cases h : toks.any term = true
  · rw [if_pos h]; exact chunksTail_flatten _ _
  · rw [if_neg h]; exact List.append_nil _

theorem iterChunks_flatten (toks : List Nat) : (iterChunks toks).flatten = toks :=
  iterSplit_flatten _ _
theorem iterSentences_flatten (toks : List Nat) : (iterSentences toks).flatten = toks :=
  iterSplit_flatten _ _
theorem iterParagraphs_flatten (toks : List Nat) : (iterParagraphs toks).flatten = toks :=
  iterSplit_flatten _ _

/-- every chunk of a non-empty token list is non-empty … -/
theorem iterSplit_nonempty (term : Nat → Bool) (toks : List Nat) (hne : toks ≠ []) :
    ∀ c ∈ iterSplit term toks, c ≠ [] := by
  unfold iterSplit
  by_cases h : toks.any term = true
  · rw [if_pos h]; exact chunksTail_ne _ _
  · rw [if_neg h]; intro c hc; rw [List.mem_singleton.mp hc]; exact hne

/-- … and there are at most as many chunks as tokens (for the empty list: the one empty chunk). -/
theorem iterSplit_count (term : Nat → Bool) (toks : List Nat) :
    (iterSplit term toks).length ≤ max 1 toks.length := by
  unfold iterSplit
  by_cases h : toks.any term = true
  · rw [if_pos h]; exact Nat.le_trans (chunksTail_length term toks) (Nat.le_max_right _ _)
  · rw [if_neg h]; exact Nat.le_max_left _ _

/-- a terminator is always the last token of its chunk, and every chunk but the last one ends
in a terminator -/
theorem iterSplit_terminators (term : Nat → Bool) (toks : List Nat) :
    (∀ c ∈ iterSplit term toks, c.dropLast.any term = false) ∧
    (∀ pre c post, iterSplit term toks = pre ++ c :: post → post ≠ [] →
      ∃ t, c.getLast? = some t ∧ term t = true) := by
  unfold iterSplit
  by_cases h : toks.any term = true
  · rw [if_pos h]; exact ⟨chunksTail_inner _ _, chunksTail_ends _ _⟩
  · rw [if_neg h]
    refine ⟨fun c hc => ?_, fun pre c post heq hpost => ?_⟩
    · rw [List.mem_singleton.mp hc, List.any_eq_false]
      intro x hx
      exact List.any_eq_false.mp (Bool.eq_false_iff.mpr h) x (List.dropLast_subset _ hx)
    · cases pre with
      | nil => exact absurd (List.cons.inj heq).2.symm hpost
      | cons a pre => have := (List.cons.inj heq).2; cases pre <;> cases this

/-! ### the blanket `Linter::lint` of a `PatternLinter` -/

/-- The blanket `impl Linter for PatternLinter` (`for chunk in document.iter_chunks()`): no panic,
every reported match is a non-empty token range of the document, increasing and disjoint. -/
theorem lintDoc_safe (p : Pat) (h : Contract p) (toks : List Nat) :
    ∃ ms, lintDoc p toks = .ok ms ∧
      (∀ m ∈ ms, 1 ≤ m.2 ∧ m.1 + m.2 ≤ toks.length) ∧
      ms.Pairwise (fun a b => a.1 + a.2 ≤ b.1) := by
  obtain ⟨ms, hms, hch⟩ := lintChunks_safe p h (iterChunks toks) 0
  rw [iterChunks_flatten, Nat.zero_add] at hch
  exact ⟨ms, hms, fun m hm => (hch.bounds m hm).2, hch.disjoint⟩

/-- The blanket `Linter::lint` of a `PatternLinter` cannot hang either, **whatever** the leaves return: each chunk's
`run_on_chunk` returns or panics (`runOnChunk_never_hangs`), and there are finitely many chunks. -/
theorem lintDoc_never_hangs (p : Pat) (toks : List Nat) : lintDoc p toks ≠ .error .outOfFuel :=
  lintChunks_noHang p _ 0

/-! ### `find_all_matches` -/

/-- `find_all_matches` never panics with a contract-keeping pattern; every returned span is a
non-empty token range of the input and starts are strictly increasing. -/
theorem findAllMatches_safe (p : Pat) (h : Contract p) (toks : List Nat) :
    ∃ ms, findAllMatches p toks = .ok ms ∧
      (∀ m ∈ ms, 1 ≤ m.2 ∧ m.1 + m.2 ≤ toks.length) ∧
      ms.Pairwise (fun a b => a.1 < b.1) := by
  obtain ⟨found, hf, hb, hs⟩ := collectMatches_safe p h toks 0
  rw [findAllMatches_eq, hf]
  cases found with
  | nil => exact ⟨[], rfl, fun _ hm => absurd hm List.not_mem_nil, List.Pairwise.nil⟩
  | cons a rest =>
    have hsub : (a :: dropAdj a rest).Sublist (a :: rest) := (dropAdj_sublist rest a).cons_cons a
    refine ⟨_, rfl, fun m hm => ?_, hs.sublist hsub⟩
    have := hb m (hsub.subset hm)
    rw [Nat.zero_add] at this
    exact this.2

/-- `find_all_matches` cannot hang, **whatever** the leaves return: one `matches` per suffix, then a bounded filter. -/
theorem findAllMatches_never_hangs (p : Pat) (toks : List Nat) : findAllMatches p toks ≠ .error .outOfFuel := by
  have := collectMatches_noHang p toks 0
  rw [findAllMatches_eq]
  revert this
  cases collectMatches p 0 toks with
  | error e => exact id
  | ok found => cases found <;> exact fun _ h => nomatch h

/-- Its documentation says "all non-overlapping pattern matches". That holds when the ends of
the raw matches are monotone (e.g. every match has the same length, as for the one in-tree
user, `Document::articles_imply_nouns`) — and not in general, see the `example`s below: the
filter compares each raw match only with its predecessor *in the unfiltered list*. -/
theorem findAllMatches_disjoint_partial (p : Pat) (toks : List Nat) (found : List (Nat × Nat))
    (hf : collectMatches p 0 toks = .ok found)
    (hs : found.Pairwise (fun a b => a.1 < b.1))
    (he : found.Pairwise (fun a b => a.1 + a.2 ≤ b.1 + b.2)) :
    ∃ ms, findAllMatches p toks = .ok ms ∧ ms.Pairwise (fun a b => a.1 + a.2 ≤ b.1) := by
  rw [findAllMatches_eq, hf]
  cases found with
  | nil => exact ⟨[], rfl, by simp⟩
  | cons a rest =>
    obtain ⟨hm, hd⟩ := dropAdj_disjoint rest a (a.1 + a.2) rfl hs he
    exact ⟨_, rfl, List.pairwise_cons.mpr ⟨hm, hd⟩⟩

/-- `findAllMatches_disjoint_partial` with `found` and `hs` supplied by the `Contract` (`collectMatches_safe`): monotone
ENDS of the raw matches are all that "all non-overlapping pattern matches" needs. -/
theorem findAllMatches_disjoint_of_contract (p : Pat) (h : Contract p) (toks : List Nat)
    (he : ∀ found, collectMatches p 0 toks = .ok found → found.Pairwise (fun a b => a.1 + a.2 ≤ b.1 + b.2)) :
    ∃ ms, findAllMatches p toks = .ok ms ∧ ms.Pairwise (fun a b => a.1 + a.2 ≤ b.1) ∧
      (∀ m ∈ ms, 1 ≤ m.2 ∧ m.1 + m.2 ≤ toks.length) := by
  obtain ⟨found, hf, _, hs⟩ := collectMatches_safe p h toks 0
  obtain ⟨ms, hms, hd⟩ := findAllMatches_disjoint_partial p toks found hf hs (he found hf)
  obtain ⟨ms', hms', hb, _⟩ := findAllMatches_safe p h toks
  rw [hms] at hms'
  cases hms'
  exact ⟨ms, hms, hd, hb⟩

theorem wordWsWord_raw : collectMatches (.seq (.ofList [.leaf 0, .whitespace, .leaf 0])) 0 [0, 1, 0, 1, 0, 1, 0] =
    .ok [(0, 3), (2, 3), (4, 3)] := by decide +kernel

/-- non-vacuity: `word ws word` keeps the contract, its raw matches on `a b c d` all have length 3 -/
example : ∃ ms, findAllMatches (.seq (.ofList [.leaf 0, .whitespace, .leaf 0])) [0, 1, 0, 1, 0, 1, 0] = .ok ms ∧
    ms.Pairwise (fun a b => a.1 + a.2 ≤ b.1) ∧ (∀ m ∈ ms, 1 ≤ m.2 ∧ m.1 + m.2 ≤ 7) :=
  findAllMatches_disjoint_of_contract _ (by simp [Contract, ContractL, PatList.ofList]) _ (by
    intro found hf
    rw [wordWsWord_raw] at hf
    cases hf
    decide +kernel)

/-! ### Non-vacuity and witnesses (concrete, kernel-evaluated) -/

/-- a pattern of depth 3 that uses every combinator and a contract-keeping arbitrary leaf -/
def sample : Pat :=
  .seq (.ofList [.leaf 0, .whitespace,
    .rep (.either (.ofList [.leaf 0, .fn (fun t => (t.takeWhile (· == 3)).length)])) 1,
    .all (.ofList [.invert (.leaf 0), .any]),
    .consumes (.rep .any 0)])

theorem sample_contract : Contract sample := by
  simp [sample, Contract, ContractL, PatList.ofList]
  intro toks; exact (List.takeWhile_sublist _).length_le

/-- the hypothesis of the `_safe` theorems is satisfiable by it -/
example : Contract sample := sample_contract

example : matchLen sample [0, 1, 0, 3, 3, 0, 2, 7] = .ok 8 := by decide +kernel
example : runOnChunk sample [2, 0, 1, 0, 3, 3, 0, 2, 7] = .ok [(1, 8)] := by decide +kernel
example : runOnChunk (.seq (.ofList [.leaf 0, .whitespace, .leaf 0])) [0, 1, 0, 1, 0, 1, 0, 2] =
    .ok [(0, 3), (4, 3)] := by decide +kernel
example : lintDoc (.rep (.leaf 0) 1) [0, 0, 3, 1, 0, 2, 0] = .ok [(0, 2), (4, 1), (6, 1)] := by
  decide +kernel

/-- non-vacuity of `rep_terminates`: `sample` keeps the contract; fuel `len + 1`; the theorem applied, and the value -/
example : ∃ n, repLoop (matchLen sample) 1 [0, 1, 0, 3, 3, 0, 2, 7, 0, 1, 0, 3, 0, 2] 15 0 0 = .ok n ∧ n ≤ 14 :=
  rep_terminates sample sample_contract 1 _ 15 (by decide +kernel)
example : repLoop (matchLen sample) 1 [0, 1, 0, 3, 3, 0, 2, 7, 0, 1, 0, 3, 0, 2] 15 0 0 = .ok 14 := by decide +kernel

/-- non-vacuity of `lintDoc_safe`: `sample` (contract shown above) over a document of three chunks; the second matches whole -/
example : lintDoc sample [0, 1, 0, 0, 2, 0, 1, 0, 4, 0, 7, 0] = .ok [(5, 6)] := by decide +kernel

/-- **The contract is needed.** `fn (fun _ => 1)` is a leaf that answers 1 even on an empty
slice — what `Invert` did before the fix. After `any` has consumed the only token it makes the
sequence report 2 tokens out of 1 … -/
example : matchLen (.seq (.ofList [.any, .fn (fun _ => 1)])) [0] = .ok 2 := by decide +kernel
/-- … so `run_on_chunk` panics in `&chunk[tok_cursor..tok_cursor + match_len]`
(`pattern_linter.rs`; the `the how` / `better then ␣` panic of the unfixed tree) … -/
example : runOnChunk (.seq (.ofList [.any, .fn (fun _ => 1)])) [0] = .error .sliceOOB := by decide +kernel
/-- … and one more pattern in the sequence panics inside `SequencePattern::matches` itself
(`&tokens[tok_cursor..]` with `tok_cursor = 2 > 1`), as does a repetition. -/
example : matchLen (.seq (.ofList [.any, .fn (fun _ => 1), .any])) [0] = .error .sliceOOB := by
  decide +kernel
example : matchLen (.rep (.fn (fun _ => 1)) 0) [0, 1, 2] = .error .sliceOOB := by decide +kernel
/-- the unfixed `Invert(any)` precisely: 1 exactly on the empty slice -/
example : runOnChunk (.seq (.ofList [.any, .fn (fun t => if t.isEmpty then 1 else 0)])) [0, 1] =
    .error .sliceOOB := by decide +kernel
/-- the fixed `Invert` keeps the contract: same pattern, no panic -/
example : runOnChunk (.seq (.ofList [.any, .invert .any])) [0, 1] = .ok [] := by decide +kernel

/-- `find_all_matches` is not "all non-overlapping matches" (1): `word ws word` on
`a b c d`: raw matches 0..3, 2..5, 4..7; 2..5 is dropped for overlapping 0..3, and 4..7 is
dropped for overlapping the *already dropped* 2..5 although it is disjoint from 0..3. -/
example : collectMatches (.seq (.ofList [.leaf 0, .whitespace, .leaf 0])) 0 [0, 1, 0, 1, 0, 1, 0] =
    .ok [(0, 3), (2, 3), (4, 3)] := wordWsWord_raw
example : findAllMatches (.seq (.ofList [.leaf 0, .whitespace, .leaf 0])) [0, 1, 0, 1, 0, 1, 0] =
    .ok [(0, 3)] := by decide +kernel

/-- the hypotheses of `findAllMatches_disjoint_partial` hold for these raw matches (same length ⇒
monotone ends), and its conclusion is what was just computed -/
example : [(0, 3), (2, 3), (4, 3)].Pairwise (fun (a b : Nat × Nat) => a.1 < b.1) ∧
    [(0, 3), (2, 3), (4, 3)].Pairwise (fun (a b : Nat × Nat) => a.1 + a.2 ≤ b.1 + b.2) := by decide +kernel

/-- (2) overlapping matches can survive: on `a,., b` (word comma period comma space word) the
raw matches are 0..5, 1..3, 3..6; 1..3 is dropped (overlaps 0..5), 3..6 is compared with the
dropped 1..3 only, and is kept although it overlaps 0..5. -/
def overlapWitness : Pat :=
  .either (.ofList [
    .seq (.ofList [.leaf 0, .any, .any, .any, .any]),
    .seq (.ofList [.leaf 3, .leaf 2]),
    .seq (.ofList [.leaf 3, .leaf 1, .any])])

example : Contract overlapWitness := by simp [overlapWitness, Contract, ContractL, PatList.ofList]
example : collectMatches overlapWitness 0 [0, 3, 2, 3, 1, 0] = .ok [(0, 5), (1, 2), (3, 3)] := by
  decide +kernel
example : findAllMatches overlapWitness [0, 3, 2, 3, 1, 0] = .ok [(0, 5), (3, 3)] ∧
    overlaps (0, 5) (3, 3) = true := by decide +kernel

/-- chunking: terminators close their chunk, trailing tokens form a last chunk, a trailing
terminator does not open an empty one — but the empty list yields one empty chunk -/
example : iterChunks [0, 1, 0, 3, 1, 0, 2] = [[0, 1, 0, 3], [1, 0, 2]] := by decide +kernel
example : iterChunks [0, 3, 1, 0] = [[0, 3], [1, 0]] := by decide +kernel
example : iterChunks [3, 3] = [[3], [3]] := by decide +kernel
example : iterChunks [] = [[]] := by decide +kernel
example : iterSentences [0, 3, 1, 0, 2, 0] = [[0, 3, 1, 0, 2], [0]] := by decide +kernel
example : iterParagraphs [0, 2, 5, 0, 5] = [[0, 2, 5], [0, 5]] := by decide +kernel

end Harper.C01
