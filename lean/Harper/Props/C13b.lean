import Harper.Props.C03
import Harper.Props.C13
import Harper.Model.Pattern
/-!
# C13 (second part) — "fix all" after overlap resolution

`remove_overlaps` leaves lints whose spans are pairwise disjoint and sorted by start
(`Harper.C13.removeOverlaps_disjoint`: `a.end ≤ b.start` for `a` before `b`). This file proves
that applying one suggestion per such lint with the real `Suggestion::apply` (model:
`Harper/Model/Suggestion.lean`), from the LAST lint to the FIRST, never panics and equals the
simultaneous substitution `substAll` (text before the first span ++ new text₁ ++ text between ++
new text₂ ++ … ++ rest), using C03's `apply_spec`. Any mix of `ReplaceWith` / `InsertAfter` /
`Remove` is allowed.
-/
namespace Harper.C13
open Harper

variable {α : Type}

theorem apply_after_take (sug : Suggestion α) (src X : List α) (sp : Span)
    (h1 : sp.start ≤ sp.stop) (h2 : sp.stop ≤ src.length) :
    sug.apply sp (src.take sp.stop ++ X)
      = .ok (src.take sp.start ++ sug.newText ((src.drop sp.start).take (sp.stop - sp.start)) ++ X) := by
  have hlen : (src.take sp.stop).length = sp.stop := List.length_take_of_le h2
  rw [C03.apply_spec sug _ sp h1 (by rw [List.length_append, hlen]; exact Nat.le_add_right _ _),
    List.take_append_of_le_length (by rw [hlen]; exact h1), List.take_take, Nat.min_eq_left h1,
    List.drop_append_of_le_length (by rw [hlen]; exact h1), List.drop_take,
    List.take_append_of_le_length (by rw [List.length_take_of_le (by rw [List.length_drop]; omega)]; exact Nat.le_refl _),
    List.take_take, Nat.min_self, List.drop_left' hlen]

/-- General form: if every span starts at or after `pos`, the back-to-front application yields
the text before `pos` followed by the simultaneous substitution from `pos` on. -/
theorem fix_all_back_to_front_from (edits : List (Span × Suggestion α)) (src : List α) :
    ∀ (pos : Nat),
      (∀ e ∈ edits, pos ≤ e.1.start) →
      (∀ e ∈ edits, e.1.start ≤ e.1.stop ∧ e.1.stop ≤ src.length) →
      edits.Pairwise (fun a b => a.1.stop ≤ b.1.start) →
      fixAllBackToFront edits src = .ok (src.take pos ++ substAllFrom pos edits src) := by
  induction edits with
  | nil => intro pos _ _ _; rw [fixAllBackToFront, substAllFrom, List.take_append_drop]
  | cons e rest ih =>
    intro pos hpos hwf hdis
    obtain ⟨sp, sug⟩ := e
    have ⟨hhead, hrest⟩ := List.pairwise_cons.mp hdis
    have ⟨hse, hen⟩ := hwf (sp, sug) List.mem_cons_self
    have hps : pos ≤ sp.start := hpos (sp, sug) List.mem_cons_self
    have ih' := ih sp.stop hhead (fun e he => hwf e (List.mem_cons_of_mem _ he)) hrest
    simp only [fixAllBackToFront, ih', substAllFrom]
    rw [apply_after_take sug src _ sp hse hen, ← take_append_flagged src hps]
    simp only [List.append_assoc]

/-- `fix_all_back_to_front`: for pairwise-disjoint, start-sorted spans within the text, applying
one suggestion per span from the last to the first succeeds and equals the simultaneous
substitution. -/
theorem fix_all_back_to_front (edits : List (Span × Suggestion α)) (src : List α)
    (hwf : ∀ e ∈ edits, e.1.start ≤ e.1.stop ∧ e.1.stop ≤ src.length)
    (hdis : edits.Pairwise (fun a b => a.1.stop ≤ b.1.start)) :
    fixAllBackToFront edits src = .ok (substAll edits src) := by
  have := fix_all_back_to_front_from edits src 0 (fun _ _ => Nat.zero_le _) hwf hdis
  simpa [substAll] using this

/-! ### Non-vacuity and witnesses ("abcdefgh" as code points 1..8) -/

/-- three touching / separate spans with a replace (longer), a remove and an insert-after -/
example : fixAllBackToFront
    [(⟨1, 3⟩, .replaceWith [20, 21, 22]), (⟨3, 4⟩, .remove), (⟨6, 7⟩, .insertAfter [44])]
    [1, 2, 3, 4, 5, 6, 7, 8] = .ok [1, 20, 21, 22, 5, 6, 7, 44, 8] := by decide +kernel
example : substAll
    [(⟨1, 3⟩, .replaceWith [20, 21, 22]), (⟨3, 4⟩, .remove), (⟨6, 7⟩, .insertAfter [44])]
    [1, 2, 3, 4, 5, 6, 7, 8] = [1, 20, 21, 22, 5, 6, 7, 44, 8] := by decide +kernel
/-- the hypotheses hold of that instance -/
example : (∀ e ∈ [((⟨1, 3⟩ : Span), (Suggestion.replaceWith [20, 21, 22] : Suggestion Nat)),
      (⟨3, 4⟩, .remove), (⟨6, 7⟩, .insertAfter [44])],
      e.1.start ≤ e.1.stop ∧ e.1.stop ≤ [1, 2, 3, 4, 5, 6, 7, 8].length) ∧
    [((⟨1, 3⟩ : Span), (Suggestion.replaceWith [20, 21, 22] : Suggestion Nat)),
      (⟨3, 4⟩, .remove), (⟨6, 7⟩, .insertAfter [44])].Pairwise
      (fun a b => a.1.stop ≤ b.1.start) := by decide +kernel
/-- why the order matters: the same edits front to back (= the reversed list back to front) hit
shifted text -/
example : fixAllBackToFront
    [(⟨6, 7⟩, .insertAfter [44]), (⟨3, 4⟩, .remove), (⟨1, 3⟩, .replaceWith [20, 21, 22])]
    [1, 2, 3, 4, 5, 6, 7, 8] = .ok [1, 20, 21, 4, 5, 6, 7, 44, 8] := by decide +kernel
/-- overlapping spans (not what `remove_overlaps` returns) do not commute with the substitution -/
example : fixAllBackToFront [(⟨0, 2⟩, .remove), (⟨1, 3⟩, .remove)] [1, 2, 3, 4] = .ok [] := by decide +kernel
example : substAll [(⟨0, 2⟩, Suggestion.remove), (⟨1, 3⟩, .remove)] [1, 2, 3, 4] = [4] := by decide +kernel

/-! ### Composed with `remove_overlaps` itself -/

/-- **"Hence … can all be fixed in one pass, back to front"**, for the OUTPUT OF
`removeOverlaps`: take any lints that point into the text (`start ≤ end ≤ length`; overlapping,
nested, equal, zero-width, in any order), run `removeOverlaps`, pick one suggestion `σ x` per
surviving lint, apply them with `Suggestion.apply` from the last survivor to the first: no panic,
and the result is the simultaneous substitution. (`fix_all_back_to_front` states this for abstract
disjoint sorted edits; here its two hypotheses are discharged by `removeOverlaps_subset` and
`removeOverlaps_disjoint`.) -/
theorem fix_all_after_removeOverlaps (l : List Lint) (src : List α) (σ : Lint → Suggestion α)
    (hin : ∀ x ∈ l, x.s ≤ x.e ∧ x.e ≤ src.length) :
    fixAllBackToFront ((removeOverlaps l).map (fun x => ((⟨x.s, x.e⟩ : Span), σ x))) src
      = .ok (substAll ((removeOverlaps l).map (fun x => ((⟨x.s, x.e⟩ : Span), σ x))) src) := by
  apply fix_all_back_to_front
  · intro e he
    obtain ⟨x, hx, rfl⟩ := List.mem_map.mp he
    exact hin x (removeOverlaps_subset l x hx)
  · rw [List.pairwise_map]
    exact removeOverlaps_disjoint l (fun x hx => (hin x hx).1)

/-- non-vacuity of `fix_all_after_removeOverlaps`: five lints on "abcdefghi" (nested, touching,
equal-start, zero-width), suggestion chosen by payload; two survive and both edits land -/
example :
    (∀ x ∈ [(⟨0,5,1⟩ : Lint), ⟨3,6,2⟩, ⟨5,5,3⟩, ⟨5,9,4⟩, ⟨2,2,5⟩],
      x.s ≤ x.e ∧ x.e ≤ [1, 2, 3, 4, 5, 6, 7, 8, 9].length) ∧
    fixAllBackToFront ((removeOverlaps [⟨0,5,1⟩, ⟨3,6,2⟩, ⟨5,5,3⟩, ⟨5,9,4⟩, ⟨2,2,5⟩]).map
        (fun x => ((⟨x.s, x.e⟩ : Span),
          (if x.id = 1 then .replaceWith [20] else .insertAfter [44] : Suggestion Nat))))
      [1, 2, 3, 4, 5, 6, 7, 8, 9] = .ok [20, 6, 7, 8, 9, 44] := ⟨by decide +kernel, by decide +kernel⟩

/-- without `removeOverlaps` the same lints, back to front, do NOT give the simultaneous
substitution (the edits interfere) -/
example :
    fixAllBackToFront [((⟨0, 5⟩ : Span), (Suggestion.remove : Suggestion Nat)), (⟨3, 6⟩, .remove)]
        [1, 2, 3, 4, 5, 6, 7, 8, 9] = .ok [9] ∧
    substAll [((⟨0, 5⟩ : Span), (Suggestion.remove : Suggestion Nat)), (⟨3, 6⟩, .remove)]
        [1, 2, 3, 4, 5, 6, 7, 8, 9] = [7, 8, 9] := ⟨by decide +kernel, by decide +kernel⟩

/-- non-vacuity of `fix_all_back_to_front_from` with `pos > 0`: every span starts at or after 1 -/
example : fixAllBackToFront
    [(⟨1, 3⟩, .replaceWith [20, 21, 22]), (⟨3, 4⟩, .remove), (⟨6, 7⟩, .insertAfter [44])]
    [1, 2, 3, 4, 5, 6, 7, 8]
    = .ok ([1, 2, 3, 4, 5, 6, 7, 8].take 1 ++ substAllFrom 1
        [(⟨1, 3⟩, .replaceWith [20, 21, 22]), (⟨3, 4⟩, .remove), (⟨6, 7⟩, .insertAfter [44])]
        [1, 2, 3, 4, 5, 6, 7, 8]) :=
  fix_all_back_to_front_from _ _ 1 (by decide +kernel) (by decide +kernel) (by decide +kernel)

end Harper.C13
