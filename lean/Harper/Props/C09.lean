import Harper.Lemmas.Server
/-!
# C09 — the language server's last word on a document reflects the latest text

Model: `Harper/Model/Server.lean` (`backend.rs` as atomic segments split at every `.await`;
a publication is the record of WHICH text / configuration / dictionaries it was computed from).
Helper lemmas: `Harper/Lemmas/Server.lean`.

The property (`Latest`): once the server is idle, for every URL the last publication equals
`truth` — the fresh lint of the newest text the client sent under the client's current
configuration and the dictionary files as they are — and is empty for closed / deleted documents.

* It is **proved for histories executed one handler at a time** under four side conditions
  (`OpOk`), three of which are shown necessary by a witness below; no witness is given for the
  `order` condition or for `didOpen` of an open document.
* It is **false of the code under interleaving** (`concurrent_stale`, `interleaving_breaks_latest`).
* The theorems are stated twice: about `seqRun` / `handle` (a handler as one big step), and — last
  section, `macro_*` — about `runMacro`, the scheduler the driver ops `srv` / `srvseq` run, on the
  schedules in which each handler runs alone (`seqActs`); `macro_is_seqRun` is the bridge.
-/
namespace Harper.C09
open Harper.Server

/-! ## the partial theorem -/

/-- **Sequential histories.** For every history executed one handler at a time (every
configuration request answered at once with the client's configuration) in which every `didSave` /
add-to-dictionary / `didChangeConfiguration` occurs when disk = buffer for the affected open
documents (and the other side conditions of `OpOk` hold), after the last handler the last
publication of every open document is the fresh lint of its latest text under the current
configuration and dictionaries, and closed or deleted documents have empty diagnostics.

`_partial`: the full property quantifies over ALL histories and ALL interleavings. What is missing
is false of the code — see `concurrent_stale`, `reread_stale`, `user_dict_other_docs_stale`,
`ident_dict_dropped` below (each is a recorded finding). -/
theorem sequential_latest_partial (ops : List Op)
    (h : HistOk (Client.init, State.init) ops) :
    Latest (seqRun (Client.init, State.init) ops).1 (seqRun (Client.init, State.init) ops).2 :=
  inv_latest (seq_inv ops _ inv_init h)

/-- The invariant behind it, from any state that satisfies it (e.g. mid-session). -/
theorem sequential_latest_from (c : Client) (s : State) (ops : List Op)
    (hI : Inv c s) (h : HistOk (c, s) ops) :
    Latest (seqRun (c, s) ops).1 (seqRun (c, s) ops).2 :=
  inv_latest (seq_inv ops (c, s) hI h)

/-- `Latest` says what the statement says: an open document's last publication is computed from
the newest text, the current configuration (all three facets) and the current dictionaries. -/
theorem latest_open (c : Client) (s : State) (h : Latest c s) (u : Url) (t : Text) (l : Lang)
    (hb : c.buf u = some (t, l)) (hl : l ≠ .unknown) :
    ∃ p, s.outbox u = .diag p ∧ p.text = t ∧ p.sevCfg = c.ck ∧ p.lintCfg = c.ck ∧ p.parseCfg = c.ck ∧
      p.dictUser = s.userDict ∧ p.dictFile = s.fileDict u ∧ p.ignored = c.ign u := by
  rcases h u with h | h
  · simp only [truth, hb, hl, if_false] at h
    exact ⟨_, h, rfl, rfl, rfl, rfl, rfl, rfl, rfl⟩
  · rw [hb] at h; exact absurd h.1 (by simp)

/-- … and a closed / deleted document's last publication is empty (or there never was one). -/
theorem latest_closed (c : Client) (s : State) (h : Latest c s) (u : Url) (hb : c.buf u = none) :
    s.outbox u = .empty ∨ s.outbox u = .never := by
  rcases h u with h | h
  · left; simpa [truth, hb] using h
  · right; exact h.2

/-! ### non-vacuity: a history that satisfies the hypotheses and exercises every handler -/

def tA : Text := ⟨0, 0⟩
def tB : Text := ⟨1, 0⟩
def tC : Text := ⟨2, 0⟩

/-- open, edit, write the file, save, add to both dictionaries, ignore, change the configuration,
close, delete -/
def niceHistory : List Op :=
  [.disk 0 (some tA), .msg (.didOpen 0 .markdown tA), .msg (.didChange 0 tB), .disk 0 (some tB),
   .msg (.didSave 0), .msg (.addUser 7 0), .msg (.addFile 9 0), .msg (.ignore 0),
   .msg (.didChangeConfiguration 3 [0]), .msg (.didClose 0), .msg (.deleted [0])]

/-- non-vacuity of `sequential_latest_partial` / `sound_after_sequential` -/
theorem niceHistory_ok : HistOk (Client.init, State.init) niceHistory := by
  simp [niceHistory, HistOk, OpOk, DiskIsBuf, seqStep, clientStep, handle_didOpen, handle_didChange,
    handle_didSave, handle_addUser, handle_addFile, handle_ignore, updPub, rereadPub, replaceDoc,
    lintSendDoc, publish, setF, Client.init, State.init, tA, tB, dictDiffers, addWord]
  refine ⟨fun v hv => by simp [hv], fun u t l => ?_, fun u => ?_⟩
  · by_cases hu : u = 0 <;> simp [hu]
    intro h1 _; exact h1.symm ▸ rfl
  · by_cases hu : u = 0 <;> simp [hu]

/-- the hypotheses of `sequential_latest_partial` are satisfiable by a history that runs every handler -/
example : HistOk (Client.init, State.init) niceHistory := niceHistory_ok

/-- the state before the document goes away: last publication non-empty and computed from the
latest text `tB`, configuration 3 in all three facets, user word 7, file word 9, ignore applied -/
example :
    (seqRun (Client.init, State.init) (niceHistory.take 9)).2.outbox 0
      = .diag ⟨tB, .markdown, 3, 3, 3, [7], [9], none, true⟩ := by
  decide +kernel

example : (seqRun (Client.init, State.init) niceHistory).2.outbox 0 = .empty := by
  decide +kernel

/-- two documents, the configuration handler visiting them in either order -/
example :
    let w := seqRun (Client.init, State.init)
      [.disk 0 (some tA), .msg (.didOpen 0 .plain tA), .disk 1 (some tC), .msg (.didOpen 1 .ts tC),
       .msg (.didChangeConfiguration 2 [1, 0])]
    w.2.outbox 0 = .diag ⟨tA, .plain, 2, 2, 2, [], [], none, false⟩ ∧
    w.2.outbox 1 = .diag ⟨tC, .ts, 2, 2, 2, [], [], none, false⟩ := by
  decide +kernel

/-! ### the theorems applied to the witness -/

/-- `HistOk` of a concatenation: the first part is fine, and the second is fine from where the first
ends (so every prefix of an admissible history is admissible) -/
theorem histOk_append (a b : List Op) : ∀ w : Client × State,
    HistOk w (a ++ b) ↔ HistOk w a ∧ HistOk (seqRun w a) b := by
  induction a with
  | nil => intro w; simp [HistOk, seqRun]
  | cons op a ih =>
    intro w
    simp only [List.cons_append, HistOk, seqRun, List.foldl_cons]
    rw [ih (seqStep w op)]
    simp only [seqRun, and_assoc]

theorem niceHistory_split : niceHistory = niceHistory.take 9 ++ niceHistory.drop 9 :=
  (List.take_append_drop 9 niceHistory).symm

theorem niceHistory_ok_split : HistOk (Client.init, State.init) (niceHistory.take 9) ∧
    HistOk (seqRun (Client.init, State.init) (niceHistory.take 9)) (niceHistory.drop 9) :=
  (histOk_append _ _ _).mp (niceHistory_split ▸ niceHistory_ok)

theorem niceHistory_nine :
    (seqRun (Client.init, State.init) (niceHistory.take 9)).1.buf 0 = some (tB, .markdown) ∧
    (seqRun (Client.init, State.init) (niceHistory.take 9)).1.ck = 3 ∧
    (seqRun (Client.init, State.init) (niceHistory.take 9)).2.userDict = [7] ∧
    (seqRun (Client.init, State.init) (niceHistory.take 9)).2.fileDict 0 = [9] ∧
    (seqRun (Client.init, State.init) (niceHistory.take 9)).1.ign 0 = true := by
  decide +kernel

/-- non-vacuity of `latest_open` (hypotheses `Latest`, an OPEN document of a known language — all
obtained from `sequential_latest_partial` on the first nine steps, not by evaluating the outbox) -/
example : ∃ p, (seqRun (Client.init, State.init) (niceHistory.take 9)).2.outbox 0 = .diag p ∧
    p.text = tB ∧ p.sevCfg = 3 ∧ p.lintCfg = 3 ∧ p.parseCfg = 3 ∧ p.dictUser = [7] ∧ p.dictFile = [9] ∧
    p.ignored = true := by
  obtain ⟨hb, hck, hu, hf, hi⟩ := niceHistory_nine
  obtain ⟨p, h1, h2, h3, h4, h5, h6, h7, h8⟩ :=
    latest_open _ _ (sequential_latest_partial _ niceHistory_ok_split.1) 0 tB .markdown hb (by decide)
  exact ⟨p, h1, h2, h3.trans hck, h4.trans hck, h5.trans hck, h6.trans hu, h7.trans hf, h8.trans hi⟩

/-- non-vacuity of `latest_closed`: the document of `niceHistory` after close + delete -/
example : (seqRun (Client.init, State.init) niceHistory).2.outbox 0 = .empty ∨
    (seqRun (Client.init, State.init) niceHistory).2.outbox 0 = .never :=
  latest_closed _ _ (sequential_latest_partial _ niceHistory_ok) 0 (by decide +kernel)

/-- non-vacuity of `sequential_latest_from`: started mid-session (after nine steps, document open and
published) with the invariant of that state -/
example : Latest (seqRun (seqRun (Client.init, State.init) (niceHistory.take 9)) (niceHistory.drop 9)).1
    (seqRun (seqRun (Client.init, State.init) (niceHistory.take 9)) (niceHistory.drop 9)).2 := by
  have h := niceHistory_ok_split
  exact sequential_latest_from (seqRun (Client.init, State.init) (niceHistory.take 9)).1
    (seqRun (Client.init, State.init) (niceHistory.take 9)).2 _ (seq_inv _ _ inv_init h.1) h.2

/-- non-vacuity of `sequential_latest_partial` with TWO documents (one of a tree-sitter language, one
reopened under an id no parser exists for), a two-key configuration order, `didSave`, an unknown
command, both add-to-dictionary commands: the side conditions of `OpOk` hold together -/
example : HistOk (Client.init, State.init)
    [.disk 0 (some tA), .msg (.didOpen 0 .plain tA), .disk 1 (some tC), .msg (.didOpen 1 .ts tC),
     .msg (.didChangeConfiguration 2 [1, 0]), .msg (.didSave 1), .msg .noop, .msg (.addFile 4 1),
     .msg (.didClose 1), .msg (.addUser 7 0), .msg (.didOpen 1 .unknown tB)] := by
  simp [HistOk, OpOk, DiskIsBuf, seqStep, clientStep, handle_didOpen, handle_didSave,
    handle_addUser, handle_addFile, handle_config, handle_didClose, handle_noop,
    updPub, rereadPub, rebuild, replaceDoc, lintSendDoc, publish, setF, Client.init, State.init,
    tA, tB, tC, dictDiffers, addWord]
  refine ⟨⟨fun u t l => ?_, fun u => ?_⟩, fun v h0 h1 => by simp [h0, h1]⟩
  · by_cases h1 : u = 1 <;> by_cases h0 : u = 0 <;> simp [h1, h0] <;> (intro h _; exact h)
  · by_cases h1 : u = 1 <;> by_cases h0 : u = 0 <;> simp [h1, h0]

/-- … and where it ends: document 0 carries configuration 2 and the user word, document 1 (unknown
language) has empty diagnostics -/
example :
    let w := seqRun (Client.init, State.init)
      [.disk 0 (some tA), .msg (.didOpen 0 .plain tA), .disk 1 (some tC), .msg (.didOpen 1 .ts tC),
       .msg (.didChangeConfiguration 2 [1, 0]), .msg (.didSave 1), .msg .noop, .msg (.addFile 4 1),
       .msg (.didClose 1), .msg (.addUser 7 0), .msg (.didOpen 1 .unknown tB)]
    w.2.outbox 0 = .diag ⟨tA, .plain, 2, 2, 2, [7], [], none, false⟩ ∧ w.2.outbox 1 = .empty ∧
    w.2.fileDict 1 = [4] := by
  decide +kernel

/-- **`seqRun` against the scheduler the driver runs.** The theorems above are about `seqRun` /
`runSeq` (one handler alone); the driver op `srv` and every counter-schedule below run `runMacro`
(`Sys`, `settle`). Both execute the same `prog` and `step`; the general lemma relating them is
`macro_is_seqRun` below (section "the same theorems about the scheduler the driver runs").
On the witness they agree: `niceHistory` fed to `runMacro` with every configuration request answered
at once (the client's configuration: 0, then 3) leaves the server idle with exactly the same
publication log (eight publications), dictionaries and configuration. -/
example :
    let as : List Act :=
      [.disk 0 (some tA), .recv (.didOpen 0 .markdown tA), .reply 0 0, .recv (.didChange 0 tB), .reply 0 0,
       .disk 0 (some tB), .recv (.didSave 0), .reply 0 0, .recv (.addUser 7 0), .reply 0 0,
       .recv (.addFile 9 0), .reply 0 0, .recv (.ignore 0),
       .recv (.didChangeConfiguration 3 [0]), .reply 0 3, .recv (.didClose 0), .recv (.deleted [0])]
    let y := runMacro (Sys.init State.init) as
    let w := seqRun (Client.init, State.init) niceHistory
    y.pend = [] ∧ y.run.isEmpty = true ∧ y.queue.isEmpty = true ∧
    y.st.log = w.2.log ∧ y.st.userDict = w.2.userDict ∧ y.st.fileDict 0 = w.2.fileDict 0 ∧
    y.st.config = w.2.config ∧ y.st.badOrder = false ∧ w.2.log.length = 8 := by
  decide +kernel

/-! ## false under interleaving -/

/-- Two `didChange` of one URL; the client answers the SECOND handler's configuration request
first. (`Act.disk`/`recv`/`reply` are client actions; after each one the server runs until idle.) -/
def staleSchedule : List Act :=
  [.disk 0 (some tA), .recv (.didOpen 0 .plain tA), .reply 0 0,
   .recv (.didChange 0 tB), .recv (.didChange 0 tC), .reply 1 0, .reply 0 0]

def plainPub (t : Text) : Pub :=
  { text := t, lang := .plain, sevCfg := 0, lintCfg := 0, parseCfg := 0, dictUser := [],
    dictFile := [], dictIdent := none, ignored := false }

/-- **The full property is false of the code under interleaving.** After the schedule the server is
idle (nothing pending, nothing in flight), the client's newest text is `tC`, and the last
publication — and the document the server holds — is the OLDER text `tB`. The three publications
are `tA`, `tC`, `tB` in this order. Recorded finding `c09-overlapping-updates`; the same schedule is
replayed against the real server on every run (corpus `witness-overlapping-updates`). -/
theorem concurrent_stale :
    let y := runMacro (Sys.init State.init) staleSchedule
    y.pend = [] ∧ y.run.isEmpty = true ∧ y.queue.isEmpty = true ∧
    (clientAfter staleSchedule).buf 0 = some (tC, .plain) ∧
    y.st.outbox 0 = .diag (plainPub tB) ∧
    pubsOf y.st 0 = [.diag (plainPub tA), .diag (plainPub tC), .diag (plainPub tB)] := by
  decide

/-- hence `Latest` fails for an idle server after a well-formed client session -/
theorem interleaving_breaks_latest :
    ∃ as : List Act,
      (runMacro (Sys.init State.init) as).pend = [] ∧
      (runMacro (Sys.init State.init) as).run.isEmpty = true ∧
      ¬ Latest (clientAfter as) (runMacro (Sys.init State.init) as).st := by
  refine ⟨staleSchedule, by decide, by decide, fun h => ?_⟩
  rcases h 0 with h | h
  · revert h; decide
  · revert h; decide

/-- The same race as an explicit interleaving of SEGMENTS (`Act.step id` = one segment of handler
`id`): handler 1 (`didChange tB`) sends its configuration request; handler 2 (`didChange tC`) sends
its own, is answered, and runs its seven remaining segments; then handler 1 is answered and runs. -/
def staleMicro : List Act :=
  [.recv (.didOpen 0 .plain tA), .step 0, .reply 0 0, .step 0, .step 0, .step 0, .step 0, .step 0,
   .step 0, .step 0, .step 0,
   .recv (.didChange 0 tB), .step 1, .recv (.didChange 0 tC), .step 2,
   .reply 1 0, .step 2, .step 2, .step 2, .step 2, .step 2, .step 2, .step 2, .step 2,
   .reply 0 0, .step 1, .step 1, .step 1, .step 1, .step 1, .step 1, .step 1, .step 1]

example :
    let y := runMicro (Sys.init State.init) staleMicro
    y.pend = [] ∧ y.run.isEmpty = true ∧ y.st.outbox 0 = .diag (plainPub tB) := by
  decide +kernel

/-- A finer interleaving the client cannot force but the model admits (file I/O completion order):
the configuration read of one handler falls between the configuration write and read of another.
Handler 2's publication carries configuration 1 for the severity although it was answered with 0. -/
example :
    let y := runMicro (Sys.init State.init)
      [.recv (.didOpen 0 .plain tA), .recv (.didChange 0 tB), .step 0, .step 1,
       .reply 0 0, .reply 0 1,
       .step 0, .step 0, .step 0, .step 0, .step 0, .step 0,      -- handler 0 up to sevRead (config 0)
       .step 1,                                                     -- handler 1 writes config 1
       .step 0, .step 0]                                            -- handler 0 publishes
    y.st.outbox 0 = .diag { plainPub tA with sevCfg := 0 } ∧ y.st.config = 1 := by
  decide +kernel

/-- the sequential schedule of the same three messages IS fine (so the failure is the interleaving) -/
example :
    let as : List Act := [.disk 0 (some tA), .recv (.didOpen 0 .plain tA), .reply 0 0,
      .recv (.didChange 0 tB), .reply 0 0, .recv (.didChange 0 tC), .reply 0 0]
    (runMacro (Sys.init State.init) as).st.outbox 0 = truth (clientAfter as) (runMacro (Sys.init State.init) as).st 0 := by
  decide +kernel

/-- more than four messages: the fifth handler starts only when a slot is free (`buffer_unordered(4)`) -/
example :
    let y := runMacro (Sys.init State.init)
      [.recv (.didOpen 0 .plain tA), .reply 0 0, .recv (.didChange 0 ⟨1, 0⟩), .recv (.didChange 0 ⟨2, 0⟩),
       .recv (.didChange 0 ⟨3, 0⟩), .recv (.didChange 0 ⟨4, 0⟩), .recv (.didChange 0 ⟨5, 0⟩)]
    y.pend.length = 4 ∧ y.queue.length = 1 := by
  decide +kernel

/-! ## false without `disk = buffer` -/

/-- `didOpen(A, disk holds A); didChange(B); HarperAddToUserDict` — one handler at a time — ends with
A's diagnostics: the command re-reads the file. Recorded finding `c09-reread-from-disk`
(corpus `witness-reread-from-disk`). -/
def rereadHistory : List Op :=
  [.disk 0 (some tA), .msg (.didOpen 0 .plain tA), .msg (.didChange 0 tB), .msg (.addUser 7 0)]

theorem reread_stale :
    let w := seqRun (Client.init, State.init) rereadHistory
    w.1.buf 0 = some (tB, .plain) ∧
    w.2.outbox 0 = .diag { plainPub tA with dictUser := [7] } ∧
    ¬ Latest w.1 w.2 := by
  refine ⟨by decide, by decide, fun h => ?_⟩
  rcases h 0 with h | h
  · revert h; decide
  · revert h; decide

/-- and the history is not admissible (the failing conjunct is `DiskIsBuf` at the command) -/
example : ¬ HistOk (Client.init, State.init) rereadHistory := by
  simp [rereadHistory, HistOk, OpOk, DiskIsBuf, seqStep, clientStep, handle_didOpen, handle_didChange,
    updPub, replaceDoc, lintSendDoc, publish, setF, Client.init, State.init, tA, tB, dictDiffers]

/-- same for `didSave` announced before the file is written, and for a configuration change while
the file does not exist (the update is skipped: the parser configuration of the document stays 0) -/
example :
    (seqRun (Client.init, State.init)
      [.disk 0 (some tA), .msg (.didOpen 0 .plain tA), .msg (.didChange 0 tB), .msg (.didSave 0)]).2.outbox 0
      = .diag (plainPub tA) := by
  decide +kernel

example :
    (seqRun (Client.init, State.init)
      [.msg (.didOpen 0 .markdown tA), .msg (.didChangeConfiguration 2 [0])]).2.outbox 0
      = .diag ⟨tA, .markdown, 2, 2, 0, [], [], none, false⟩ := by
  decide +kernel

/-! ## two more defects the side conditions exclude -/

/-- A word added to the user dictionary through one document stays flagged in the other open
document: only the command's target is re-linted. Recorded finding `c09-user-dict-other-docs`. -/
theorem user_dict_other_docs_stale :
    let w := seqRun (Client.init, State.init)
      [.disk 0 (some tA), .msg (.didOpen 0 .plain tA), .disk 1 (some tB), .msg (.didOpen 1 .plain tB),
       .msg (.addUser 7 0)]
    w.2.userDict = [7] ∧ w.2.outbox 0 = .diag { plainPub tA with dictUser := [7] } ∧
    w.2.outbox 1 = .diag (plainPub tB) ∧ ¬ LatestAt w.1 w.2 1 := by
  refine ⟨by decide, by decide, by decide, fun h => ?_⟩
  rcases h with h | h
  · revert h; decide
  · revert h; decide

/-- Tree-sitter documents: the identifier dictionary (set 1) is merged by the first update and
dropped by the second. Recorded finding `c09-ident-dict-dropped`. -/
theorem ident_dict_dropped :
    let t0 : Text := ⟨0, 1⟩
    let t1 : Text := ⟨1, 1⟩
    let w1 := seqRun (Client.init, State.init) [.msg (.didOpen 0 .ts t0)]
    let w2 := seqRun w1 [.msg (.didChange 0 t1)]
    w1.2.outbox 0 = .diag ⟨t0, .ts, 0, 0, 0, [], [], some 1, false⟩ ∧
    w2.2.outbox 0 = .diag ⟨t1, .ts, 0, 0, 0, [], [], none, false⟩ ∧
    truth w2.1 w2.2 0 = .diag ⟨t1, .ts, 0, 0, 0, [], [], some 1, false⟩ := by
  decide

/-- … and it comes back when the set of identifiers changes (set 2) -/
example :
    (seqRun (Client.init, State.init)
      [.msg (.didOpen 0 .ts ⟨0, 1⟩), .msg (.didChange 0 ⟨1, 1⟩), .msg (.didChange 0 ⟨2, 2⟩)]).2.outbox 0
      = .diag ⟨⟨2, 2⟩, .ts, 0, 0, 0, [], [], some 2, false⟩ := by
  decide +kernel

/-! ## a configuration the client has not announced -/

/-- The client's configuration becomes `k` WITHOUT a `didChangeConfiguration`: from now on its
`workspace/configuration` answers carry `k`. -/
def silently (k : CfgV) (w : Client × State) : Client × State := ({ w.1 with ck := k }, w.2)

/-- **Configuration learnt only through a pull is applied piecemeal.** Open under configuration 0;
the client's configuration silently becomes 1; a `didChange` pulls it. The publication takes the
severity and the parser options from configuration 1 but the `LintGroup` is still the one built
under configuration 0 (it is rebuilt only on creation, on a dictionary change and by
`didChangeConfiguration`) — a mixture that is the fresh lint under neither configuration, and not
`truth`. Recorded finding `c09-linter-config-only-on-notification`
(corpus `witness-linter-config-only-on-notification`). -/
theorem linter_config_only_on_notification :
    let w1 := seqRun (Client.init, State.init) [.disk 0 (some tA), .msg (.didOpen 0 .markdown tA)]
    let w2 := seqRun (silently 1 w1) [.msg (.didChange 0 tB)]
    w2.2.config = 1 ∧
    w2.2.outbox 0 = .diag ⟨tB, .markdown, 1, 0, 1, [], [], none, false⟩ ∧
    truth w2.1 w2.2 0 = .diag ⟨tB, .markdown, 1, 1, 1, [], [], none, false⟩ := by
  decide

/-- **After a `didChangeConfiguration` everything is current.** From ANY
structurally sound state (`WeakAt`: the right documents are loaded, in the client's languages,
without identifier dictionary; text, configuration facets, dictionaries, `Backend::config` and last
publications arbitrary — in particular `Backend::config` may ALREADY equal the announced
configuration because an earlier pull wrote it), once the handler of a
`didChangeConfiguration(k)` that finds disk = buffer has finished, `Latest` holds for the client
configuration `k`: every open document's last publication has severity, linter and parser facets
`k`, the newest text and the current dictionaries. A handler that skips rebuilding the linters when
`Backend::config` already holds the new settings violates exactly this. The handler runs ALONE here
(`handle`: its segments are not interleaved with another handler's); under interleaving the statement
is false — see `concurrent_stale`. -/
theorem latest_after_notification (c : Client) (s : State) (k : CfgV) (order : List Url)
    (hW : ∀ v, WeakAt c s v) (hd : ∀ u, DiskIsBuf c s u)
    (ho : ∀ u, u ∈ order ↔ (s.docs u).isSome = true) :
    Latest { c with ck := k } (handle k s (.didChangeConfiguration k order)) :=
  inv_latest (config_repairs hW k order hd ho)

theorem stale_state_sound :
    let w1 := seqRun (Client.init, State.init) [.disk 0 (some tA), .msg (.didOpen 0 .markdown tA)]
    let w2 := seqRun (silently 1 w1) [.msg (.didChange 0 tB), .disk 0 (some tB)]
    (∀ v, WeakAt w2.1 w2.2 v) ∧ (∀ u, DiskIsBuf w2.1 w2.2 u) ∧
    (∀ u, u ∈ [0] ↔ (w2.2.docs u).isSome = true) := by
  simp [seqRun, seqStep, silently, clientStep, handle_didOpen, handle_didChange, updPub,
      replaceDoc, lintSendDoc, publish, setF, Client.init, State.init, tA, tB, dictDiffers, WeakAt,
      DiskIsBuf, pubOf]
  refine ⟨fun v => ?_, fun u t l => ?_, fun u => ?_⟩
  · by_cases h : v = 0 <;> simp [h]
  · by_cases h : u = 0 <;> simp [h]
    intro h1 _; exact h1.symm ▸ rfl
  · by_cases h : u = 0 <;> simp [h]

/-- non-vacuity, and the scenario of the finding repaired by the notification: the stale state of
`linter_config_only_on_notification` (after the editor wrote the file) satisfies the hypotheses … -/
example :
    let w1 := seqRun (Client.init, State.init) [.disk 0 (some tA), .msg (.didOpen 0 .markdown tA)]
    let w2 := seqRun (silently 1 w1) [.msg (.didChange 0 tB), .disk 0 (some tB)]
    (∀ v, WeakAt w2.1 w2.2 v) ∧ (∀ u, DiskIsBuf w2.1 w2.2 u) ∧
    (∀ u, u ∈ [0] ↔ (w2.2.docs u).isSome = true) := stale_state_sound

/-- … and the notification of configuration 1 (which `Backend::config` already holds) makes the
linter facet current -/
example :
    let w1 := seqRun (Client.init, State.init) [.disk 0 (some tA), .msg (.didOpen 0 .markdown tA)]
    let w2 := seqRun (silently 1 w1) [.msg (.didChange 0 tB), .disk 0 (some tB)]
    let w3 := seqRun w2 [.msg (.didChangeConfiguration 1 [0])]
    w2.2.config = 1 ∧ w3.2.outbox 0 = .diag ⟨tB, .markdown, 1, 1, 1, [], [], none, false⟩ ∧
    w3.2.outbox 0 = truth w3.1 w3.2 0 := by
  decide +kernel

/-- every state reached by a history that satisfies `OpOk` is structurally sound for whatever the
client's configuration silently becomes -/
theorem sound_after_sequential (ops : List Op) (h : HistOk (Client.init, State.init) ops) (k : CfgV) :
    ∀ v, WeakAt { (seqRun (Client.init, State.init) ops).1 with ck := k }
      (seqRun (Client.init, State.init) ops).2 v :=
  (seq_inv ops _ inv_init h).weak k

/-! ## the same theorems about the scheduler the driver runs (`runMacro`)

Everything above the counter-schedules is about `seqRun` / `handle` (a handler as ONE step); the
driver ops `srv` / `srvseq` and every counter-schedule run `runMacro` (`Sys`, `settle`,
`stepHandler`, `reply`). `Lemmas/Server.lean` (`solo_run`, `macro_handle`, `macro_is_seq_N`,
`macro_is_seq`) proves that on the schedules in which each handler runs alone the two coincide:
a message to an idle server followed by at least as many `reply 0 ck` as its handler sends
configuration requests leaves the server idle in the state `handle ck` computes. The one side
condition is the scheduler's fuel: `settle` takes at most `settleFuel` = 4096 segment steps per
client action, so a program must be shorter than that — only `didChangeConfiguration` has programs
of unbounded length (2 + 9 segments per key: at most 454 keys). -/

/-- **One handler alone.** A message to an idle server (`Sys.init s`) and then `n` answers to the
oldest configuration request, `n` at least the number of requests the handler sends when it runs
alone (`pullsRun`; more answers than requests are ignored): the server is idle again and its state —
documents, configuration, files, publication log — is `handle ck s m`. -/
theorem macro_handler_alone (ck : CfgV) (s : State) (m : Msg) (n : Nat)
    (hF : (prog m).1.length < settleFuel) (hn : pullsRun ck s (prog m).2 (prog m).1 ≤ n) :
    let y := runMacro (Sys.init s) (.recv m :: List.replicate n (.reply 0 ck))
    y.run = [] ∧ y.queue = [] ∧ y.pend = [] ∧ y.st = handle ck s m := by
  have h : runMacro (Sys.init s) (.recv m :: List.replicate n (.reply 0 ck)) = idleSys (handle ck s m) 1 :=
    macro_handle ck s 0 m n hF hn
  rw [h]
  exact ⟨rfl, rfl, rfl, rfl⟩

/-- non-vacuity of `macro_handler_alone`, and the count is sharp: `didSave` of an open document whose
file exists sends one request — one answer (or more) finishes it, none leaves it waiting -/
example :
    let s := (seqRun (Client.init, State.init) [.disk 0 (some tA), .msg (.didOpen 0 .plain tA)]).2
    (prog (.didSave 0)).1.length < settleFuel ∧ pullsRun 0 s (prog (.didSave 0)).2 (prog (.didSave 0)).1 = 1 ∧
    (runMacro (Sys.init s) [.recv (.didSave 0)]).pend = [0] ∧
    (runMacro (Sys.init s) [.recv (.didSave 0), .reply 0 0]).st.log = (handle 0 s (.didSave 0)).log ∧
    (runMacro (Sys.init s) [.recv (.didSave 0), .reply 0 0, .reply 0 0]).st.log = (handle 0 s (.didSave 0)).log ∧
    (handle 0 s (.didSave 0)).log.length = 2 := by
  decide +kernel

/-- … and when the file cannot be read the handler sends NO request (`readDisk` skips the update): the
answer `seqActs` schedules for it finds nobody waiting and is ignored -/
example :
    let s := (seqRun (Client.init, State.init) [.msg (.didOpen 0 .plain tA)]).2
    pullsRun 0 s (prog (.didSave 0)).2 (prog (.didSave 0)).1 = 0 ∧ pullCount (prog (.didSave 0)).1 = 1 ∧
    (runMacro (Sys.init s) [.recv (.didSave 0)]).pend = [] ∧
    (runMacro (Sys.init s) [.recv (.didSave 0)]).st.log = (handle 0 s (.didSave 0)).log ∧
    (runMacro (Sys.init s) [.recv (.didSave 0), .reply 0 0]).st.log = (handle 0 s (.didSave 0)).log := by
  decide +kernel

/-- **The fuel hypothesis is needed.** `settle` performs at most `settleFuel` = 4096 segment steps per
client action. A configuration handler over 455 keys whose files are all missing sends no
configuration request and has a program of 4097 segments: after the notification alone (as many
answers as requests: none) the handler is still in flight — `macro_handler_alone` without its first
hypothesis is false. One more client action (an answer nobody waits for) lets the scheduler finish it,
which is why the schedule `seqActs` (one answer per key) still ends idle here. The real server has no
such bound: the fuel is an artefact of the model's scheduler, reached by no K case (≤ 3 URIs). -/
example :
    let m : Msg := .didChangeConfiguration 1 (List.range 455)
    pullsRun 1 State.init (prog m).2 (prog m).1 = 0 ∧ (prog m).1.length = settleFuel + 1 ∧
    (runMacro (Sys.init State.init) [.recv m]).run.length = 1 ∧
    (runMacro (Sys.init State.init) [.recv m, .reply 0 1]).run.length = 0 := by
  have hp : pullsRun 1 State.init (prog (.didChangeConfiguration 1 (List.range 455))).2
      (prog (.didChangeConfiguration 1 (List.range 455))).1 = 0 :=
    (pullsRun_config 1 1 State.init _).trans (List.countP_eq_zero.mpr fun _ _ h => Bool.false_ne_true h)
  have hl : (prog (.didChangeConfiguration 1 (List.range 455))).1.length = settleFuel + 1 := by
    rw [prog_config_length, List.length_range]; rfl
  obtain ⟨h1, h2⟩ := macro_out_of_fuel 1 1 State.init 0 (.didChangeConfiguration 1 (List.range 455)) 0 hp
    (by rw [hl]; exact Nat.le_succ _) (by rw [hl]; decide)
  exact ⟨hp, hl, h1, congrArg (·.run.length) h2⟩

/-- **The bridge.** The sequential schedule `seqActs c ops` of a history (every message followed at
once by the answers to its handler's configuration requests, carrying the client's configuration)
leaves `runMacro` idle in EXACTLY the state `seqRun` computes — hence with the same publication log,
outbox, documents, configuration and dictionary files — and the client that schedule implies
(`clientOfAct`) is `seqRun`'s client. Hypothesis: no `didChangeConfiguration` handler iterates over
more than 454 keys (its program must be shorter than `settleFuel`). -/
theorem macro_is_seqRun (ops : List Op) (c : Client) (s : State)
    (hF : ∀ k order, Op.msg (.didChangeConfiguration k order) ∈ ops → order.length ≤ 454) :
    let y := runMacro (Sys.init s) (seqActs c ops)
    y.run = [] ∧ y.queue = [] ∧ y.pend = [] ∧ y.st = (seqRun (c, s) ops).2 ∧
    (seqActs c ops).foldl clientOfAct c = (seqRun (c, s) ops).1 := by
  obtain ⟨h1, h2⟩ := macro_is_seq ops c s 0 (fits_of_orders ops hF)
  have h1' : runMacro (Sys.init s) (seqActs c ops) = idleSys (seqRun (c, s) ops).2 (0 + msgCount ops) := h1
  rw [h1']
  exact ⟨rfl, rfl, rfl, rfl, h2⟩

/-- … in particular it publishes exactly the same things in the same order -/
theorem macro_publishes_as_seq (ops : List Op) (c : Client) (s : State)
    (hF : ∀ k order, Op.msg (.didChangeConfiguration k order) ∈ ops → order.length ≤ 454) (u : Url) :
    pubsOf (runMacro (Sys.init s) (seqActs c ops)).st u = pubsOf (seqRun (c, s) ops).2 u := by
  rw [(macro_is_seqRun ops c s hF).2.2.2.1]

/-- The bridge for EVERY schedule in which each handler runs alone, not only the canonical one:
`seqActsN` puts a free number of answers after each message, `Answered` asks that it be at least the
number of requests the handler sends from the state the history has reached (and that no program
exhausts the fuel). The `srv` lines of the harness's sequential histories are of this form with
EXACTLY as many `R:` as the real server sent requests; `seqActs` is the instance with one answer per
`Seg.pull` of the program (`seqActs_eq_N`). -/
theorem macro_answered_is_seqRun (ops : List (Op × Nat)) (c : Client) (s : State)
    (h : Answered (c, s) ops) :
    let y := runMacro (Sys.init s) (seqActsN c ops)
    y.run = [] ∧ y.queue = [] ∧ y.pend = [] ∧ y.st = (seqRun (c, s) (ops.map (·.1))).2 := by
  have h1 : runMacro (Sys.init s) (seqActsN c ops)
      = idleSys (seqRun (c, s) (ops.map (·.1))).2 (0 + msgCount (ops.map (·.1))) :=
    (macro_is_seq_N ops c s 0 h).1
  rw [h1]
  exact ⟨rfl, rfl, rfl, rfl⟩

/-- non-vacuity of `macro_answered_is_seqRun`: one answer for the `didOpen`, NONE for the `didSave`
whose file is missing (it sends no request), three (two of them ignored) for the `didChange` -/
example :
    let ops : List (Op × Nat) :=
      [(.msg (.didOpen 0 .plain tA), 1), (.msg (.didSave 0), 0), (.msg (.didChange 0 tB), 3)]
    Answered (Client.init, State.init) ops ∧
    seqActsN Client.init ops = [.recv (.didOpen 0 .plain tA), .reply 0 0, .recv (.didSave 0),
      .recv (.didChange 0 tB), .reply 0 0, .reply 0 0, .reply 0 0] ∧
    (runMacro (Sys.init State.init) (seqActsN Client.init ops)).st.outbox 0 = .diag (plainPub tB) :=
  ⟨⟨⟨by decide +kernel, by decide +kernel⟩, ⟨by decide +kernel, by decide +kernel⟩, ⟨by decide +kernel, by decide +kernel⟩, trivial⟩, rfl, by decide +kernel⟩

/-- the hypothesis of the bridge holds of the witness history -/
theorem niceHistory_fits :
    ∀ k order, Op.msg (.didChangeConfiguration k order) ∈ niceHistory → order.length ≤ 454 := by
  intro k order h
  simp [niceHistory] at h
  simp [h.2]

/-- the sequential schedule of `niceHistory`: one answer after each of the five single-update
messages (carrying the client's configuration 0), one — carrying the NEW configuration 3 — for the
one key of the configuration handler, none after `ignore`, `didClose`, `deleted` -/
example : seqActs Client.init niceHistory =
    [.disk 0 (some tA), .recv (.didOpen 0 .markdown tA), .reply 0 0, .recv (.didChange 0 tB), .reply 0 0,
     .disk 0 (some tB), .recv (.didSave 0), .reply 0 0, .recv (.addUser 7 0), .reply 0 0,
     .recv (.addFile 9 0), .reply 0 0, .recv (.ignore 0),
     .recv (.didChangeConfiguration 3 [0]), .reply 0 3, .recv (.didClose 0), .recv (.deleted [0])] := rfl

/-- non-vacuity of `macro_is_seqRun` / `macro_publishes_as_seq`: the theorem applied to the witness
(eight publications for URL 0, the last one empty) -/
example :
    pubsOf (runMacro (Sys.init State.init) (seqActs Client.init niceHistory)).st 0
      = pubsOf (seqRun (Client.init, State.init) niceHistory).2 0 ∧
    (pubsOf (seqRun (Client.init, State.init) niceHistory).2 0).length = 8 :=
  ⟨macro_publishes_as_seq _ _ _ niceHistory_fits 0, by decide +kernel⟩

/-- **Sequential histories, under the scheduler.** `sequential_latest_partial` for `runMacro`: a
history that satisfies `HistOk`, delivered to the (initially idle, empty) server as its sequential
schedule, leaves the server idle and every URL's last publication is the truth for the client that
schedule implies (`clientAfter`, the client `interleaving_breaks_latest` uses). `_partial` for the
same reason: under other schedules it is false (`concurrent_stale`). -/
theorem macro_sequential_latest_partial (ops : List Op)
    (h : HistOk (Client.init, State.init) ops)
    (hF : ∀ k order, Op.msg (.didChangeConfiguration k order) ∈ ops → order.length ≤ 454) :
    let as := seqActs Client.init ops
    let y := runMacro (Sys.init State.init) as
    y.run = [] ∧ y.queue = [] ∧ y.pend = [] ∧ Latest (clientAfter as) y.st := by
  obtain ⟨h1, h2, h3, h4, h5⟩ := macro_is_seqRun ops Client.init State.init hF
  refine ⟨h1, h2, h3, ?_⟩
  show Latest ((seqActs Client.init ops).foldl clientOfAct Client.init) _
  rw [h4, h5]
  exact sequential_latest_partial ops h

/-- non-vacuity of `macro_sequential_latest_partial`: the witness history -/
example :
    Latest (clientAfter (seqActs Client.init niceHistory))
      (runMacro (Sys.init State.init) (seqActs Client.init niceHistory)).st :=
  (macro_sequential_latest_partial niceHistory niceHistory_ok niceHistory_fits).2.2.2

/-- `sequential_latest_from` for `runMacro`: from ANY idle server (whatever handler ids it has used)
whose state satisfies the invariant for the client `c`. -/
theorem macro_sequential_latest_from (c : Client) (y0 : Sys) (ops : List Op)
    (hidle : Idle y0) (hI : Inv c y0.st) (h : HistOk (c, y0.st) ops)
    (hF : ∀ k order, Op.msg (.didChangeConfiguration k order) ∈ ops → order.length ≤ 454) :
    let as := seqActs c ops
    let y := runMacro y0 as
    Idle y ∧ Latest (as.foldl clientOfAct c) y.st := by
  obtain ⟨h1, h2⟩ := macro_is_seq ops c y0.st y0.nextId (fits_of_orders ops hF)
  show Idle (runMacro y0 _) ∧ Latest _ (runMacro y0 _).st
  rw [hidle.eq, h1, h2]
  exact ⟨idleSys_idle _ _, sequential_latest_from c y0.st ops hI h⟩

/-- non-vacuity of `macro_sequential_latest_from`: started mid-session — the server `runMacro` has
reached after the first nine steps of the witness (idle, seven handler ids used, document open and
published) — with the rest of the witness -/
example :
    let as1 := seqActs Client.init (niceHistory.take 9)
    let y0 := runMacro (Sys.init State.init) as1
    let c := clientAfter as1
    Idle y0 ∧ y0.nextId = 7 ∧
    Latest ((seqActs c (niceHistory.drop 9)).foldl clientOfAct c) (runMacro y0 (seqActs c (niceHistory.drop 9))).st := by
  have hok := niceHistory_ok_split
  have hF1 : ∀ k order, Op.msg (.didChangeConfiguration k order) ∈ niceHistory.take 9 → order.length ≤ 454 :=
    fun k order hm => niceHistory_fits k order (List.mem_of_mem_take hm)
  have hF2 : ∀ k order, Op.msg (.didChangeConfiguration k order) ∈ niceHistory.drop 9 → order.length ≤ 454 :=
    fun k order hm => niceHistory_fits k order (List.mem_of_mem_drop hm)
  obtain ⟨b1, b2⟩ := macro_is_seq (niceHistory.take 9) Client.init State.init 0 (fits_of_orders _ hF1)
  have b1 : runMacro (Sys.init State.init) (seqActs Client.init (niceHistory.take 9)) = _ := b1
  have b2 : clientAfter (seqActs Client.init (niceHistory.take 9)) = _ := b2
  intro as1 y0 c
  have hy : y0 = _ := b1
  have hc : c = _ := b2
  rw [hy, hc]
  refine ⟨idleSys_idle _ _, by decide, ?_⟩
  exact (macro_sequential_latest_from _ _ (niceHistory.drop 9) (idleSys_idle _ _)
    (seq_inv _ _ inv_init hok.1) hok.2 hF2).2

/-- `latest_open` read off the scheduler: after the sequential schedule of an admissible history the
last publication of a document the client has open (in a language a parser exists for) is non-empty and
computed from the newest text, the client's configuration in all three facets, the dictionary files as
they are and the client's ignore request. -/
theorem macro_latest_open (ops : List Op) (h : HistOk (Client.init, State.init) ops)
    (hF : ∀ k order, Op.msg (.didChangeConfiguration k order) ∈ ops → order.length ≤ 454)
    (u : Url) (t : Text) (l : Lang)
    (hb : (clientAfter (seqActs Client.init ops)).buf u = some (t, l)) (hl : l ≠ .unknown) :
    let c := clientAfter (seqActs Client.init ops)
    let s := (runMacro (Sys.init State.init) (seqActs Client.init ops)).st
    ∃ p, s.outbox u = .diag p ∧ p.text = t ∧ p.sevCfg = c.ck ∧ p.lintCfg = c.ck ∧ p.parseCfg = c.ck ∧
      p.dictUser = s.userDict ∧ p.dictFile = s.fileDict u ∧ p.ignored = c.ign u :=
  latest_open _ _ (macro_sequential_latest_partial ops h hF).2.2.2 u t l hb hl

/-- … and of a document the client has closed, deleted or never opened -/
theorem macro_latest_closed (ops : List Op) (h : HistOk (Client.init, State.init) ops)
    (hF : ∀ k order, Op.msg (.didChangeConfiguration k order) ∈ ops → order.length ≤ 454)
    (u : Url) (hb : (clientAfter (seqActs Client.init ops)).buf u = none) :
    let s := (runMacro (Sys.init State.init) (seqActs Client.init ops)).st
    s.outbox u = .empty ∨ s.outbox u = .never :=
  latest_closed _ _ (macro_sequential_latest_partial ops h hF).2.2.2 u hb

/-- non-vacuity of `macro_latest_open`: the first nine steps of the witness under `runMacro` (the
facets are obtained from the theorem, then evaluated) -/
example : ∃ p, (runMacro (Sys.init State.init) (seqActs Client.init (niceHistory.take 9))).st.outbox 0 = .diag p ∧
    p.text = tB ∧ p.sevCfg = 3 ∧ p.lintCfg = 3 ∧ p.parseCfg = 3 ∧ p.dictUser = [7] ∧ p.dictFile = [9] ∧
    p.ignored = true := by
  have hF1 : ∀ k order, Op.msg (.didChangeConfiguration k order) ∈ niceHistory.take 9 → order.length ≤ 454 :=
    fun k order hm => niceHistory_fits k order (List.mem_of_mem_take hm)
  obtain ⟨_, _, _, hst, hc⟩ := macro_is_seqRun (niceHistory.take 9) Client.init State.init hF1
  have hc : clientAfter (seqActs Client.init (niceHistory.take 9))
      = (seqRun (Client.init, State.init) (niceHistory.take 9)).1 := hc
  obtain ⟨hb, hck, hu, hf, hi⟩ := niceHistory_nine
  obtain ⟨p, h1, h2, h3, h4, h5, h6, h7, h8⟩ :=
    macro_latest_open _ niceHistory_ok_split.1 hF1 0 tB .markdown (by rw [hc]; exact hb) (by decide)
  rw [hc] at h3 h4 h5 h8
  rw [hst] at h6 h7
  exact ⟨p, h1, h2, h3.trans hck, h4.trans hck, h5.trans hck, h6.trans hu, h7.trans hf, h8.trans hi⟩

/-- non-vacuity of `macro_latest_closed`: the witness after close + delete, under `runMacro` -/
example :
    (runMacro (Sys.init State.init) (seqActs Client.init niceHistory)).st.outbox 0 = .empty ∨
    (runMacro (Sys.init State.init) (seqActs Client.init niceHistory)).st.outbox 0 = .never :=
  macro_latest_closed _ niceHistory_ok niceHistory_fits 0 (by decide +kernel)

/-- **`latest_after_notification` under the scheduler.** An idle server in ANY structurally sound state
receives `didChangeConfiguration(k)` and the client answers the handler's configuration requests (at
most one per key; `n ≥ order.length` answers, each carrying `k`) before doing anything else: the
server is idle again and `Latest` holds for the client configuration `k`. "Before doing anything
else" is the handler-runs-alone condition of `latest_after_notification`, here a statement about the
schedule; `order.length ≤ 454` is the scheduler's fuel. -/
theorem macro_latest_after_notification (c : Client) (y0 : Sys) (k : CfgV) (order : List Url) (n : Nat)
    (hidle : Idle y0) (hW : ∀ v, WeakAt c y0.st v) (hd : ∀ u, DiskIsBuf c y0.st u)
    (ho : ∀ u, u ∈ order ↔ (y0.st.docs u).isSome = true)
    (hF : order.length ≤ 454) (hn : order.length ≤ n) :
    let y := runMacro y0 (.recv (.didChangeConfiguration k order) :: List.replicate n (.reply 0 k))
    Idle y ∧ Latest { c with ck := k } y.st := by
  have hfit : (prog (.didChangeConfiguration k order)).1.length < settleFuel := by
    rw [prog_length]; simp only [settleFuel]; omega
  have hpull : pullsRun k y0.st (prog (.didChangeConfiguration k order)).2
      (prog (.didChangeConfiguration k order)).1 ≤ n :=
    Nat.le_trans (pullsRun_le _ _ _ _) (by rw [pullCount_prog]; exact hn)
  have h := macro_handle k y0.st y0.nextId (.didChangeConfiguration k order) n hfit hpull
  show Idle (runMacro y0 _) ∧ Latest _ (runMacro y0 _).st
  rw [hidle.eq, h]
  exact ⟨idleSys_idle _ _, latest_after_notification c y0.st k order hW hd ho⟩

/-- the schedule of `linter_config_only_on_notification` is sequential: it ends in the state of
`stale_state_sound` -/
theorem stale_state_macro :
    runMacro (Sys.init State.init) [.disk 0 (some tA), .recv (.didOpen 0 .markdown tA), .reply 0 0,
      .recv (.didChange 0 tB), .reply 0 1, .disk 0 (some tB)]
    = idleSys (seqRun (silently 1 (seqRun (Client.init, State.init)
        [.disk 0 (some tA), .msg (.didOpen 0 .markdown tA)])) [.msg (.didChange 0 tB), .disk 0 (some tB)]).2 2 := by
  have hl : [Act.disk 0 (some tA), .recv (.didOpen 0 .markdown tA), .reply 0 0,
      .recv (.didChange 0 tB), .reply 0 1, .disk 0 (some tB)] = [.disk 0 (some tA)] ++
      ((.recv (.didOpen 0 .markdown tA) :: List.replicate 1 (.reply 0 0)) ++
      ((.recv (.didChange 0 tB) :: List.replicate 1 (.reply 0 1)) ++ [.disk 0 (some tB)])) := rfl
  rw [hl]
  show runMacro (idleSys State.init 0) _ = _
  rw [runMacro_append, macro_disk, runMacro_append,
    macro_handle 0 _ 0 _ 1 (by decide) (Nat.le_trans (pullsRun_le _ _ _ _) (by decide)), runMacro_append,
    macro_handle 1 _ 1 _ 1 (by decide) (Nat.le_trans (pullsRun_le _ _ _ _) (by decide)), macro_disk]
  rfl

/-- non-vacuity of `macro_latest_after_notification`, the scenario of
`linter_config_only_on_notification` under the scheduler: open, the client's configuration silently
becomes 1 (its answers carry 1), edit, write the file — the idle server `y0` is structurally sound,
stale in the linter facet — then the notification and one answer -/
example :
    let as : List Act := [.disk 0 (some tA), .recv (.didOpen 0 .markdown tA), .reply 0 0,
      .recv (.didChange 0 tB), .reply 0 1, .disk 0 (some tB)]
    let y0 := runMacro (Sys.init State.init) as
    let c : Client := { clientAfter as with ck := 1 }
    Idle y0 ∧ (∀ v, WeakAt c y0.st v) ∧ (∀ u, DiskIsBuf c y0.st u) ∧
    (∀ u, u ∈ [0] ↔ (y0.st.docs u).isSome = true) ∧
    y0.st.outbox 0 = .diag ⟨tB, .markdown, 1, 0, 1, [], [], none, false⟩ ∧
    (runMacro y0 [.recv (.didChangeConfiguration 1 [0]), .reply 0 1]).st.outbox 0
      = .diag ⟨tB, .markdown, 1, 1, 1, [], [], none, false⟩ := by
  obtain ⟨hW, hD, hO⟩ := stale_state_sound
  refine ⟨stale_state_macro ▸ idleSys_idle _ _, ?_, ?_, ?_, by decide +kernel, by decide +kernel⟩
  · rw [stale_state_macro]; exact hW
  · rw [stale_state_macro]; exact hD
  · rw [stale_state_macro]; exact hO

end Harper.C09
