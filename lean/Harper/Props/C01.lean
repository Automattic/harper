import Harper.Lemmas.Parse
/-!
# C01 — checking any text never crashes or hangs (lexer / plain-parser part)

What is proved here, for every text, every Unicode class table and every in-bounds behaviour of
the url / e-mail / hostname lexers: `lex_token` always finds a token that consumes at least one
and at most the remaining characters (`lex_catch` gives totality, the per-lexer bounds give
progress), hence `PlainEnglish::parse` never reaches its `panic!()`, never builds an invalid
span, and finishes within `length` iterations. The pattern framework is in
`Harper/Props/C01Pattern.lean`; rules and third-party parsers are explored by the harness.
-/
namespace Harper.C01
open Harper

/-- `PlainEnglish::parse` returns normally on every input. -/
theorem parsePlain_total (cls : Cls) (ext : Ext) (src : List Char) (hext : ExtOK ext src.length) :
    ∃ toks, parsePlain cls ext src = .ok toks := by
  obtain ⟨toks, h, _⟩ := parseLoop_tiles cls ext src.length hext (src.length + 1) 0 src
    (by omega) (by omega)
  exact ⟨toks, h⟩

/-- … in at most `length` loop iterations (one token per iteration, at most one token per
character): the fuel `length + 1` is never exhausted. -/
theorem parsePlain_steps (cls : Cls) (ext : Ext) (src : List Char) (hext : ExtOK ext src.length) :
    ∀ toks, parsePlain cls ext src = .ok toks → toks.length ≤ src.length := by
  intro toks h
  obtain ⟨toks', h', _, hc⟩ := parseLoop_tiles cls ext src.length hext (src.length + 1) 0 src
    (by omega) (by omega)
  unfold parsePlain at h
  rw [h'] at h
  cases h
  exact hc

/-- a lexer that returned `next_index = 0` would hang the loop: the model's fuel runs out
(why the per-lexer lower bound `1 ≤ n` matters) -/
example : (match parseLoop ⟨fun _ => false, fun _ => false, fun _ => false⟩
      (fun _ => some (.url, 0)) 3 0 ['a', ':'] with
    | .error .outOfFuel => true | _ => false) = true := by decide +kernel

theorem urlTable_ok (n : Nat) (h : 3 ≤ n) : ExtOK (fun p => if p = 0 then some (.url, 3) else none) n := by
  intro pos k m hm
  by_cases hp : pos = 0
  · simp [hp] at hm; omega
  · simp [hp] at hm

/-- `ExtOK` is satisfiable -/
example : ExtOK (fun p => if p = 0 then some (.url, 3) else none) 3 := urlTable_ok 3 (Nat.le_refl 3)

/-- non-vacuity of `parsePlain_total` / `parsePlain_steps`: the external table that reports a three-character URL at
offset 0 is in bounds for the five-character text `a:b c`; both theorems applied to it … -/
example : ∃ toks, parsePlain ⟨fun _ => false, fun _ => false, fun _ => false⟩
      (fun p => if p = 0 then some (.url, 3) else none) ['a', ':', 'b', ' ', 'c'] = .ok toks ∧ toks.length ≤ 5 := by
  have hext := urlTable_ok ['a', ':', 'b', ' ', 'c'].length (by decide)
  obtain ⟨toks, h⟩ := parsePlain_total ⟨fun _ => false, fun _ => false, fun _ => false⟩ _ ['a', ':', 'b', ' ', 'c'] hext
  exact ⟨toks, h, parsePlain_steps _ _ _ hext toks h⟩

/-- … and what the parser computes there: the URL token from the table, then the model's own lexers (with the empty
class table `c` is caught by `lex_catch`) -/
example : parsePlain ⟨fun _ => false, fun _ => false, fun _ => false⟩
      (fun p => if p = 0 then some (.url, 3) else none) ['a', ':', 'b', ' ', 'c'] =
    .ok [⟨⟨0, 3⟩, .url⟩, ⟨⟨3, 4⟩, .space 1⟩, ⟨⟨4, 5⟩, .unlintable⟩] := by rfl

end Harper.C01
