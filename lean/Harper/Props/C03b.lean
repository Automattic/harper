import Harper.Lemmas.Rules
import Harper.Lemmas.RulesPattern
import Harper.Props.C02
import Harper.Props.C13
import Harper.Props.C12b
/-!
# C03 / C01 — the eleven rules of `Model/Rules.lean`: spans point into the text, and the rule does not panic

`Props/C03.lean` covers spans built by `TokenStringExt::span`; the rules here do their own index arithmetic. For the rules of
`Model/Rules.lean` (compared lint for lint with the real rules on every run) both halves are proved
here: on tokens that tile the text (`Tiles toks 0 src.length` — what `document_tiles`
proves of every plain-English document) the rule returns `.ok` (no `Span::new`, slice, `unwrap` or
`get_span_content` panic: `…_total`) and every reported span satisfies `start ≤ stop ≤ src.length`
(`…_spans_wf`).

* `longSentences_spans_wf_any_order`: LongSentences needs no order at all — tokens inside the text
  whose words cover a character suffice; that is the repaired rule. The rule as it was
  (`Span::new(sentence[0].span.start, last.span.end)`) panics on the Markdown-shaped witness (a
  zero-width `ParagraphBreak` positioned at the start of the last text event).
* `modalOfMatch_spans_wf`: `ModalOf::match_to_lint` on ANY matched slice; the `unreachable!()`
  version panics on the 6-token match `we might ␣⏎of` that the real pattern produces.
* `currencyPlacement_disjoint`: what CurrencyPlacement returns is pairwise disjoint
  (`removeOverlapsBy_disjoint`, as C13's `removeOverlaps_disjoint_any`) — the seeded change that dropped its `remove_overlaps` call falsifies it.
-/
namespace Harper.C03
open Harper Harper.Chunks Harper.Rules
open Harper.C12 (docRule document_tokOK env0 noExt)
open Harper.C02 (asciiCls)

/-- tiling tokens are in text order, non-empty and inside the text -/
theorem ord_of_tiles (toks : List Tok) (n : Nat) (h : Tiles toks 0 n) : Ord n toks := by
  obtain ⟨_, hb, hp⟩ := C02.tiles_inbounds_sorted toks 0 n h
  exact ⟨hp, fun t ht => ⟨(hb t ht).2.1, (hb t ht).2.2⟩⟩

/-- the claim about one run of a rule: it returns, and every lint points into the text -/
def RunsWF (r : PieceRule) (src : List Char) (toks : List Tok) : Prop :=
  ∃ ls, r src toks = .ok ls ∧ ∀ l ∈ ls, l.span.start ≤ l.span.stop ∧ l.span.stop ≤ src.length

/-! ## LongSentences -/

/-- **LongSentences, any token order**: tokens well formed and inside the text, word tokens covering
at least one character. Zero-width structural tokens may sit anywhere (the Markdown front-end puts
them at earlier offsets). -/
theorem longSentences_spans_wf_any_order (env : Env) (src : List Char) (toks : List Tok)
    (hin : ∀ t ∈ toks, t.span.start ≤ t.span.stop ∧ t.span.stop ≤ src.length)
    (hw : ∀ t ∈ toks, t.kind.isWord = true → t.span.start < t.span.stop) :
    RunsWF (ruleLongSentences env) src toks :=
  (ruleLongSentences_out env src toks src.length).lintsOK ⟨hin, hw⟩

theorem longSentences_spans_wf (env : Env) (src : List Char) (toks : List Tok) (h : Tiles toks 0 src.length) :
    RunsWF (ruleLongSentences env) src toks := by
  have ho := ord_of_tiles toks _ h
  exact longSentences_spans_wf_any_order env src toks (fun t ht => ⟨by have := ho.2 t ht; omega, (ho.2 t ht).2⟩)
    (fun t ht _ => (ho.2 t ht).1)

theorem longSentences_total (env : Env) (src : List Char) (toks : List Tok) (h : Tiles toks 0 src.length) :
    ∃ ls, ruleLongSentences env src toks = .ok ls :=
  (longSentences_spans_wf env src toks h).imp fun _ h => h.1

/-- the rule before its repair: `Span::new(sentence[0].span.start, sentence.last().span.end)` -/
def longSentencesPieceOld : PieceRule := fun _ sent =>
  let wc := wordCount sent
  if wc > longThreshold then
    match sent.head?, sent.getLast? with
    | some a, some b =>
      match Span.new a.span.start b.span.stop with
      | .error p => .error p
      | .ok sp => .ok [⟨sp, [], 1, wc⟩]
    | _, _ => .error .unwrapNone
  else .ok []

/-- Markdown-shaped witness: 41 one-letter words at `20..102` and the zero-width `ParagraphBreak`
that `End(Paragraph)` positions at the START of the last text event (here `0`): a sentence of the
second paragraph of `First. <41 words>` -/
def mdSentence : List Tok :=
  (List.range 41).map (fun i => (⟨⟨20 + 2 * i, 21 + 2 * i⟩, .word⟩ : Tok)) ++ [⟨⟨7, 7⟩, .paragraphBreak⟩]

/-- the old span arithmetic panics on it (`Span::new(20, 7)`) … -/
example : longSentencesPieceOld [] mdSentence = .error .spanNew := by decide +kernel

/-- … the repaired rule reports the span of the tokens that cover characters -/
example : longSentencesPiece [] mdSentence = .ok [⟨⟨20, 101⟩, [], 1, 41⟩] := by decide +kernel

/-- the hypotheses of `longSentences_spans_wf_any_order` hold of the witness, which does NOT tile -/
example : (∀ t ∈ mdSentence, t.span.start ≤ t.span.stop ∧ t.span.stop ≤ 101) ∧
    (∀ t ∈ mdSentence, t.kind.isWord = true → t.span.start < t.span.stop) ∧ ¬ Tiles mdSentence 0 101 := by decide +kernel

/-! ## Spaces, RepeatedWords, the per-token rules -/

theorem spaces_spans_wf (env : Env) (src : List Char) (toks : List Tok) (h : Tiles toks 0 src.length) :
    RunsWF (ruleSpaces env) src toks :=
  (ruleSpaces_out env src toks src.length).lintsOK (ord_of_tiles toks _ h).2

theorem spaces_total (env : Env) (src : List Char) (toks : List Tok) (h : Tiles toks 0 src.length) :
    ∃ ls, ruleSpaces env src toks = .ok ls := (spaces_spans_wf env src toks h).imp fun _ h => h.1

theorem repeatedWords_spans_wf (env : Env) (src : List Char) (toks : List Tok) (h : Tiles toks 0 src.length) :
    RunsWF (ruleRepeatedWords env) src toks :=
  (ruleRepeatedWords_out env src toks).lintsOK (ord_of_tiles toks _ h)

theorem repeatedWords_total (env : Env) (src : List Char) (toks : List Tok) (h : Tiles toks 0 src.length) :
    ∃ ls, ruleRepeatedWords env src toks = .ok ls := (repeatedWords_spans_wf env src toks h).imp fun _ h => h.1

theorem ellipsisLength_spans_wf (env : Env) (src : List Char) (toks : List Tok) (h : Tiles toks 0 src.length) :
    RunsWF (ruleEllipsisLength env) src toks :=
  (ruleEllipsisLength_out env src toks).lintsOK (ord_of_tiles toks _ h).2

theorem ellipsisLength_total (env : Env) (src : List Char) (toks : List Tok) (h : Tiles toks 0 src.length) :
    ∃ ls, ruleEllipsisLength env src toks = .ok ls := (ellipsisLength_spans_wf env src toks h).imp fun _ h => h.1

theorem unclosedQuotes_spans_wf (env : Env) (src : List Char) (toks : List Tok) (h : Tiles toks 0 src.length) :
    RunsWF (ruleUnclosedQuotes env) src toks :=
  ((ruleUnclosedQuotes_out env src toks).ok_of_span fun (ho : Ord src.length toks) _ ht => ho.le ht).lintsOK (ord_of_tiles toks _ h)

theorem unclosedQuotes_total (env : Env) (src : List Char) (toks : List Tok) (h : Tiles toks 0 src.length) :
    ∃ ls, ruleUnclosedQuotes env src toks = .ok ls := (unclosedQuotes_spans_wf env src toks h).imp fun _ h => h.1

/-- CorrectNumberSuffix cannot panic at all (`pulled_by` is checked); its span is the last two
characters of a token inside the text -/
theorem correctNumberSuffix_spans_wf (env : Env) (src : List Char) (toks : List Tok) (h : Tiles toks 0 src.length) :
    RunsWF (ruleCorrectNumberSuffix env) src toks :=
  (ruleCorrectNumberSuffix_out env src toks).lintsOK' trivial fun _ ⟨h1, _, ht, h2⟩ =>
    ⟨h1, h2 ▸ ((ord_of_tiles toks _ h).2 _ ht).2⟩

theorem correctNumberSuffix_total (env : Env) (src : List Char) (toks : List Tok) :
    ∃ ls, ruleCorrectNumberSuffix env src toks = .ok ls :=
  ((ruleCorrectNumberSuffix_out env src toks).ok trivial).imp fun _ h => h.1

/-- NumberSuffixCapitalization `unwrap`s `pulled_by(2)`: a suffixed `Number` token must reach two
characters back — `tokOK`, which every token of a document satisfies (`document_tokOK`, from
`number_suffix_shape`) -/
theorem numberSuffixCapitalization_spans_wf (env : Env) (src : List Char) (toks : List Tok)
    (h : Tiles toks 0 src.length) (hs : ∀ t ∈ toks, tokOK t = true) :
    RunsWF (ruleNumberSuffixCapitalization env) src toks :=
  (ruleNumberSuffixCapitalization_out env src toks).lintsOK fun t ht => ⟨hs t ht, ((ord_of_tiles toks _ h).2 t ht).2⟩

theorem numberSuffixCapitalization_total (env : Env) (src : List Char) (toks : List Tok)
    (h : Tiles toks 0 src.length) (hs : ∀ t ∈ toks, tokOK t = true) :
    ∃ ls, ruleNumberSuffixCapitalization env src toks = .ok ls :=
  (numberSuffixCapitalization_spans_wf env src toks h hs).imp fun _ h => h.1

/-- the side condition is needed: a suffixed number token ending at offset 1 → `unwrap` on `None` -/
example : ruleNumberSuffixCapitalization env0 ['1'] [⟨⟨0, 1⟩, .number 10 (some .st)⟩] = .error .unwrapNone := by decide +kernel

theorem anA_spans_wf (env : Env) (src : List Char) (toks : List Tok) (h : Tiles toks 0 src.length) :
    RunsWF (ruleAnA env) src toks :=
  (ruleAnA_out env src toks).lintsOK (ord_of_tiles toks _ h).2

theorem anA_total (env : Env) (src : List Char) (toks : List Tok) (h : Tiles toks 0 src.length) :
    ∃ ls, ruleAnA env src toks = .ok ls := (anA_spans_wf env src toks h).imp fun _ h => h.1

theorem sentenceCapitalization_spans_wf (env : Env) (src : List Char) (toks : List Tok) (h : Tiles toks 0 src.length) :
    RunsWF (ruleSentenceCapitalization env) src toks :=
  (ruleSentenceCapitalization_out env src toks).lintsOK (ord_of_tiles toks _ h).2

theorem sentenceCapitalization_total (env : Env) (src : List Char) (toks : List Tok) (h : Tiles toks 0 src.length) :
    ∃ ls, ruleSentenceCapitalization env src toks = .ok ls :=
  (sentenceCapitalization_spans_wf env src toks h).imp fun _ h => h.1

/-! ## CurrencyPlacement -/

theorem currencyPlacement_spans_wf (env : Env) (src : List Char) (toks : List Tok) (h : Tiles toks 0 src.length) :
    RunsWF (ruleCurrencyPlacement env) src toks :=
  (ruleCurrencyPlacement_out env src toks).lintsOK (ord_of_tiles toks _ h)

theorem currencyPlacement_total (env : Env) (src : List Char) (toks : List Tok) (h : Tiles toks 0 src.length) :
    ∃ ls, ruleCurrencyPlacement env src toks = .ok ls := (currencyPlacement_spans_wf env src toks h).imp fun _ h => h.1

/-- **what CurrencyPlacement returns is pairwise disjoint** (in output order each lint ends before
the next starts), for any tokens and whatever the candidates are: `remove_overlaps` on rule lints is overlap removal
on the lints themselves (`removeOverlapsRL_eq`), which leaves disjoint spans (`removeOverlapsBy_disjoint`) -/
theorem currencyPlacement_disjoint (env : Env) (src : List Char) (toks : List Tok) (ls : List RuleLint)
    (h : ruleCurrencyPlacement env src toks = .ok ls) :
    ls.Pairwise (fun a b => a.span.stop ≤ b.span.start) := by
  simp only [ruleCurrencyPlacement] at h
  cases hc : currencyCandidates env src toks with
  | error e => rw [hc] at h; cases h
  | ok cands =>
    rw [hc] at h
    simp only [Except.map, Except.ok.injEq] at h
    subst h
    rw [removeOverlapsRL_eq]; exact removeOverlapsBy_disjoint cands

/-- the seeded change `C13r2-currency-no-overlap-removal`: without `remove_overlaps` the candidates
of `5 $ 3` overlap (`5 $` and `$ 3` both claim the symbol) -/
example : currencyCandidates env0 ['a', ' ', '5', ' ', '$', ' ', '3']
      [⟨⟨0, 1⟩, .word⟩, ⟨⟨1, 2⟩, .space 1⟩, ⟨⟨2, 3⟩, .number 10 none⟩, ⟨⟨3, 4⟩, .space 1⟩, ⟨⟨4, 5⟩, .punct .Currency⟩,
        ⟨⟨5, 6⟩, .space 1⟩, ⟨⟨6, 7⟩, .number 10 none⟩] =
    .ok [⟨⟨2, 5⟩, [.replaceWith ['$', '5']], 2, 0⟩, ⟨⟨4, 7⟩, [.replaceWith ['$', '3']], 2, 0⟩] := by decide +kernel

/-- the index look-up `ls[l.id]?` in the model of CurrencyPlacement's `remove_overlaps` never misses:
`removeOverlapsRL` returns exactly one lint per survivor of `removeOverlaps`, with that survivor's span
(so `currencyPlacement_spans_wf` / `_disjoint` are not true because the `filterMap` lost lints) -/
theorem removeOverlapsRL_faithful (ls : List RuleLint) :
    (removeOverlapsRL ls).map (fun l => (l.span.start, l.span.stop))
      = (removeOverlaps (tagLints 0 ls)).map (fun x => (x.s, x.e)) := by
  have hu : SpanMap Lint.s Lint.e (fun c : RuleLint => c.span.start) (·.span.stop) 0 (fun l => ls[l.id]?)
      (removeOverlaps (tagLints 0 ls)) := fun l hl =>
    let ⟨_, _, c, hc, h1, h2⟩ := tagLints_mem 0 ls l (C13.removeOverlaps_subset _ l hl)
    ⟨c, hc, h1, h2⟩
  exact hu.spans

/-! ## ModalOf::match_to_lint -/

/-- **`match_to_lint` on any matched slice** of tokens in text order (3, 5, 7 — and 4, 6, 8 … when
the whitespace between the words is made of several tokens): no panic, span inside the text -/
theorem modalOfMatch_spans_wf (env : Env) (src : List Char) (m : List Tok) (h : Ord src.length m) :
    RunsWF (modalOfMatch env) src m := (modalOfMatch_out env src m).lintsOK h.2

theorem modalOfMatch_total (env : Env) (src : List Char) (m : List Tok) (h : Ord src.length m) :
    ∃ ls, modalOfMatch env src m = .ok ls := (modalOfMatch_spans_wf env src m h).imp fun _ h => h.1

/-- **the whole ModalOf rule**: the pattern (every combinator returns at most as many tokens as it
was given: `modalOfPat_ok`), `run_on_chunk`'s slices, and `match_to_lint` on whatever matched -/
theorem modalOf_spans_wf (env : Env) (src : List Char) (toks : List Tok) (h : Tiles toks 0 src.length) :
    RunsWF (ruleModalOf env) src toks :=
  (ruleModalOf_out env src toks).lintsOK (ord_of_tiles toks _ h)

theorem modalOf_total (env : Env) (src : List Char) (toks : List Tok) (h : Tiles toks 0 src.length) :
    ∃ ls, ruleModalOf env src toks = .ok ls := (modalOf_spans_wf env src toks h).imp fun _ h => h.1

/-- `match matched_toks.len()` as it was: `_ => unreachable!()` -/
def modalIndexUnreachable (env : Env) (src : List Char) (m : List Tok) : Except Panic (Option Nat) :=
  if m.length = 3 ∨ m.length = 5 then modalIndex env src m
  else if m.length = 7 then .ok none
  else .error .assertFail

/-- the text `we might ␣⏎of`, its real tokens, and the six of them the real pattern matches -/
def mightSrc : List Char := ['w', 'e', ' ', 'm', 'i', 'g', 'h', 't', ' ', '\n', 'o', 'f']
def mightToks : List Tok :=
  [⟨⟨0, 2⟩, .word⟩, ⟨⟨2, 3⟩, .space 1⟩, ⟨⟨3, 8⟩, .word⟩, ⟨⟨8, 9⟩, .space 1⟩, ⟨⟨9, 10⟩, .newline 1⟩, ⟨⟨10, 12⟩, .word⟩]

example : (document asciiCls noExt mightSrc).toOption = some mightToks := by decide +kernel

/-- the pattern of `ModalOf` matches all SIX tokens (`<word> ␣ might ␣⏎ of`: whitespace of two tokens) -/
example : modalOfPat mightSrc mightToks = .ok 6 := by decide +kernel

/-- the `unreachable!()` version panics on that match; the repaired `match_to_lint` returns no lint -/
example : modalIndexUnreachable env0 mightSrc mightToks = .error .assertFail ∧
    modalOfMatch env0 mightSrc mightToks = .ok [] := by decide +kernel

/-! ## on the tokens of real sentences (non-vacuity; kernel-evaluated) -/

/-- the hypothesis `Tiles … 0 src.length` is what `document_tiles` gives; `tokOK` what `document_tokOK` gives -/
theorem on_documents (cls : Cls) (ext : Ext) (src : List Char) (hext : ExtOK ext src.length) :
    ∃ toks, document cls ext src = .ok toks ∧ Tiles toks 0 src.length ∧ ∀ t ∈ toks, tokOK t = true := by
  obtain ⟨toks, e, hT⟩ := C02.document_tiles cls ext src hext
  exact ⟨toks, e, hT, document_tokOK cls ext src hext toks e⟩

/-- `There is a space  at the end .` — Spaces reports the double blank and the blank before the period -/
example : docRule asciiCls noExt (ruleSpaces env0) ['a', ' ', ' ', 'b', ' ', '.'] =
    .ok [⟨⟨1, 3⟩, [.replaceWith [' ']], 3, 2⟩, ⟨⟨4, 5⟩, [.remove], 4, 0⟩] := by decide +kernel

/-- `could of` → `could have`; `Could Of` keeps its capitals -/
example : docRule asciiCls noExt (ruleModalOf env0) ['c', 'o', 'u', 'l', 'd', ' ', 'o', 'f'] =
    .ok [⟨⟨0, 8⟩, [.replaceWith ['c', 'o', 'u', 'l', 'd', ' ', 'h', 'a', 'v', 'e']], 10, 0⟩] := by decide +kernel

/-- `2ND....` — NumberSuffixCapitalization at 1..3, EllipsisLength at 3..7 -/
example : docRule asciiCls noExt (ruleNumberSuffixCapitalization env0) ['2', 'N', 'D', '.', '.', '.', '.'] =
      .ok [⟨⟨1, 3⟩, [.replaceWith ['n', 'd']], 7, 0⟩] ∧
    docRule asciiCls noExt (ruleEllipsisLength env0) ['2', 'N', 'D', '.', '.', '.', '.'] =
      .ok [⟨⟨3, 7⟩, [.replaceWith ['.', '.', '.']], 6, 0⟩] := by decide +kernel

/-- `an cat` / `A hour`: AnA keeps the capital (`replace_with_match_case`) -/
example : docRule asciiCls noExt (ruleAnA env0) ['a', 'n', ' ', 'c', 'a', 't', ' ', 'A', ' ', 'h', 'o', 'u', 'r'] =
    .ok [⟨⟨0, 2⟩, [.replaceWith ['a']], 11, 0⟩, ⟨⟨7, 8⟩, [.replaceWith ['A', 'n']], 11, 0⟩] := by decide +kernel

/-- `she ran far far far far.` with `she` a nominal and `ran` a verb (metadata handed over as data):
SentenceCapitalization flags the first character; the five-word version is a "short label" and is not -/
def envSheRan : Env :=
  { env0 with wordFlags := fun w => if w == ['s', 'h', 'e'] then 64 else if w == ['r', 'a', 'n'] then 128 else 0 }

example : docRule asciiCls noExt (ruleSentenceCapitalization envSheRan)
      ['s', 'h', 'e', ' ', 'r', 'a', 'n', ' ', 'f', 'a', 'r', ' ', 'f', 'a', 'r', ' ', 'f', 'a', 'r', ' ', 'f', 'a', 'r', '.'] =
      .ok [⟨⟨0, 1⟩, [.replaceWith ['S']], 12, 0⟩] ∧
    docRule asciiCls noExt (ruleSentenceCapitalization envSheRan)
      ['s', 'h', 'e', ' ', 'r', 'a', 'n', ' ', 'f', 'a', 'r', ' ', 'f', 'a', 'r', ' ', 'f', 'a', 'r', '.'] = .ok [] := by decide +kernel

/-- `2st` with the value handed over as data -/
example : docRule asciiCls noExt (ruleCorrectNumberSuffix { env0 with numVal := fun _ => .int 2 }) ['2', 's', 't'] =
    .ok [⟨⟨1, 3⟩, [.replaceWith ['n', 'd']], 9, 0⟩] := by decide +kernel

/-! ## firing witnesses on documents (RepeatedWords, UnclosedQuotes, CurrencyPlacement, LongSentences); all eleven rules on
documents -/

/-- `the the cat`: RepeatedWords fires on a real document (span of both words, keep one) -/
example : docRule asciiCls noExt (ruleRepeatedWords env0) ['t', 'h', 'e', ' ', 't', 'h', 'e', ' ', 'c', 'a', 't'] =
    .ok [⟨⟨0, 7⟩, [.replaceWith ['t', 'h', 'e']], 5, 0⟩] := by decide +kernel

/-- `a "b`: UnclosedQuotes fires on the quote without a twin -/
example : docRule asciiCls noExt (ruleUnclosedQuotes env0) ['a', ' ', '"', 'b'] = .ok [⟨⟨2, 3⟩, [], 8, 0⟩] := by decide +kernel

/-- `a 5 $ 3`: CurrencyPlacement (the whole rule, `remove_overlaps` included) keeps `5 $` and drops
the overlapping `$ 3` of the candidates above -/
example : docRule asciiCls noExt (ruleCurrencyPlacement env0) ['a', ' ', '5', ' ', '$', ' ', '3'] =
    .ok [⟨⟨2, 5⟩, [.replaceWith ['$', '5']], 2, 0⟩] := by decide +kernel

-- forty times `a ` then `ok. ok.` (87 characters, through the lexer): LongSentences FIRES on a document
-- whose tokens tile the text (41 words), on the first sentence only, terminator included
set_option maxRecDepth 20000 in
example : docRule asciiCls noExt (ruleLongSentences env0)
      ((List.replicate 40 ['a', ' ']).flatten ++ ['o', 'k', '.', ' ', 'o', 'k', '.']) =
    .ok [⟨⟨0, 83⟩, [], 1, 41⟩] := by decide +kernel

/-- **All eleven, on documents**: whichever rule the driver's table `ruleByName` dispatches to, run on
the tokens of ANY plain-English document (any class table, any in-bounds url / e-mail / hostname lexer,
any `Env`), returns — no panic — and every lint it reports satisfies `start ≤ end ≤ text length`: the
first clause of C03 for these rules, with the hypotheses `Tiles` / `tokOK` of the per-rule theorems
discharged by `on_documents`. -/
theorem eleven_rules_on_documents (cls : Cls) (ext : Ext) (src : List Char) (hext : ExtOK ext src.length)
    (env : Env) (name : String) (r : Env → PieceRule) (hr : ruleByName name = some r) :
    ∃ ls, docRule cls ext (r env) src = .ok ls ∧
      ∀ l ∈ ls, l.span.start ≤ l.span.stop ∧ l.span.stop ≤ src.length := by
  obtain ⟨toks, e, hT, hok⟩ := on_documents cls ext src hext
  simp only [docRule, e]
  unfold ruleByName at hr
  split at hr <;> cases hr
  · exact longSentences_spans_wf env src toks hT
  · exact currencyPlacement_spans_wf env src toks hT
  · exact spaces_spans_wf env src toks hT
  · exact repeatedWords_spans_wf env src toks hT
  · exact ellipsisLength_spans_wf env src toks hT
  · exact numberSuffixCapitalization_spans_wf env src toks hT hok
  · exact correctNumberSuffix_spans_wf env src toks hT
  · exact unclosedQuotes_spans_wf env src toks hT
  · exact modalOf_spans_wf env src toks hT
  · exact anA_spans_wf env src toks hT
  · exact sentenceCapitalization_spans_wf env src toks hT

/-- non-vacuity of `eleven_rules_on_documents`: a table entry, and the `ExtOK` hypothesis at `the the cat`
(the rule FIRES there: example above) -/
example : ruleByName "RepeatedWords" = some ruleRepeatedWords := rfl
example : ExtOK noExt ['t', 'h', 'e', ' ', 't', 'h', 'e', ' ', 'c', 'a', 't'].length := by intro _ _ _ h; cases h
/-- … applied: the conclusion at that instance -/
example : ∃ ls, docRule asciiCls noExt (ruleRepeatedWords env0) ['t', 'h', 'e', ' ', 't', 'h', 'e', ' ', 'c', 'a', 't'] = .ok ls ∧
    ∀ l ∈ ls, l.span.start ≤ l.span.stop ∧ l.span.stop ≤ 11 :=
  eleven_rules_on_documents asciiCls noExt _ (by intro _ _ _ h; cases h) env0 "RepeatedWords" _ rfl

/-- non-vacuity of `currencyPlacement_disjoint` with TWO surviving lints (`a 5 $ 3 b 7 $`: three
candidates, `$ 3` dropped), and its conclusion at that instance -/
example : docRule asciiCls noExt (ruleCurrencyPlacement env0) ['a', ' ', '5', ' ', '$', ' ', '3', ' ', 'b', ' ', '7', ' ', '$'] =
    .ok [⟨⟨2, 5⟩, [.replaceWith ['$', '5']], 2, 0⟩, ⟨⟨10, 13⟩, [.replaceWith ['$', '7']], 2, 0⟩] := by decide +kernel
example : [(⟨⟨2, 5⟩, [.replaceWith ['$', '5']], 2, 0⟩ : RuleLint), ⟨⟨10, 13⟩, [.replaceWith ['$', '7']], 2, 0⟩].Pairwise
    (fun a b => a.span.stop ≤ b.span.start) := by decide +kernel

/-- non-vacuity of `modalOfMatch_spans_wf` / `_total`: the three tokens of `could of` satisfy `Ord`, and
`match_to_lint` FIRES on them -/
example : Ord ['c', 'o', 'u', 'l', 'd', ' ', 'o', 'f'].length [⟨⟨0, 5⟩, .word⟩, ⟨⟨5, 6⟩, .space 1⟩, ⟨⟨6, 8⟩, .word⟩] ∧
    modalOfMatch env0 ['c', 'o', 'u', 'l', 'd', ' ', 'o', 'f'] [⟨⟨0, 5⟩, .word⟩, ⟨⟨5, 6⟩, .space 1⟩, ⟨⟨6, 8⟩, .word⟩] =
      .ok [⟨⟨0, 8⟩, [.replaceWith ['c', 'o', 'u', 'l', 'd', ' ', 'h', 'a', 'v', 'e']], 10, 0⟩] := by
  refine ⟨⟨by decide +kernel, by decide +kernel⟩, by decide +kernel⟩

end Harper.C03
