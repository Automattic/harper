import Harper.Lemmas.Rules2
import Harper.Lemmas.Rules2Walk
import Harper.Lemmas.Rules2Pat
import Harper.Props.C03
import Harper.Props.C03b
import Harper.Props.C03c
/-!
# C03 (hand-written rules, batch 2) — spans point into the text; suggestions are local edits

For the thirteen rules of `Model/Rules2.lean` (compared lint for lint with the real struct rule, run alone, on
every run of the check):

* `<rule>_spans_wf`: on the tokens of a document (`Tiles toks 0 src.length` — what `document_tiles` proves of
  every plain-English document) the rule returns — no `Span::new`, `get_span_content`, slice, `unwrap` or
  subtraction panic — and every lint has `start ≤ stop ≤ src.length` (`RunsWF`). The rules built around a
  pattern tree, CapitalizePersonalPronouns, WordPressDotcom and LinkingVerbs need no token order (`…_spans_wf_any_order`: well-formed tokens inside the text, zero-width ones
  included — what the Markdown front-end delivers); the four rules that do index arithmetic over the whole
  document (CommaFixes, MergeWords, AdjectiveOfA, InflectedVerbAfterTo: `Span::new(first.start, last.end)`) need the text order, with
  a kernel-checked witness that they panic without it.
* OxfordComma's `matched_toks[conj_index - 2]` is safe under `ConjOK`: every word that `WordSet[and, or, nor]`
  accepts is a conjunction for the dictionary (monitored on every real document; the word list is ASCII and
  the dictionary lower-cases). Without it the subtraction underflows: kernel-checked witness.
* `suggestions_local`: **every suggestion of every lint of a run that `RunsWF` is a local edit**: the modelled
  `Suggestion::apply` returns `src[..start] ++ new ++ src[end..]` (from `apply_spec` of `Props/C03.lean`);
  instantiated for the eleven rules that offer suggestions (`<rule>_suggestions_local`).
* `…_r2`: WidelyAccepted and TheHowWhy are also modelled as `Spec`s (`Props/C03d.lean`, same theorem names); the `_r2`
  theorems are about the rules as coded in `Model/Rules2.lean`.
-/
namespace Harper.C03
open Harper Harper.Chunks Harper.Rules Harper.Leaves Harper.Rules2
open Harper.C12 (docRule env0 noExt)
open Harper.C02 (asciiCls)

/-! ## suggestions are local edits -/

/-- a rule's suggestion as the `Suggestion` of `Model/Suggestion.lean` -/
def toSuggestion : Sugg → Suggestion Char
  | .replaceWith cs => .replaceWith cs
  | .remove => .remove
  | .insertAfter cs => .insertAfter cs

/-- every suggestion of every lint applies, and changes the text only inside the lint's span -/
def SuggestionsLocal (r : PieceRule) (src : List Char) (toks : List Tok) : Prop :=
  ∀ ls, r src toks = .ok ls → ∀ l ∈ ls, ∀ sg ∈ l.suggs,
    (toSuggestion sg).apply l.span src =
      .ok (src.take l.span.start ++ (toSuggestion sg).newText ((src.drop l.span.start).take (l.span.stop - l.span.start)) ++
        src.drop l.span.stop)

/-- **a run whose lints point into the text offers only local edits** -/
theorem suggestions_local (r : PieceRule) (src : List Char) (toks : List Tok) (h : RunsWF r src toks) :
    SuggestionsLocal r src toks := by
  obtain ⟨ls, e, hl⟩ := h
  intro ls' e' l hlm sg _
  rw [e] at e'
  cases e'
  exact apply_spec (toSuggestion sg) src l.span (hl l hlm).1 (hl l hlm).2

/-- non-vacuity of `suggestions_local` (and of `SuggestionsLocal`, which alone says nothing of a run that panics: every
`<rule>_suggestions_local` below carries the hypotheses of `<rule>_spans_wf`, which gives `.ok`): a run that returns the
lint `0..1` / `I` on the tiling tokens of `i ate`; the theorem gives the splice `I ate` -/
example : (toSuggestion (.replaceWith ['I'])).apply ⟨0, 1⟩ ['i', ' ', 'a', 't', 'e'] = .ok ['I', ' ', 'a', 't', 'e'] :=
  suggestions_local (ruleCapitalizePersonalPronouns env0) ['i', ' ', 'a', 't', 'e'] [⟨⟨0, 1⟩, .word⟩, ⟨⟨1, 2⟩, .space 1⟩, ⟨⟨2, 5⟩, .word⟩]
    ⟨[⟨⟨0, 1⟩, [.replaceWith ['I']], 22, 0⟩], by decide +kernel, by decide +kernel⟩ [⟨⟨0, 1⟩, [.replaceWith ['I']], 22, 0⟩] (by decide +kernel)
    ⟨⟨0, 1⟩, [.replaceWith ['I']], 22, 0⟩ (List.mem_singleton.mpr rfl) (.replaceWith ['I']) (List.mem_singleton.mpr rfl)

/-! ## CapitalizePersonalPronouns, WordPressDotcom and LinkingVerbs need no token order -/

/-- **CapitalizePersonalPronouns on well-formed tokens inside the text, in any order, zero-width ones included** (the
Markdown shape): the rule reads one token at a time -/
theorem capitalizePersonalPronouns_spans_wf_any_order (env : Env) (src : List Char) (toks : List Tok) (h : InText src toks) :
    RunsWF (ruleCapitalizePersonalPronouns env) src toks :=
  (ruleCapitalizePersonalPronouns_out env src toks).lintsOK h
/-- non-vacuity of `capitalizePersonalPronouns_spans_wf_any_order`: tokens of the Markdown parser's shape (a zero-width `ParagraphBreak` at offset 0 AFTER the words of `i ate 9.`) are `InText`, not in text order, and the rule fires -/
example : InText ['i', ' ', 'a', 't', 'e', ' ', '9', '.']
      [⟨⟨0, 1⟩, .word⟩, ⟨⟨1, 2⟩, .space 1⟩, ⟨⟨2, 5⟩, .word⟩, ⟨⟨5, 6⟩, .space 1⟩, ⟨⟨6, 7⟩, .number 10 none⟩, ⟨⟨7, 8⟩, .punct .Period⟩, ⟨⟨0, 0⟩, .paragraphBreak⟩] ∧
    ruleCapitalizePersonalPronouns (env0) ['i', ' ', 'a', 't', 'e', ' ', '9', '.']
      [⟨⟨0, 1⟩, .word⟩, ⟨⟨1, 2⟩, .space 1⟩, ⟨⟨2, 5⟩, .word⟩, ⟨⟨5, 6⟩, .space 1⟩, ⟨⟨6, 7⟩, .number 10 none⟩, ⟨⟨7, 8⟩, .punct .Period⟩, ⟨⟨0, 0⟩, .paragraphBreak⟩] =
    .ok [⟨⟨0, 1⟩, [.replaceWith ['I']], 22, 0⟩] := ⟨by unfold InText TokIn; decide +kernel, by decide +kernel⟩

/-- the same for WordPressDotcom -/
theorem wordPressDotcom_spans_wf_any_order (env : Env) (src : List Char) (toks : List Tok) (h : InText src toks) :
    RunsWF (ruleWordPressDotcom env) src toks :=
  (ruleWordPressDotcom_out env src toks).lintsOK h
/-- non-vacuity of `wordPressDotcom_spans_wf_any_order`: tokens of the Markdown parser's shape (a zero-width `ParagraphBreak` at offset 0 AFTER the words of `wordpress.com`) are `InText`, not in text order, and the rule fires -/
example : InText ['w', 'o', 'r', 'd', 'p', 'r', 'e', 's', 's', '.', 'c', 'o', 'm']
      [⟨⟨0, 13⟩, .hostname⟩, ⟨⟨0, 0⟩, .paragraphBreak⟩] ∧
    ruleWordPressDotcom (env0) ['w', 'o', 'r', 'd', 'p', 'r', 'e', 's', 's', '.', 'c', 'o', 'm']
      [⟨⟨0, 13⟩, .hostname⟩, ⟨⟨0, 0⟩, .paragraphBreak⟩] =
    .ok [⟨⟨0, 13⟩, [.replaceWith ['W', 'o', 'r', 'd', 'P', 'r', 'e', 's', 's', '.', 'c', 'o', 'm']], 24, 0⟩] := ⟨by unfold InText TokIn; decide +kernel, by decide +kernel⟩

/-- **LinkingVerbs in any order**: its loop over the chunk only remembers the last word token -/
theorem linkingVerbs_spans_wf_any_order (env : Env) (src : List Char) (toks : List Tok) (h : InText src toks) :
    RunsWF (ruleLinkingVerbs env) src toks :=
  (ruleLinkingVerbs_out env src toks).lintsOK h
/-- non-vacuity of `linkingVerbs_spans_wf_any_order`: tokens of the Markdown parser's shape (a zero-width `ParagraphBreak` at offset 0 AFTER the words of `quick is`) are `InText`, not in text order, and the rule fires -/
example : InText ['q', 'u', 'i', 'c', 'k', ' ', 'i', 's']
      [⟨⟨0, 5⟩, .word⟩, ⟨⟨5, 6⟩, .space 1⟩, ⟨⟨6, 8⟩, .word⟩, ⟨⟨0, 0⟩, .paragraphBreak⟩] ∧
    ruleLinkingVerbs ({ env0 with wordFlags := fun w => if w == ['q', 'u', 'i', 'c', 'k'] then 32768 else if w == ['i', 's'] then 2048 else 0 }) ['q', 'u', 'i', 'c', 'k', ' ', 'i', 's']
      [⟨⟨0, 5⟩, .word⟩, ⟨⟨5, 6⟩, .space 1⟩, ⟨⟨6, 8⟩, .word⟩, ⟨⟨0, 0⟩, .paragraphBreak⟩] =
    .ok [⟨⟨6, 8⟩, [], 25, 0⟩] := ⟨by unfold InText TokIn; decide +kernel, by decide +kernel⟩
/-! ## the per-token rules -/

theorem spelledNumbers_spans_wf (env : Env) (src : List Char) (toks : List Tok) (h : Tiles toks 0 src.length) :
    RunsWF (ruleSpelledNumbers env) src toks :=
  ((ruleSpelledNumbers_out env src toks).ok_of_span id).lintsOK (inText_of_tiles src toks h)
/-- non-vacuity of `spelledNumbers_spans_wf`: the tokens of `i ate 9.` tile the text and the rule fires -/
example : Tiles [⟨⟨0, 1⟩, .word⟩, ⟨⟨1, 2⟩, .space 1⟩, ⟨⟨2, 5⟩, .word⟩, ⟨⟨5, 6⟩, .space 1⟩, ⟨⟨6, 7⟩, .number 10 none⟩, ⟨⟨7, 8⟩, .punct .Period⟩] 0 (['i', ' ', 'a', 't', 'e', ' ', '9', '.']).length ∧
    ruleSpelledNumbers ({ env0 with numVal := fun _ => .int 9 }) ['i', ' ', 'a', 't', 'e', ' ', '9', '.']
      [⟨⟨0, 1⟩, .word⟩, ⟨⟨1, 2⟩, .space 1⟩, ⟨⟨2, 5⟩, .word⟩, ⟨⟨5, 6⟩, .space 1⟩, ⟨⟨6, 7⟩, .number 10 none⟩, ⟨⟨7, 8⟩, .punct .Period⟩] =
    .ok [⟨⟨6, 7⟩, [.replaceWith ['n', 'i', 'n', 'e']], 21, 0⟩] := by decide +kernel

theorem capitalizePersonalPronouns_spans_wf (env : Env) (src : List Char) (toks : List Tok) (h : Tiles toks 0 src.length) :
    RunsWF (ruleCapitalizePersonalPronouns env) src toks :=
  capitalizePersonalPronouns_spans_wf_any_order env src toks (inText_of_tiles src toks h)
/-- non-vacuity of `capitalizePersonalPronouns_spans_wf`: the tokens of `i ate 9.` tile the text and the rule fires -/
example : Tiles [⟨⟨0, 1⟩, .word⟩, ⟨⟨1, 2⟩, .space 1⟩, ⟨⟨2, 5⟩, .word⟩, ⟨⟨5, 6⟩, .space 1⟩, ⟨⟨6, 7⟩, .number 10 none⟩, ⟨⟨7, 8⟩, .punct .Period⟩] 0 (['i', ' ', 'a', 't', 'e', ' ', '9', '.']).length ∧
    ruleCapitalizePersonalPronouns (env0) ['i', ' ', 'a', 't', 'e', ' ', '9', '.']
      [⟨⟨0, 1⟩, .word⟩, ⟨⟨1, 2⟩, .space 1⟩, ⟨⟨2, 5⟩, .word⟩, ⟨⟨5, 6⟩, .space 1⟩, ⟨⟨6, 7⟩, .number 10 none⟩, ⟨⟨7, 8⟩, .punct .Period⟩] =
    .ok [⟨⟨0, 1⟩, [.replaceWith ['I']], 22, 0⟩] := by decide +kernel

theorem avoidCurses_spans_wf (env : Env) (src : List Char) (toks : List Tok) (h : Tiles toks 0 src.length) :
    RunsWF (ruleAvoidCurses env) src toks :=
  ((ruleAvoidCurses_out env src toks).ok_of_span id).lintsOK (inText_of_tiles src toks h)
/-- non-vacuity of `avoidCurses_spans_wf`: the tokens of `damn it` tile the text and the rule fires -/
example : Tiles [⟨⟨0, 4⟩, .word⟩, ⟨⟨4, 5⟩, .space 1⟩, ⟨⟨5, 7⟩, .word⟩] 0 (['d', 'a', 'm', 'n', ' ', 'i', 't']).length ∧
    ruleAvoidCurses ({ env0 with wordFlags := fun w => if w == ['d', 'a', 'm', 'n'] then 262144 else 0 }) ['d', 'a', 'm', 'n', ' ', 'i', 't']
      [⟨⟨0, 4⟩, .word⟩, ⟨⟨4, 5⟩, .space 1⟩, ⟨⟨5, 7⟩, .word⟩] =
    .ok [⟨⟨0, 4⟩, [], 23, 0⟩] := by decide +kernel

theorem wordPressDotcom_spans_wf (env : Env) (src : List Char) (toks : List Tok) (h : Tiles toks 0 src.length) :
    RunsWF (ruleWordPressDotcom env) src toks :=
  wordPressDotcom_spans_wf_any_order env src toks (inText_of_tiles src toks h)
/-- non-vacuity of `wordPressDotcom_spans_wf`: the tokens of `wordpress.com` tile the text and the rule fires -/
example : Tiles [⟨⟨0, 13⟩, .hostname⟩] 0 (['w', 'o', 'r', 'd', 'p', 'r', 'e', 's', 's', '.', 'c', 'o', 'm']).length ∧
    ruleWordPressDotcom (env0) ['w', 'o', 'r', 'd', 'p', 'r', 'e', 's', 's', '.', 'c', 'o', 'm']
      [⟨⟨0, 13⟩, .hostname⟩] =
    .ok [⟨⟨0, 13⟩, [.replaceWith ['W', 'o', 'r', 'd', 'P', 'r', 'e', 's', 's', '.', 'c', 'o', 'm']], 24, 0⟩] := by decide +kernel

/-! ## LinkingVerbs -/

theorem linkingVerbs_spans_wf (env : Env) (src : List Char) (toks : List Tok) (h : Tiles toks 0 src.length) :
    RunsWF (ruleLinkingVerbs env) src toks :=
  linkingVerbs_spans_wf_any_order env src toks (inText_of_tiles src toks h)
/-- non-vacuity of `linkingVerbs_spans_wf`: the tokens of `quick is` tile the text and the rule fires -/
example : Tiles [⟨⟨0, 5⟩, .word⟩, ⟨⟨5, 6⟩, .space 1⟩, ⟨⟨6, 8⟩, .word⟩] 0 (['q', 'u', 'i', 'c', 'k', ' ', 'i', 's']).length ∧
    ruleLinkingVerbs ({ env0 with wordFlags := fun w => if w == ['q', 'u', 'i', 'c', 'k'] then 32768 else if w == ['i', 's'] then 2048 else 0 }) ['q', 'u', 'i', 'c', 'k', ' ', 'i', 's']
      [⟨⟨0, 5⟩, .word⟩, ⟨⟨5, 6⟩, .space 1⟩, ⟨⟨6, 8⟩, .word⟩] =
    .ok [⟨⟨6, 8⟩, [], 25, 0⟩] := by decide +kernel

/-! ## the rules that index the whole document -/

/-- `Span::new(space.start, comma.end)`, `toks.1.unwrap()`, `get_content(..).first().unwrap()` -/
theorem commaFixes_spans_wf (env : Env) (src : List Char) (toks : List Tok) (h : Tiles toks 0 src.length) :
    RunsWF (ruleCommaFixes env) src toks :=
  (ruleCommaFixes_out env src toks).lintsOK (ord_of_tiles toks _ h)
/-- non-vacuity of `commaFixes_spans_wf`: the tokens of `foo ,bar` tile the text and the rule fires -/
example : Tiles [⟨⟨0, 3⟩, .word⟩, ⟨⟨3, 4⟩, .space 1⟩, ⟨⟨4, 5⟩, .punct .Comma⟩, ⟨⟨5, 8⟩, .word⟩] 0 (['f', 'o', 'o', ' ', ',', 'b', 'a', 'r']).length ∧
    ruleCommaFixes (env0) ['f', 'o', 'o', ' ', ',', 'b', 'a', 'r']
      [⟨⟨0, 3⟩, .word⟩, ⟨⟨3, 4⟩, .space 1⟩, ⟨⟨4, 5⟩, .punct .Comma⟩, ⟨⟨5, 8⟩, .word⟩] =
    .ok [⟨⟨3, 5⟩, [.replaceWith [',', ' ']], 26, 5⟩] := by decide +kernel

/-- the text order is needed: a blank positioned AFTER its comma → `Span::new(6, 3)` -/
example : ruleCommaFixes env0 ['a', 'b', ',', 'c', 'd', 'e', ' ']
    [⟨⟨0, 2⟩, .word⟩, ⟨⟨6, 7⟩, .space 1⟩, ⟨⟨2, 3⟩, .punct .Comma⟩, ⟨⟨3, 6⟩, .word⟩] = .error .spanNew := by decide +kernel

theorem mergeWords_spans_wf (env : Env) (src : List Char) (toks : List Tok) (h : Tiles toks 0 src.length) :
    RunsWF (ruleMergeWords env) src toks :=
  (ruleMergeWords_out env src toks).lintsOK (ord_of_tiles toks _ h)
/-- non-vacuity of `mergeWords_spans_wf`: the tokens of `The refore` tile the text and the rule fires -/
example : Tiles [⟨⟨0, 3⟩, .word⟩, ⟨⟨3, 4⟩, .space 1⟩, ⟨⟨4, 10⟩, .word⟩] 0 (['T', 'h', 'e', ' ', 'r', 'e', 'f', 'o', 'r', 'e']).length ∧
    ruleMergeWords ({ env0 with wordFlags := fun w => if w == ['T', 'h', 'e', 'r', 'e', 'f', 'o', 'r', 'e'] then 524288 else 0 }) ['T', 'h', 'e', ' ', 'r', 'e', 'f', 'o', 'r', 'e']
      [⟨⟨0, 3⟩, .word⟩, ⟨⟨3, 4⟩, .space 1⟩, ⟨⟨4, 10⟩, .word⟩] =
    .ok [⟨⟨0, 10⟩, [.replaceWith ['T', 'h', 'e', 'r', 'e', 'f', 'o', 'r', 'e']], 27, 0⟩] := by decide +kernel

theorem adjectiveOfA_spans_wf (env : Env) (src : List Char) (toks : List Tok) (h : Tiles toks 0 src.length) :
    RunsWF (ruleAdjectiveOfA env) src toks :=
  (ruleAdjectiveOfA_out env src toks).lintsOK (ord_of_tiles toks _ h)
/-- non-vacuity of `adjectiveOfA_spans_wf`: the tokens of `big  of a` tile the text and the rule fires -/
example : Tiles [⟨⟨0, 3⟩, .word⟩, ⟨⟨3, 5⟩, .space 2⟩, ⟨⟨5, 7⟩, .word⟩, ⟨⟨7, 8⟩, .space 1⟩, ⟨⟨8, 9⟩, .word⟩] 0 (['b', 'i', 'g', ' ', ' ', 'o', 'f', ' ', 'a']).length ∧
    ruleAdjectiveOfA ({ env0 with wordFlags := fun w => if w == ['b', 'i', 'g'] then 32776 else 0 }) ['b', 'i', 'g', ' ', ' ', 'o', 'f', ' ', 'a']
      [⟨⟨0, 3⟩, .word⟩, ⟨⟨3, 5⟩, .space 2⟩, ⟨⟨5, 7⟩, .word⟩, ⟨⟨7, 8⟩, .space 1⟩, ⟨⟨8, 9⟩, .word⟩] =
    .ok [⟨⟨0, 9⟩, [.replaceWith ['b', 'i', 'g', ' ', ' ', 'a'], .replaceWith ['b', 'i', 'g', ' ', 'a']], 31, 0⟩] := by decide +kernel

/-- `Span::new(prep.start, word.end)`, at most twice per window (`-ed`: two stems; `-es`: once as `-es`, once as `-s`) -/
theorem inflectedVerbAfterTo_spans_wf (env : Env) (src : List Char) (toks : List Tok) (h : Tiles toks 0 src.length) :
    RunsWF (ruleInflectedVerbAfterTo env) src toks :=
  (ruleInflectedVerbAfterTo_out env src toks).lintsOK (ord_of_tiles toks _ h)
/-- non-vacuity of `inflectedVerbAfterTo_spans_wf`: the tokens of `to agreed` tile the text and the rule fires -/
example : Tiles [⟨⟨0, 2⟩, .word⟩, ⟨⟨2, 3⟩, .space 1⟩, ⟨⟨3, 9⟩, .word⟩] 0 (['t', 'o', ' ', 'a', 'g', 'r', 'e', 'e', 'd']).length ∧
    ruleInflectedVerbAfterTo ({ env0 with wordFlags := fun w => if w == ['t', 'o'] then 32769 else if w == ['a', 'g', 'r', 'e', 'e'] then 32896 else if w == ['a', 'g', 'r', 'e'] then 32896 else 0 }) ['t', 'o', ' ', 'a', 'g', 'r', 'e', 'e', 'd']
      [⟨⟨0, 2⟩, .word⟩, ⟨⟨2, 3⟩, .space 1⟩, ⟨⟨3, 9⟩, .word⟩] =
    .ok [⟨⟨0, 9⟩, [.replaceWith ['t', 'o', ' ', 'a', 'g', 'r', 'e']], 34, 0⟩, ⟨⟨0, 9⟩, [.replaceWith ['t', 'o', ' ', 'a', 'g', 'r', 'e', 'e']], 34, 0⟩] := by decide +kernel

/-! ## the rules around a pattern tree -/

/-- **OxfordComma on well-formed tokens inside the text, in any order**, when every `and` / `or` / `nor` is a
conjunction for the dictionary -/
theorem oxfordComma_spans_wf_any_order (env : Env) (src : List Char) (toks : List Tok) (h : InText src toks)
    (hc : ConjOK env src toks) : RunsWF (ruleOxfordComma env) src toks :=
  (ruleOxfordComma_out env src toks).lintsOK ⟨h, hc⟩
/-- non-vacuity of `oxfordComma_spans_wf_any_order`: tokens of the Markdown parser's shape (a zero-width `ParagraphBreak` at offset 0 AFTER the words of `so, cat and dog`) are `InText`, not in text order, and the rule fires -/
example : InText ['s', 'o', ',', ' ', 'c', 'a', 't', ' ', 'a', 'n', 'd', ' ', 'd', 'o', 'g']
      [⟨⟨0, 2⟩, .word⟩, ⟨⟨2, 3⟩, .punct .Comma⟩, ⟨⟨3, 4⟩, .space 1⟩, ⟨⟨4, 7⟩, .word⟩, ⟨⟨7, 8⟩, .space 1⟩, ⟨⟨8, 11⟩, .word⟩, ⟨⟨11, 12⟩, .space 1⟩, ⟨⟨12, 15⟩, .word⟩, ⟨⟨0, 0⟩, .paragraphBreak⟩] ∧
    ConjOK ({ env0 with wordFlags := fun w => if w == ['s', 'o'] then 32834 else if w == ['c', 'a', 't'] then 32832 else if w == ['d', 'o', 'g'] then 32832 else if w == ['a', 'n', 'd'] then 32770 else 0 }) ['s', 'o', ',', ' ', 'c', 'a', 't', ' ', 'a', 'n', 'd', ' ', 'd', 'o', 'g']
      [⟨⟨0, 2⟩, .word⟩, ⟨⟨2, 3⟩, .punct .Comma⟩, ⟨⟨3, 4⟩, .space 1⟩, ⟨⟨4, 7⟩, .word⟩, ⟨⟨7, 8⟩, .space 1⟩, ⟨⟨8, 11⟩, .word⟩, ⟨⟨11, 12⟩, .space 1⟩, ⟨⟨12, 15⟩, .word⟩, ⟨⟨0, 0⟩, .paragraphBreak⟩] ∧
    ruleOxfordComma ({ env0 with wordFlags := fun w => if w == ['s', 'o'] then 32834 else if w == ['c', 'a', 't'] then 32832 else if w == ['d', 'o', 'g'] then 32832 else if w == ['a', 'n', 'd'] then 32770 else 0 }) ['s', 'o', ',', ' ', 'c', 'a', 't', ' ', 'a', 'n', 'd', ' ', 'd', 'o', 'g']
      [⟨⟨0, 2⟩, .word⟩, ⟨⟨2, 3⟩, .punct .Comma⟩, ⟨⟨3, 4⟩, .space 1⟩, ⟨⟨4, 7⟩, .word⟩, ⟨⟨7, 8⟩, .space 1⟩, ⟨⟨8, 11⟩, .word⟩, ⟨⟨11, 12⟩, .space 1⟩, ⟨⟨12, 15⟩, .word⟩, ⟨⟨0, 0⟩, .paragraphBreak⟩] =
    .ok [⟨⟨4, 7⟩, [.insertAfter [',']], 29, 0⟩] := ⟨by unfold InText TokIn; decide +kernel, by unfold ConjOK; decide +kernel, by decide +kernel⟩

theorem oxfordComma_spans_wf (env : Env) (src : List Char) (toks : List Tok) (h : Tiles toks 0 src.length)
    (hc : ConjOK env src toks) : RunsWF (ruleOxfordComma env) src toks :=
  oxfordComma_spans_wf_any_order env src toks (inText_of_tiles src toks h) hc
/-- non-vacuity of `oxfordComma_spans_wf`: the tokens of `so, cat and dog` tile the text, `ConjOK` holds (`and` is a conjunction for this dictionary) and the rule fires -/
example : Tiles [⟨⟨0, 2⟩, .word⟩, ⟨⟨2, 3⟩, .punct .Comma⟩, ⟨⟨3, 4⟩, .space 1⟩, ⟨⟨4, 7⟩, .word⟩, ⟨⟨7, 8⟩, .space 1⟩, ⟨⟨8, 11⟩, .word⟩, ⟨⟨11, 12⟩, .space 1⟩, ⟨⟨12, 15⟩, .word⟩] 0 (['s', 'o', ',', ' ', 'c', 'a', 't', ' ', 'a', 'n', 'd', ' ', 'd', 'o', 'g']).length ∧
    ConjOK ({ env0 with wordFlags := fun w => if w == ['s', 'o'] then 32834 else if w == ['c', 'a', 't'] then 32832 else if w == ['d', 'o', 'g'] then 32832 else if w == ['a', 'n', 'd'] then 32770 else 0 }) ['s', 'o', ',', ' ', 'c', 'a', 't', ' ', 'a', 'n', 'd', ' ', 'd', 'o', 'g']
      [⟨⟨0, 2⟩, .word⟩, ⟨⟨2, 3⟩, .punct .Comma⟩, ⟨⟨3, 4⟩, .space 1⟩, ⟨⟨4, 7⟩, .word⟩, ⟨⟨7, 8⟩, .space 1⟩, ⟨⟨8, 11⟩, .word⟩, ⟨⟨11, 12⟩, .space 1⟩, ⟨⟨12, 15⟩, .word⟩] ∧
    ruleOxfordComma ({ env0 with wordFlags := fun w => if w == ['s', 'o'] then 32834 else if w == ['c', 'a', 't'] then 32832 else if w == ['d', 'o', 'g'] then 32832 else if w == ['a', 'n', 'd'] then 32770 else 0 }) ['s', 'o', ',', ' ', 'c', 'a', 't', ' ', 'a', 'n', 'd', ' ', 'd', 'o', 'g']
      [⟨⟨0, 2⟩, .word⟩, ⟨⟨2, 3⟩, .punct .Comma⟩, ⟨⟨3, 4⟩, .space 1⟩, ⟨⟨4, 7⟩, .word⟩, ⟨⟨7, 8⟩, .space 1⟩, ⟨⟨8, 11⟩, .word⟩, ⟨⟨11, 12⟩, .space 1⟩, ⟨⟨12, 15⟩, .word⟩] =
    .ok [⟨⟨4, 7⟩, [.insertAfter [',']], 29, 0⟩] := ⟨by decide +kernel, by unfold ConjOK; decide +kernel, by decide +kernel⟩

/-- a dictionary for which `so` is a nominal and a conjunction, `cat` and `dog` nominals, and `and` is NOT a
conjunction -/
def envNoConj : Env :=
  { env0 with wordFlags := fun w => if w == ['s', 'o'] then 2 + 64 + 32768 else if w == ['c', 'a', 't'] || w == ['d', 'o', 'g'] then 64 + 32768 else 0 }

/-- the text `so, cat and dog` and its tokens -/
def soCatSrc : List Char := ['s', 'o', ',', ' ', 'c', 'a', 't', ' ', 'a', 'n', 'd', ' ', 'd', 'o', 'g']
def soCatToks : List Tok :=
  [⟨⟨0, 2⟩, .word⟩, ⟨⟨2, 3⟩, .punct .Comma⟩, ⟨⟨3, 4⟩, .space 1⟩, ⟨⟨4, 7⟩, .word⟩, ⟨⟨7, 8⟩, .space 1⟩, ⟨⟨8, 11⟩, .word⟩,
  ⟨⟨11, 12⟩, .space 1⟩, ⟨⟨12, 15⟩, .word⟩]

example : (document asciiCls noExt soCatSrc).toOption = some soCatToks := by decide +kernel

/-- **without `ConjOK` the rule panics**: on `so, cat and dog` the last "conjunction" of the match is `so` at
index 0, and `conj_index - 2` underflows -/
example : ruleOxfordComma envNoConj soCatSrc soCatToks = .error .underflow := by decide +kernel

theorem noOxfordComma_spans_wf_any_order (env : Env) (src : List Char) (toks : List Tok) (h : InText src toks) :
    RunsWF (ruleNoOxfordComma env) src toks :=
  (ruleNoOxfordComma_out env src toks).lintsOK h
/-- non-vacuity of `noOxfordComma_spans_wf_any_order`: tokens of the Markdown parser's shape (a zero-width `ParagraphBreak` at offset 0 AFTER the words of `cat, dog, and x`) are `InText`, not in text order, and the rule fires -/
example : InText ['c', 'a', 't', ',', ' ', 'd', 'o', 'g', ',', ' ', 'a', 'n', 'd', ' ', 'x']
      [⟨⟨0, 3⟩, .word⟩, ⟨⟨3, 4⟩, .punct .Comma⟩, ⟨⟨4, 5⟩, .space 1⟩, ⟨⟨5, 8⟩, .word⟩, ⟨⟨8, 9⟩, .punct .Comma⟩, ⟨⟨9, 10⟩, .space 1⟩, ⟨⟨10, 13⟩, .word⟩, ⟨⟨13, 14⟩, .space 1⟩, ⟨⟨14, 15⟩, .word⟩, ⟨⟨0, 0⟩, .paragraphBreak⟩] ∧
    ruleNoOxfordComma ({ env0 with wordFlags := fun w => if w == ['c', 'a', 't'] then 32832 else if w == ['d', 'o', 'g'] then 32832 else 0 }) ['c', 'a', 't', ',', ' ', 'd', 'o', 'g', ',', ' ', 'a', 'n', 'd', ' ', 'x']
      [⟨⟨0, 3⟩, .word⟩, ⟨⟨3, 4⟩, .punct .Comma⟩, ⟨⟨4, 5⟩, .space 1⟩, ⟨⟨5, 8⟩, .word⟩, ⟨⟨8, 9⟩, .punct .Comma⟩, ⟨⟨9, 10⟩, .space 1⟩, ⟨⟨10, 13⟩, .word⟩, ⟨⟨13, 14⟩, .space 1⟩, ⟨⟨14, 15⟩, .word⟩, ⟨⟨0, 0⟩, .paragraphBreak⟩] =
    .ok [⟨⟨8, 9⟩, [.remove], 30, 0⟩] := ⟨by unfold InText TokIn; decide +kernel, by decide +kernel⟩

theorem noOxfordComma_spans_wf (env : Env) (src : List Char) (toks : List Tok) (h : Tiles toks 0 src.length) :
    RunsWF (ruleNoOxfordComma env) src toks := noOxfordComma_spans_wf_any_order env src toks (inText_of_tiles src toks h)
/-- non-vacuity of `noOxfordComma_spans_wf`: the tokens of `cat, dog, and x` tile the text and the rule fires -/
example : Tiles [⟨⟨0, 3⟩, .word⟩, ⟨⟨3, 4⟩, .punct .Comma⟩, ⟨⟨4, 5⟩, .space 1⟩, ⟨⟨5, 8⟩, .word⟩, ⟨⟨8, 9⟩, .punct .Comma⟩, ⟨⟨9, 10⟩, .space 1⟩, ⟨⟨10, 13⟩, .word⟩, ⟨⟨13, 14⟩, .space 1⟩, ⟨⟨14, 15⟩, .word⟩] 0 (['c', 'a', 't', ',', ' ', 'd', 'o', 'g', ',', ' ', 'a', 'n', 'd', ' ', 'x']).length ∧
    ruleNoOxfordComma ({ env0 with wordFlags := fun w => if w == ['c', 'a', 't'] then 32832 else if w == ['d', 'o', 'g'] then 32832 else 0 }) ['c', 'a', 't', ',', ' ', 'd', 'o', 'g', ',', ' ', 'a', 'n', 'd', ' ', 'x']
      [⟨⟨0, 3⟩, .word⟩, ⟨⟨3, 4⟩, .punct .Comma⟩, ⟨⟨4, 5⟩, .space 1⟩, ⟨⟨5, 8⟩, .word⟩, ⟨⟨8, 9⟩, .punct .Comma⟩, ⟨⟨9, 10⟩, .space 1⟩, ⟨⟨10, 13⟩, .word⟩, ⟨⟨13, 14⟩, .space 1⟩, ⟨⟨14, 15⟩, .word⟩] =
    .ok [⟨⟨8, 9⟩, [.remove], 30, 0⟩] := by decide +kernel

theorem widelyAccepted_spans_wf_any_order (env : Env) (src : List Char) (toks : List Tok) (h : InText src toks) :
    RunsWF (ruleWidelyAccepted env) src toks :=
  (ruleWidelyAccepted_out env src toks).lintsOK h
/-- non-vacuity of `widelyAccepted_spans_wf_any_order`: tokens of the Markdown parser's shape (a zero-width `ParagraphBreak` at offset 0 AFTER the words of `Wide used`) are `InText`, not in text order, and the rule fires -/
example : InText ['W', 'i', 'd', 'e', ' ', 'u', 's', 'e', 'd']
      [⟨⟨0, 4⟩, .word⟩, ⟨⟨4, 5⟩, .space 1⟩, ⟨⟨5, 9⟩, .word⟩, ⟨⟨0, 0⟩, .paragraphBreak⟩] ∧
    ruleWidelyAccepted (env0) ['W', 'i', 'd', 'e', ' ', 'u', 's', 'e', 'd']
      [⟨⟨0, 4⟩, .word⟩, ⟨⟨4, 5⟩, .space 1⟩, ⟨⟨5, 9⟩, .word⟩, ⟨⟨0, 0⟩, .paragraphBreak⟩] =
    .ok [⟨⟨0, 4⟩, [.replaceWith ['W', 'i', 'd', 'e', 'l', 'y']], 32, 0⟩] := ⟨by unfold InText TokIn; decide +kernel, by decide +kernel⟩

theorem widelyAccepted_spans_wf_r2 (env : Env) (src : List Char) (toks : List Tok) (h : Tiles toks 0 src.length) :
    RunsWF (ruleWidelyAccepted env) src toks := widelyAccepted_spans_wf_any_order env src toks (inText_of_tiles src toks h)
/-- non-vacuity of `widelyAccepted_spans_wf_r2`: the tokens of `Wide used` tile the text and the rule fires -/
example : Tiles [⟨⟨0, 4⟩, .word⟩, ⟨⟨4, 5⟩, .space 1⟩, ⟨⟨5, 9⟩, .word⟩] 0 (['W', 'i', 'd', 'e', ' ', 'u', 's', 'e', 'd']).length ∧
    ruleWidelyAccepted (env0) ['W', 'i', 'd', 'e', ' ', 'u', 's', 'e', 'd']
      [⟨⟨0, 4⟩, .word⟩, ⟨⟨4, 5⟩, .space 1⟩, ⟨⟨5, 9⟩, .word⟩] =
    .ok [⟨⟨0, 4⟩, [.replaceWith ['W', 'i', 'd', 'e', 'l', 'y']], 32, 0⟩] := by decide +kernel

/-- TheHowWhy slices `matched_tokens[0..2]`: every alternative of its pattern matches at least three tokens
(`theHowWhyPat_three`) -/
theorem theHowWhy_spans_wf_any_order (env : Env) (src : List Char) (toks : List Tok) (h : InText src toks) :
    RunsWF (ruleTheHowWhy env) src toks :=
  (ruleTheHowWhy_out env src toks).lintsOK h
/-- non-vacuity of `theHowWhy_spans_wf_any_order`: tokens of the Markdown parser's shape (a zero-width `ParagraphBreak` at offset 0 AFTER the words of `the  how it`) are `InText`, not in text order, and the rule fires -/
example : InText ['t', 'h', 'e', ' ', ' ', 'h', 'o', 'w', ' ', 'i', 't']
      [⟨⟨0, 3⟩, .word⟩, ⟨⟨3, 5⟩, .space 2⟩, ⟨⟨5, 8⟩, .word⟩, ⟨⟨8, 9⟩, .space 1⟩, ⟨⟨9, 11⟩, .word⟩, ⟨⟨0, 0⟩, .paragraphBreak⟩] ∧
    ruleTheHowWhy (env0) ['t', 'h', 'e', ' ', ' ', 'h', 'o', 'w', ' ', 'i', 't']
      [⟨⟨0, 3⟩, .word⟩, ⟨⟨3, 5⟩, .space 2⟩, ⟨⟨5, 8⟩, .word⟩, ⟨⟨8, 9⟩, .space 1⟩, ⟨⟨9, 11⟩, .word⟩, ⟨⟨0, 0⟩, .paragraphBreak⟩] =
    .ok [⟨⟨0, 5⟩, [.remove], 33, 0⟩] := ⟨by unfold InText TokIn; decide +kernel, by decide +kernel⟩

theorem theHowWhy_spans_wf_r2 (env : Env) (src : List Char) (toks : List Tok) (h : Tiles toks 0 src.length) :
    RunsWF (ruleTheHowWhy env) src toks := theHowWhy_spans_wf_any_order env src toks (inText_of_tiles src toks h)
/-- non-vacuity of `theHowWhy_spans_wf_r2`: the tokens of `the  how it` tile the text and the rule fires -/
example : Tiles [⟨⟨0, 3⟩, .word⟩, ⟨⟨3, 5⟩, .space 2⟩, ⟨⟨5, 8⟩, .word⟩, ⟨⟨8, 9⟩, .space 1⟩, ⟨⟨9, 11⟩, .word⟩] 0 (['t', 'h', 'e', ' ', ' ', 'h', 'o', 'w', ' ', 'i', 't']).length ∧
    ruleTheHowWhy (env0) ['t', 'h', 'e', ' ', ' ', 'h', 'o', 'w', ' ', 'i', 't']
      [⟨⟨0, 3⟩, .word⟩, ⟨⟨3, 5⟩, .space 2⟩, ⟨⟨5, 8⟩, .word⟩, ⟨⟨8, 9⟩, .space 1⟩, ⟨⟨9, 11⟩, .word⟩] =
    .ok [⟨⟨0, 5⟩, [.remove], 33, 0⟩] := by decide +kernel

/-- `match_to_lint` alone is NOT total: on a one-token slice (which the pattern never hands over) it panics -/
example : theHowWhyMatch env0 ['t', 'h', 'e'] [⟨⟨0, 3⟩, .word⟩] = .error .sliceOOB := by decide +kernel

/-! ## every suggestion of the eleven rules that offer suggestions is a local edit -/

theorem spelledNumbers_suggestions_local (env : Env) (src : List Char) (toks : List Tok) (h : Tiles toks 0 src.length) :
    SuggestionsLocal (ruleSpelledNumbers env) src toks := suggestions_local _ src toks (spelledNumbers_spans_wf env src toks h)
theorem capitalizePersonalPronouns_suggestions_local (env : Env) (src : List Char) (toks : List Tok) (h : Tiles toks 0 src.length) :
    SuggestionsLocal (ruleCapitalizePersonalPronouns env) src toks :=
  suggestions_local _ src toks (capitalizePersonalPronouns_spans_wf env src toks h)
theorem wordPressDotcom_suggestions_local (env : Env) (src : List Char) (toks : List Tok) (h : Tiles toks 0 src.length) :
    SuggestionsLocal (ruleWordPressDotcom env) src toks := suggestions_local _ src toks (wordPressDotcom_spans_wf env src toks h)
theorem commaFixes_suggestions_local (env : Env) (src : List Char) (toks : List Tok) (h : Tiles toks 0 src.length) :
    SuggestionsLocal (ruleCommaFixes env) src toks := suggestions_local _ src toks (commaFixes_spans_wf env src toks h)
theorem mergeWords_suggestions_local (env : Env) (src : List Char) (toks : List Tok) (h : Tiles toks 0 src.length) :
    SuggestionsLocal (ruleMergeWords env) src toks := suggestions_local _ src toks (mergeWords_spans_wf env src toks h)
theorem adjectiveOfA_suggestions_local (env : Env) (src : List Char) (toks : List Tok) (h : Tiles toks 0 src.length) :
    SuggestionsLocal (ruleAdjectiveOfA env) src toks := suggestions_local _ src toks (adjectiveOfA_spans_wf env src toks h)
theorem inflectedVerbAfterTo_suggestions_local (env : Env) (src : List Char) (toks : List Tok) (h : Tiles toks 0 src.length) :
    SuggestionsLocal (ruleInflectedVerbAfterTo env) src toks :=
  suggestions_local _ src toks (inflectedVerbAfterTo_spans_wf env src toks h)
theorem oxfordComma_suggestions_local (env : Env) (src : List Char) (toks : List Tok) (h : InText src toks)
    (hc : ConjOK env src toks) : SuggestionsLocal (ruleOxfordComma env) src toks :=
  suggestions_local _ src toks (oxfordComma_spans_wf_any_order env src toks h hc)
theorem noOxfordComma_suggestions_local (env : Env) (src : List Char) (toks : List Tok) (h : InText src toks) :
    SuggestionsLocal (ruleNoOxfordComma env) src toks := suggestions_local _ src toks (noOxfordComma_spans_wf_any_order env src toks h)
theorem widelyAccepted_suggestions_local (env : Env) (src : List Char) (toks : List Tok) (h : InText src toks) :
    SuggestionsLocal (ruleWidelyAccepted env) src toks := suggestions_local _ src toks (widelyAccepted_spans_wf_any_order env src toks h)
theorem theHowWhy_suggestions_local (env : Env) (src : List Char) (toks : List Tok) (h : InText src toks) :
    SuggestionsLocal (ruleTheHowWhy env) src toks := suggestions_local _ src toks (theHowWhy_spans_wf_any_order env src toks h)

/-! ## all thirteen, from the characters of a document -/

/-- whichever rule the driver's table `ruleByName2` dispatches to: on tokens in text order it does not panic and its lints
point into the text; on any tokens it does not hang. OxfordComma keeps its monitored premise `ConjOK`. -/
theorem ruleByName2_out (env : Env) (name : String) (r : Env → PieceRule) (hr : ruleByName2 name = some r) (src : List Char)
    (toks : List Tok) :
    OutOK (Ord src.length toks ∧ (name = "OxfordComma" → ConjOK env src toks)) src.length (r env src toks) := by
  have hin : Ord src.length toks ∧ (name = "OxfordComma" → ConjOK env src toks) → InText src toks := fun g _ ht => g.1.le ht
  unfold ruleByName2 at hr
  split at hr <;> cases hr
  · exact (ruleSpelledNumbers_out env src toks).ok_of_span hin
  · exact (ruleCapitalizePersonalPronouns_out env src toks).mono hin
  · exact (ruleAvoidCurses_out env src toks).ok_of_span hin
  · exact (ruleWordPressDotcom_out env src toks).mono hin
  · exact (ruleLinkingVerbs_out env src toks).mono hin
  · exact (ruleCommaFixes_out env src toks).mono And.left
  · exact (ruleMergeWords_out env src toks).mono And.left
  · exact (ruleAdjectiveOfA_out env src toks).mono And.left
  · exact (ruleOxfordComma_out env src toks).mono fun g => ⟨hin g, g.2 rfl⟩
  · exact (ruleNoOxfordComma_out env src toks).mono hin
  · exact (ruleWidelyAccepted_out env src toks).mono hin
  · exact (ruleTheHowWhy_out env src toks).mono hin
  · exact (ruleInflectedVerbAfterTo_out env src toks).mono And.left

/-- **All thirteen, on documents**: whichever rule the driver's table `ruleByName2` dispatches to, run on the tokens of ANY
plain-English document (any class table, any in-bounds url / e-mail / hostname lexer, any `Env`), returns — no panic —
and every lint has `start ≤ end ≤ text length`: the hypothesis `Tiles` of the per-rule theorems discharged by
`on_documents`. OxfordComma keeps its monitored premise `ConjOK` (on the document's tokens); no other rule has one. -/
theorem thirteen_rules_on_documents (cls : Cls) (ext : Ext) (src : List Char) (hext : ExtOK ext src.length)
    (env : Env) (name : String) (r : Env → PieceRule) (hr : ruleByName2 name = some r)
    (hc : name = "OxfordComma" → ∀ toks, document cls ext src = .ok toks → ConjOK env src toks) :
    ∃ ls, docRule cls ext (r env) src = .ok ls ∧ ∀ l ∈ ls, l.span.start ≤ l.span.stop ∧ l.span.stop ≤ src.length := by
  obtain ⟨toks, e, hT, _⟩ := on_documents cls ext src hext
  simp only [docRule, e]
  exact (ruleByName2_out env name r hr src toks).lintsOK ⟨ord_of_tiles toks _ hT, fun hn => hc hn toks e⟩

/-- non-vacuity of `thirteen_rules_on_documents`: at `foo ,bar` for CommaFixes (which fires there: below) … -/
example : ∃ ls, docRule asciiCls noExt (ruleCommaFixes env0) ['f', 'o', 'o', ' ', ',', 'b', 'a', 'r'] = .ok ls ∧
    ∀ l ∈ ls, l.span.start ≤ l.span.stop ∧ l.span.stop ≤ 8 :=
  thirteen_rules_on_documents asciiCls noExt _ (by intro _ _ _ h; cases h) env0 "CommaFixes" _ rfl (fun h => absurd h (by decide +kernel))

/-- … and with the premise `ConjOK` met, at `x, y or z` for OxfordComma (`or` a conjunction for the dictionary; the rule
reports `y`, 3..4, on the document's tokens) -/
example : (∃ ls, docRule asciiCls noExt (ruleOxfordComma { env0 with wordFlags := fun w =>
        if w == ['o', 'r'] then 2 + 32768 else if w == ['x'] || w == ['y'] || w == ['z'] then 64 + 32768 else 0 })
      ['x', ',', ' ', 'y', ' ', 'o', 'r', ' ', 'z'] = .ok ls ∧ ∀ l ∈ ls, l.span.start ≤ l.span.stop ∧ l.span.stop ≤ 9) ∧
    ruleOxfordComma { env0 with wordFlags := fun w =>
        if w == ['o', 'r'] then 2 + 32768 else if w == ['x'] || w == ['y'] || w == ['z'] then 64 + 32768 else 0 }
      ['x', ',', ' ', 'y', ' ', 'o', 'r', ' ', 'z']
      [⟨⟨0, 1⟩, .word⟩, ⟨⟨1, 2⟩, .punct .Comma⟩, ⟨⟨2, 3⟩, .space 1⟩, ⟨⟨3, 4⟩, .word⟩, ⟨⟨4, 5⟩, .space 1⟩, ⟨⟨5, 7⟩, .word⟩,
        ⟨⟨7, 8⟩, .space 1⟩, ⟨⟨8, 9⟩, .word⟩] = .ok [⟨⟨3, 4⟩, [.insertAfter [',']], 29, 0⟩] := by
  have e : document asciiCls noExt ['x', ',', ' ', 'y', ' ', 'o', 'r', ' ', 'z'] =
      .ok [⟨⟨0, 1⟩, .word⟩, ⟨⟨1, 2⟩, .punct .Comma⟩, ⟨⟨2, 3⟩, .space 1⟩, ⟨⟨3, 4⟩, .word⟩, ⟨⟨4, 5⟩, .space 1⟩, ⟨⟨5, 7⟩, .word⟩,
        ⟨⟨7, 8⟩, .space 1⟩, ⟨⟨8, 9⟩, .word⟩] := by decide +kernel
  refine ⟨thirteen_rules_on_documents asciiCls noExt _ (by intro _ _ _ h; cases h) { env0 with wordFlags := fun w =>
        if w == ['o', 'r'] then 2 + 32768 else if w == ['x'] || w == ['y'] || w == ['z'] then 64 + 32768 else 0 }
      "OxfordComma" ruleOxfordComma rfl (fun _ toks h => ?_), by decide +kernel⟩
  rw [e] at h
  cases h
  unfold ConjOK
  decide +kernel

/-! ## on the tokens of real sentences (non-vacuity; kernel-evaluated) -/

/-- `i ate 9.` — CapitalizePersonalPronouns at 0..1, SpelledNumbers at 6..7 (the value handed over as data) -/
example : docRule asciiCls noExt (ruleCapitalizePersonalPronouns env0) ['i', ' ', 'a', 't', 'e', ' ', '9', '.'] =
      .ok [⟨⟨0, 1⟩, [.replaceWith ['I']], 22, 0⟩] ∧
    docRule asciiCls noExt (ruleSpelledNumbers { env0 with numVal := fun _ => .int 9 }) ['i', ' ', 'a', 't', 'e', ' ', '9', '.'] =
      .ok [⟨⟨6, 7⟩, [.replaceWith ['n', 'i', 'n', 'e']], 21, 0⟩] := by decide +kernel

/-- … and the suggestion applied by the modelled `Suggestion::apply`: `i ate nine.` -/
example : (toSuggestion (.replaceWith ['n', 'i', 'n', 'e'])).apply ⟨6, 7⟩ ['i', ' ', 'a', 't', 'e', ' ', '9', '.'] =
    .ok ['i', ' ', 'a', 't', 'e', ' ', 'n', 'i', 'n', 'e', '.'] := by decide +kernel

/-- `foo ,bar` → blank and comma replaced by `, ` -/
example : docRule asciiCls noExt (ruleCommaFixes env0) ['f', 'o', 'o', ' ', ',', 'b', 'a', 'r'] =
      .ok [⟨⟨3, 5⟩, [.replaceWith [',', ' ']], 26, 5⟩] := by decide +kernel

/-- `The refore` with a dictionary that knows `Therefore` only: MergeWords reports the three tokens -/
def envTherefore : Env :=
  { env0 with wordFlags := fun w => if w == ['T', 'h', 'e', 'r', 'e', 'f', 'o', 'r', 'e'] then 2 ^ 19 else 0 }

example : docRule asciiCls noExt (ruleMergeWords envTherefore) ['T', 'h', 'e', ' ', 'r', 'e', 'f', 'o', 'r', 'e'] =
    .ok [⟨⟨0, 10⟩, [.replaceWith ['T', 'h', 'e', 'r', 'e', 'f', 'o', 'r', 'e']], 27, 0⟩] := by decide +kernel

/-- `big  of a` with `big` an adjective: both blanks are offered -/
def envBig : Env := { env0 with wordFlags := fun w => if w == ['b', 'i', 'g'] then 8 + 32768 else 0 }

example : docRule asciiCls noExt (ruleAdjectiveOfA envBig) ['b', 'i', 'g', ' ', ' ', 'o', 'f', ' ', 'a'] =
    .ok [⟨⟨0, 9⟩, [.replaceWith ['b', 'i', 'g', ' ', ' ', 'a'], .replaceWith ['b', 'i', 'g', ' ', 'a']], 31, 0⟩] := by decide +kernel

/-- `to agreed` with `to` a preposition and a dictionary for which `agre` and `agree` are verbs and not nouns:
both stems of `-ed` are offered, as two lints on the same span -/
def envAgree : Env :=
  { env0 with wordFlags := fun w => if w == ['t', 'o'] then 1 + 32768 else if w == ['a', 'g', 'r', 'e', 'e'] || w == ['a', 'g', 'r', 'e'] then 128 + 32768 else 0 }

example : docRule asciiCls noExt (ruleInflectedVerbAfterTo envAgree) ['t', 'o', ' ', 'a', 'g', 'r', 'e', 'e', 'd'] =
    .ok [⟨⟨0, 9⟩, [.replaceWith ['t', 'o', ' ', 'a', 'g', 'r', 'e']], 34, 0⟩, ⟨⟨0, 9⟩, [.replaceWith ['t', 'o', ' ', 'a', 'g', 'r', 'e', 'e']], 34, 0⟩] := by
  decide +kernel

/-- `so, cat and dog` with `and` a conjunction: the Oxford comma goes after `cat` (4..7) -/
def envConj : Env :=
  { env0 with wordFlags := fun w => if w == ['s', 'o'] then 2 + 64 + 32768 else if w == ['c', 'a', 't'] || w == ['d', 'o', 'g'] then 64 + 32768
      else if w == ['a', 'n', 'd'] then 2 + 32768 else 0 }

example : ruleOxfordComma envConj soCatSrc soCatToks = .ok [⟨⟨4, 7⟩, [.insertAfter [',']], 29, 0⟩] := by decide +kernel

/-- the hypotheses of `oxfordComma_spans_wf` hold of it: the tokens tile the text, and the only word that
`WordSet[and, or, nor]` accepts is a conjunction for `envConj` -/
example : Tiles soCatToks 0 soCatSrc.length ∧ ∀ t ∈ soCatToks, wordSetAtom andOrNor soCatSrc [t] = .ok 1 → hasFlag envConj soCatSrc t 1 = true := by
  decide +kernel

/-- `the  how it` — `the` and the blank after it go; `the how to` is left alone (and so is `the how` at the end
of a chunk: `Invert` answers 0 on the empty slice) -/
example : docRule asciiCls noExt (ruleTheHowWhy env0) ['t', 'h', 'e', ' ', ' ', 'h', 'o', 'w', ' ', 'i', 't'] = .ok [⟨⟨0, 5⟩, [.remove], 33, 0⟩] ∧
    docRule asciiCls noExt (ruleTheHowWhy env0) ['t', 'h', 'e', ' ', 'h', 'o', 'w'] = .ok [] ∧
    docRule asciiCls noExt (ruleTheHowWhy env0) ['t', 'h', 'e', ' ', 'h', 'o', 'w', ' ', 't', 'o'] = .ok [] := by decide +kernel

/-- `Wide used` keeps its capital: `Widely` -/
example : docRule asciiCls noExt (ruleWidelyAccepted env0) ['W', 'i', 'd', 'e', ' ', 'u', 's', 'e', 'd'] =
    .ok [⟨⟨0, 4⟩, [.replaceWith ['W', 'i', 'd', 'e', 'l', 'y']], 32, 0⟩] := by decide +kernel

/-! ## the generic constructions of `Props/C03c.lean` offer only local edits

`suggestions_local` is about any `PieceRule`; C03c (MapPhraseLinter, closed compounds, proper nouns, `merge_linters!`)
is upstream of this file, so the composed statements live here. -/

/-- every suggestion of a `MapPhraseLinter` over a plain tree applies and edits only the flagged span -/
theorem mapPhrase_suggestions_local (env : Env) (p : RPat) (hp : p.plain = true) (forms : List (List Char))
    (src : List Char) (toks : List Tok) (h : InText src toks) :
    SuggestionsLocal (ruleMapPhrase env p forms) src toks :=
  suggestions_local _ _ _ (mapPhrase_spans_wf env p hp forms src toks h)

/-- … over ANY tree, on tiling tokens with short words and a sound dictionary -/
theorem mapPhrase_suggestions_local_full (env : Env) (hd : DictOK env) (hc : CanonOK env) (p : RPat)
    (hw : WordsShort env p) (forms : List (List Char)) (src : List Char) (toks : List Tok)
    (h : Tiles toks 0 src.length) (hs : ShortWords env src toks) :
    SuggestionsLocal (ruleMapPhrase env p forms) src toks :=
  suggestions_local _ _ _ (mapPhrase_spans_wf_full env hd hc p hw forms src toks h hs)

/-- every row of `closed_compounds.rs` -/
theorem closedCompound_suggestions_local (env : Env) (psrc : List Char) (ptoks : List Tok) (good : List Char)
    (r : PieceRule) (hr : ruleClosedCompound env psrc ptoks good = some r) (src : List Char) (toks : List Tok)
    (h : InText src toks) : SuggestionsLocal r src toks :=
  suggestions_local _ _ _ (closedCompound_spans_wf env psrc ptoks good r hr src toks h)

/-- every entry of `proper_noun_rules.json` -/
theorem properNoun_suggestions_local (env : Env) (rows : List PNRow) (hrows : ∀ r ∈ rows, IsPhrasePat r.pat)
    (src : List Char) (toks : List Tok) (h : InText src toks) :
    SuggestionsLocal (ruleProperNoun env rows) src toks :=
  suggestions_local _ _ _ (properNoun_spans_wf env rows hrows src toks h)

/-- a `merge_linters!` rule whose children run and point into the text -/
theorem mergeLinters_suggestions_local (rs : List PieceRule) (src : List Char) (toks : List Tok)
    (h : ∀ r ∈ rs, RunsWF r src toks) : SuggestionsLocal (mergeLinters rs) src toks :=
  suggestions_local _ _ _ (mergeLinters_spans_wf rs src toks h)

/-- non-vacuity of `mapPhrase_suggestions_local`, applied: `We In  tact now.` — the one suggestion of the one
lint (`Intact` for 3..11) applies and yields `We Intact now.` -/
example : (toSuggestion (.replaceWith ['I', 'n', 't', 'a', 'c', 't'])).apply ⟨3, 11⟩ C01.srcIntact =
    .ok ['W', 'e', ' ', 'I', 'n', 't', 'a', 'c', 't', ' ', 'n', 'o', 'w', '.'] := by
  have h := mapPhrase_suggestions_local env0 C12.intactPat (by decide +kernel) [['i', 'n', 't', 'a', 'c', 't']]
    C01.srcIntact C01.toksIntact inText_weIntact _ (by decide +kernel : ruleMapPhrase env0 C12.intactPat [['i', 'n', 't', 'a', 'c', 't']]
      C01.srcIntact C01.toksIntact = .ok [⟨⟨3, 11⟩, [.replaceWith ['I', 'n', 't', 'a', 'c', 't']], 13, 0⟩])
    _ (List.mem_singleton.mpr rfl) _ (List.mem_singleton.mpr rfl)
  rw [h]; decide +kernel

end Harper.C03
