import Harper.Lemmas.LintGroup
/-!
# C11 — rule switches do exactly what they say

Property theorems only; helpers are in `Harper/Lemmas/LintGroup.lean`, the model
(`Harper/Model/LintGroup.lean`) is `LintGroupConfig` + `LintGroup::lint`. Rules are abstract
functions (`Rules.doc`: whole-document rules, `Rules.pat`: pattern rules per chunk, both in key
order), so every theorem holds for any rule set. `lint R cap [] c d` is a fresh group (empty cache).
The JSON round trip is serde's derive: monitored by the harness, not proved.
-/
namespace Harper.C11
open Harper Harper.LG

variable {κ δ γ : Type} [DecidableEq κ] [DecidableEq γ]

/-! ## The configuration algebra -/

/-- a rule is on exactly when the map holds `Some(true)` for it; absent and `None` are off -/
theorem isEnabled_spec (c : Cfg κ) (k : κ) : isEnabled c k = true ↔ get k c = some (some true) := by
  unfold isEnabled
  rcases get k c with _ | _ | _ | _ <;> simp

theorem setRule_spec (k k' : κ) (b : Bool) (c : Cfg κ) :
    get k' (setRule k b c) = if k' = k then some (some b) else get k' c := get_ins k k' (some b) c

theorem unset_spec (k k' : κ) (c : Cfg κ) :
    get k' (unset k c) = if k' = k then none else get k' c := get_unset k k' c

/-- `set_rule_enabled_if_unset` tests `contains_key`: a key present with value `None`
(what `clear` leaves behind) counts as set and is NOT overwritten. -/
theorem setIfUnset_spec (k k' : κ) (b : Bool) (c : Cfg κ) :
    get k' (setIfUnset k b c) =
      if k' = k ∧ get k c = none then some (some b) else get k' c := by
  unfold setIfUnset
  cases h : get k c with
  | some v => simp
  | none =>
    simp only [setRule_spec, and_true]

/-- `clear` keeps the keys and sets every value to `None`: every rule is off afterwards -/
theorem clear_spec (k : κ) (c : Cfg κ) :
    get k (clear c) = (get k c).map (fun _ => none) ∧ isEnabled (clear c) k = false := by
  refine ⟨get_clear k c, ?_⟩
  unfold isEnabled
  rw [get_clear]
  cases get k c <;> rfl

/-- `merge_from`: `Some` values of the argument override, `None` values are skipped, and the
argument is left *cleared* (all its keys still present, all values `None`) — not empty. -/
theorem mergeFrom_spec (self other : Cfg κ) (hw : other.WF) (k : κ) :
    get k (mergeFrom self other).1 =
        (match get k other with
         | some (some b) => some (some b)
         | _ => get k self) ∧
      (mergeFrom self other).2 = clear other := by
  exact ⟨get_mergeInto k self other hw, rfl⟩

/-- `fill_with_curated`: explicit user values win, everything else is the curated value
(a user key with value `None` that is not a curated rule disappears). -/
theorem fillWithCurated_spec (curated user : Cfg κ) (hw : user.WF) (k : κ) :
    get k (fillWithCurated curated user) =
      match get k user with
      | some (some b) => some (some b)
      | _ => get k curated :=
  (mergeFrom_spec curated user hw k).1

/-- every operation keeps the map a map (no key twice) -/
theorem wf_preserved (c o : Cfg κ) (k : κ) (b : Bool) (h : c.WF) :
    (setRule k b c).WF ∧ (unset k c).WF ∧ (setIfUnset k b c).WF ∧ (clear c).WF ∧
      (mergeFrom c o).1.WF ∧ (fillWithCurated c o).WF ∧ (Cfg.WF o → (mergeFrom c o).2.WF) := by
  refine ⟨wf_ins h, wf_unset h, ?_, wf_clear h, wf_mergeInto h, wf_mergeInto h, fun ho => wf_clear ho⟩
  unfold setIfUnset
  split
  · exact h
  · exact wf_ins h

/-- explicit user choices always win -/
theorem explicit_choice_wins (curated user : Cfg κ) (hw : user.WF) (k : κ) (b : Bool)
    (h : get k user = some (some b)) : isEnabled (fillWithCurated curated user) k = b := by
  unfold isEnabled
  rw [fillWithCurated_spec curated user hw k, h]

/-- rules the user has not mentioned (absent, or present as `null`) take their curated default -/
theorem unmentioned_takes_default (curated user : Cfg κ) (hw : user.WF) (k : κ)
    (h : get k user = none ∨ get k user = some none) :
    get k (fillWithCurated curated user) = get k curated := by
  rw [fillWithCurated_spec curated user hw k]
  rcases h with h | h <;> rw [h]

/-- merge order: merging `a` then `b` is merging (`b` merged into `a`) — later merges win -/
theorem merge_assoc (s a b : Cfg κ) (ha : a.WF) (hb : b.WF) (k : κ) :
    get k (mergeFrom (mergeFrom s a).1 b).1 = get k (mergeFrom s (mergeFrom a b).1).1 := by
  show get k (mergeInto (mergeInto s a) b) = get k (mergeInto s (mergeInto a b))
  rw [get_mergeInto k _ b hb, get_mergeInto k s a ha, get_mergeInto k s _ (wf_mergeInto ha),
    get_mergeInto k a b hb, override_assoc]

/-- filling twice is filling once -/
theorem fill_idempotent (curated user : Cfg κ) (hc : curated.WF) (hw : user.WF) (k : κ) :
    get k (fillWithCurated curated (fillWithCurated curated user)) =
      get k (fillWithCurated curated user) := by
  show get k (mergeInto curated (mergeInto curated user)) = get k (mergeInto curated user)
  rw [get_mergeInto k curated _ (wf_mergeInto hc), get_mergeInto k curated user hw,
    ← override_assoc, override_self]

/-! ## The group -/

/-- a fresh group returns the cache-free reading of `lint` -/
theorem lint_fresh_spec (R : Rules κ δ γ) (cap : Nat) (c : Cfg κ) (d : Doc δ γ) :
    (lint R cap [] c d).1 = lintSpec R c d :=
  (lint_spec R cap c d (Lru.inv_nil _)).1

/-- A rule that is switched off contributes no lints: the group behaves as if the rule were not
registered at all. -/
theorem disabled_contributes_nothing (R : Rules κ δ γ) (cap : Nat) (c : Cfg κ) (d : Doc δ γ)
    (r : κ) (h : isEnabled c r = false) :
    (lint R cap [] c d).1 = (lint (R.without r) cap [] c d).1 := by
  rw [lint_fresh_spec, lint_fresh_spec, lintSpec_without R c d r h]

/-- The lints under configuration `c` are the fixed interleaving of what each enabled rule
produces on its own (configuration `only r`): whole-document rules in name order on the document,
then chunk by chunk the pattern rules in name order. Rule names are distinct (`LintGroup::add`
refuses a second rule of the same name in either map). -/
theorem lint_is_combination (R : Rules κ δ γ) (cap : Nat) (c : Cfg κ) (d : Doc δ γ)
    (hn : (R.doc.map (·.1) ++ R.pat.map (·.1)).Nodup) :
    (lint R cap [] c d).1 =
      ((R.doc.map (·.1)).filter (isEnabled c)).flatMap
          (fun r => (lint R cap [] (only r) ⟨d.whole, []⟩).1) ++
        d.chunks.flatMap (fun ch =>
          ((R.pat.map (·.1)).filter (isEnabled c)).flatMap
            (fun r => (lint R cap [] (only r) ⟨d.whole, [ch]⟩).1)) := by
  obtain ⟨hnd, hnp, hdis⟩ := List.nodup_append.mp hn
  simp only [lint_fresh_spec, lintSpec_nil, lintSpec_singleton]
  rw [lintSpec_combination R c d hnd hnp]
  congr 1
  apply flatMap_congr_left
  intro ch _
  apply flatMap_congr_left
  intro r hr
  have : r ∉ R.doc.map (·.1) := fun hd => hdis r hd r (List.mem_filter.mp hr).1 rfl
  rw [runEnabled_only_not_mem r d.whole R.doc this, List.nil_append]

/-- The same without assuming that the two rule maps have disjoint key sets (each map is a
`BTreeMap`, so its own keys are distinct — that is all that is needed): each enabled rule is run
alone in the group restricted to its own map. `LintGroup::merge_from` does not check for a key that
is present in both maps, and the curated group does contain one such name (`Intact`: a closed-
compound rule in `linters` and a phrase correction in `pattern_linters`, one switch for both), so
this is the form that covers the real curated group; the harness reports such names. -/
theorem lint_is_combination_maps (R : Rules κ δ γ) (cap : Nat) (c : Cfg κ) (d : Doc δ γ)
    (hd : (R.doc.map (·.1)).Nodup) (hp : (R.pat.map (·.1)).Nodup) :
    (lint R cap [] c d).1 =
      ((R.doc.map (·.1)).filter (isEnabled c)).flatMap
          (fun r => (lint R.docOnly cap [] (only r) ⟨d.whole, []⟩).1) ++
        d.chunks.flatMap (fun ch =>
          ((R.pat.map (·.1)).filter (isEnabled c)).flatMap
            (fun r => (lint R.patOnly cap [] (only r) ⟨d.whole, [ch]⟩).1)) := by
  simp only [lint_fresh_spec, lintSpec_nil, lintSpec_singleton]
  exact lintSpec_combination R c d hd hp

/-- the per-chunk pieces `lint (only r) ⟨d.whole, [ch]⟩` that `lint_is_combination` interleaves are,
concatenated, what the pattern rule `r` produces on its own on the whole document -/
theorem lint_only_chunks (R : Rules κ δ γ) (cap : Nat) (r : κ) (d : Doc δ γ)
    (h : r ∉ R.doc.map (·.1)) :
    (lint R cap [] (only r) d).1 =
      d.chunks.flatMap (fun ch => (lint R cap [] (only r) ⟨d.whole, [ch]⟩).1) := by
  simp only [lint_fresh_spec]
  unfold lintSpec chunkSpec
  simp [runEnabled_only_not_mem r d.whole R.doc h]

/-- Toggling rule `r` never changes another rule's output: with every lint attributed to the rule
that produced it (`lintT`, whose payloads are exactly the output of `lint`), the lints of any other
rule `r'` are the same list under two configurations that agree on `r'`. -/
theorem toggle_independent (R : Rules κ δ γ) (cap : Nat) (c₁ c₂ : Cfg κ) (d : Doc δ γ) (r' : κ)
    (h : isEnabled c₁ r' = isEnabled c₂ r') :
    (lintT R c₁ d).map (·.2) = (lint R cap [] c₁ d).1 ∧
      (lintT R c₂ d).map (·.2) = (lint R cap [] c₂ d).1 ∧
      (lintT R c₁ d).filter (fun p => p.1 = r') = (lintT R c₂ d).filter (fun p => p.1 = r') := by
  refine ⟨by rw [lintT_untag, lint_fresh_spec], by rw [lintT_untag, lint_fresh_spec], ?_⟩
  unfold lintT
  simp only [List.filter_append, List.filter_flatMap]
  rw [runEnabledT_filter r' d.whole R.doc h]
  congr 1
  apply flatMap_congr_left
  intro ch _
  have := runEnabledT_filter r' ch.2 R.pat h
  rw [List.filter_map, List.filter_map]
  exact congrArg _ this

/-- the instance the property names: setting rule `r` (to anything) leaves rule `r' ≠ r` alone -/
theorem toggle_independent_setRule (c : Cfg κ) (r r' : κ) (b : Bool) (h : r' ≠ r) :
    isEnabled (setRule r b c) r' = isEnabled c r' := by
  apply isEnabled_eq_of_get
  rw [setRule_spec, if_neg h]

/-- Attribution-free reading: whatever is done to rule `r`, the lints of all other rules (the
output of the group without `r`) are a sub-list, in the same order, of the output. -/
theorem others_unchanged (R : Rules κ δ γ) (cap : Nat) (c c' : Cfg κ) (d : Doc δ γ) (r : κ)
    (h : ∀ k, k ≠ r → isEnabled c k = isEnabled c' k) :
    ((lint (R.without r) cap [] c d).1).Sublist (lint R cap [] c' d).1 := by
  rw [lint_fresh_spec, lint_fresh_spec]
  exact lintSpec_without_sublist R d r h

/-- Unknown rule names are harmless: two configurations that agree on every registered rule give
the same lints (on a fresh group; through the cache: `C05.unknown_keys_harmless_cached`). -/
theorem unknown_keys_harmless (R : Rules κ δ γ) (cap : Nat) (c₁ c₂ : Cfg κ) (d : Doc δ γ)
    (h : ∀ r ∈ R.doc.map (·.1) ++ R.pat.map (·.1), isEnabled c₁ r = isEnabled c₂ r) :
    (lint R cap [] c₁ d).1 = (lint R cap [] c₂ d).1 := by
  rw [lint_fresh_spec, lint_fresh_spec]
  exact lintSpec_congr R d h

/-- **Exactly the combination**, as a set and without any assumption on rule names (so it covers the
curated group with its shared name `Intact`): a lint is produced under configuration `c` iff some
rule enabled in `c` produces it when it is the only rule switched on — on the WHOLE document `d`.
(`lint_is_combination` adds the order.) -/
theorem mem_lint_iff (R : Rules κ δ γ) (cap : Nat) (c : Cfg κ) (d : Doc δ γ) (l : PLint) :
    l ∈ (lint R cap [] c d).1 ↔ ∃ r, isEnabled c r = true ∧ l ∈ (lint R cap [] (only r) d).1 := by
  simp only [lint_fresh_spec]
  unfold lintSpec chunkSpec compute
  simp only [List.mem_append, List.mem_flatMap, List.mem_map, mem_runEnabled]
  constructor
  · rintro (⟨p, hp, he, hl⟩ | ⟨ch, hch, l0, ⟨p, hp, he, hl⟩, rfl⟩)
    · exact ⟨p.1, he, Or.inl ⟨p, hp, by simp [isEnabled_only], hl⟩⟩
    · exact ⟨p.1, he, Or.inr ⟨ch, hch, l0, ⟨p, hp, by simp [isEnabled_only], hl⟩, rfl⟩⟩
  · rintro ⟨r, hr, (⟨p, hp, he, hl⟩ | ⟨ch, hch, l0, ⟨p, hp, he, hl⟩, rfl⟩)⟩
    · have : p.1 = r := by simpa [isEnabled_only] using he
      exact Or.inl ⟨p, hp, this ▸ hr, hl⟩
    · have : p.1 = r := by simpa [isEnabled_only] using he
      exact Or.inr ⟨ch, hch, l0, ⟨p, hp, this ▸ hr, hl⟩, rfl⟩

/-! ## Non-vacuity and witnesses (keys and chunk contents are `Nat`s, kernel-evaluated) -/

def exCur : Cfg Nat := [(1, some true), (2, some false), (3, some true)]
def exUser : Cfg Nat := [(1, some false), (2, none), (4, some true), (5, none)]
def cAll : Cfg Nat := [(1, some true), (2, some true), (3, some true), (4, some true)]
def cNo2 : Cfg Nat := [(1, some true), (2, some false), (3, some true), (4, some true), (9, some true)]

theorem exUser_wf : Cfg.WF exUser := by unfold Cfg.WF; decide +kernel
theorem exCur_wf : Cfg.WF exCur := by unfold Cfg.WF; decide +kernel

/-- curated `exCur` = `{1:on, 2:off, 3:on}`, user `exUser` = `{1:off, 2:null, 4:on, 5:null}` -/
example : fillWithCurated [(1, some true), (2, some false), (3, some true)]
    [(1, some false), (2, none), (4, some true), (5, none)] =
    [(1, some false), (2, some false), (3, some true), (4, some true)] := by decide +kernel

/-- the hypotheses `WF` are satisfiable by those instances -/
example : Cfg.WF [(1, some false), (2, none), (4, some true), (5, (none : Option Bool))] := exUser_wf

/-- `merge_from` leaves its argument cleared, not empty -/
example : mergeFrom [(1, some true)] [(1, some false), (2, none)] =
    ([(1, some false)], [(1, none), (2, none)]) := by decide +kernel

/-- the `contains_key` quirk: after `clear`, `set_rule_enabled_if_unset` does nothing -/
example : isEnabled (setIfUnset 1 true (clear [(1, some true)])) 1 = false := by decide +kernel
example : isEnabled (setIfUnset 1 true (unset 1 [(1, some false)])) 1 = true := by decide +kernel

/-- a group with two whole-document rules (1, 4) and two pattern rules (2, 3) -/
def exR : Rules Nat Nat Nat where
  doc := [(1, fun d => [⟨d, d + 1, 10⟩]), (4, fun d => [⟨0, d, 40⟩, ⟨1, d, 41⟩])]
  pat := [(2, fun g => [⟨g, g + 2, 20⟩]), (3, fun g => if g = 7 then [⟨0, 1, 30⟩] else [])]

def exD : Doc Nat Nat := ⟨5, [(100, 7), (200, 8), (300, 7)]⟩

/-- all on: whole-document rules first, then per chunk the pattern rules; chunk 7 recurs (a hit) -/
example : (lint exR 2 [] [(1, some true), (2, some true), (3, some true), (4, some true)] exD).1 =
    [⟨5, 6, 10⟩, ⟨0, 5, 40⟩, ⟨1, 5, 41⟩,
     ⟨107, 109, 20⟩, ⟨100, 101, 30⟩, ⟨208, 210, 20⟩, ⟨307, 309, 20⟩, ⟨300, 301, 30⟩] := by decide +kernel

/-- rule 2 off (and an unknown key 9 on): rule 2's lints are gone, everything else is unchanged -/
example : (lint exR 2 [] [(1, some true), (2, some false), (3, some true), (4, some true), (9, some true)] exD).1 =
    [⟨5, 6, 10⟩, ⟨0, 5, 40⟩, ⟨1, 5, 41⟩, ⟨100, 101, 30⟩, ⟨300, 301, 30⟩] := by decide +kernel

/-- the hypotheses of `lint_is_combination` / `lint_is_combination_maps` hold for that group -/
example : (exR.doc.map (·.1) ++ exR.pat.map (·.1)).Nodup := by decide +kernel
example : (exR.doc.map (·.1)).Nodup ∧ (exR.pat.map (·.1)).Nodup := by decide +kernel

/-- one name in both maps (the curated group's `Intact`): one switch drives two rules, and the
disjointness hypothesis of `lint_is_combination` fails while `lint_is_combination_maps` applies -/
def exShared : Rules Nat Nat Nat where
  doc := [(1, fun _ => [⟨17, 24, 0⟩])]
  pat := [(1, fun _ => [⟨17, 24, 1⟩])]

example : (lint exShared 2 [] (only 1) ⟨0, [(0, 5)]⟩).1 = [⟨17, 24, 0⟩, ⟨17, 24, 1⟩] := by decide +kernel
example : ¬ (exShared.doc.map (·.1) ++ exShared.pat.map (·.1)).Nodup := by decide +kernel

/-! ### the theorems above applied to these data (joint non-vacuity of their hypotheses) -/

/-- non-vacuity of mergeFrom_spec / fillWithCurated_spec: key 1 (explicit off wins over curated on),
key 2 (`null`: curated off stays), key 3 (absent: curated on), key 4 (unknown, explicit on: kept) -/
example : get 1 (mergeFrom exCur exUser).1 = some (some false) ∧ (mergeFrom exCur exUser).2 = clear exUser :=
  mergeFrom_spec exCur exUser exUser_wf 1
example : get 2 (fillWithCurated exCur exUser) = get 2 exCur := fillWithCurated_spec exCur exUser exUser_wf 2
example : get 4 (fillWithCurated exCur exUser) = some (some true) := fillWithCurated_spec exCur exUser exUser_wf 4

/-- non-vacuity of explicit_choice_wins -/
example : isEnabled (fillWithCurated exCur exUser) 1 = false :=
  explicit_choice_wins exCur exUser exUser_wf 1 false (by decide +kernel)
/-- non-vacuity of unmentioned_takes_default: `null` (key 2) and absent (key 3) -/
example : get 2 (fillWithCurated exCur exUser) = some (some false) :=
  unmentioned_takes_default exCur exUser exUser_wf 2 (Or.inr (by decide +kernel))
example : get 3 (fillWithCurated exCur exUser) = some (some true) :=
  unmentioned_takes_default exCur exUser exUser_wf 3 (Or.inl (by decide +kernel))

/-- non-vacuity of wf_preserved -/
example : (setRule 2 true exCur).WF ∧ (unset 2 exCur).WF ∧ (setIfUnset 2 true exCur).WF ∧ (clear exCur).WF ∧
    (mergeFrom exCur exUser).1.WF ∧ (fillWithCurated exCur exUser).WF ∧ (Cfg.WF exUser → (mergeFrom exCur exUser).2.WF) :=
  wf_preserved exCur exUser 2 true exCur_wf

/-- non-vacuity of merge_assoc / fill_idempotent -/
example : get 1 (mergeFrom (mergeFrom [(1, some true), (6, some true)] exCur).1 exUser).1 =
    get 1 (mergeFrom [(1, some true), (6, some true)] (mergeFrom exCur exUser).1).1 :=
  merge_assoc _ exCur exUser exCur_wf exUser_wf 1
example : get 1 (mergeFrom (mergeFrom [(1, some true), (6, some true)] exCur).1 exUser).1 = some (some false) := by decide +kernel
example : get 4 (fillWithCurated exCur (fillWithCurated exCur exUser)) = get 4 (fillWithCurated exCur exUser) :=
  fill_idempotent exCur exUser exCur_wf exUser_wf 4

/-- non-vacuity of disabled_contributes_nothing: rule 2 is off in `cNo2` -/
example : (lint exR 2 [] cNo2 exD).1 = (lint (exR.without 2) 2 [] cNo2 exD).1 :=
  disabled_contributes_nothing exR 2 cNo2 exD 2 (by decide +kernel)

/-- non-vacuity of lint_is_combination: the right-hand side, evaluated -/
example : (lint exR 2 [] cAll exD).1 =
    ((exR.doc.map (·.1)).filter (isEnabled cAll)).flatMap
        (fun r => (lint exR 2 [] (only r) ⟨exD.whole, []⟩).1) ++
      exD.chunks.flatMap (fun ch =>
        ((exR.pat.map (·.1)).filter (isEnabled cAll)).flatMap
          (fun r => (lint exR 2 [] (only r) ⟨exD.whole, [ch]⟩).1)) :=
  lint_is_combination exR 2 cAll exD (by decide +kernel)
/-- … `lint_is_combination_maps` for the group with a shared name -/
example : (lint exShared 2 [] (only 1) ⟨0, [(0, 5)]⟩).1 =
    ((exShared.doc.map (·.1)).filter (isEnabled (only 1))).flatMap
        (fun r => (lint exShared.docOnly 2 [] (only r) ⟨0, []⟩).1) ++
      [(0, 5)].flatMap (fun ch =>
        ((exShared.pat.map (·.1)).filter (isEnabled (only 1))).flatMap
          (fun r => (lint exShared.patOnly 2 [] (only r) ⟨0, [ch]⟩).1)) :=
  lint_is_combination_maps exShared 2 (only 1) ⟨0, [(0, 5)]⟩ (by decide +kernel) (by decide +kernel)
/-- what each rule of `exR` produces on its own on `exD` -/
example : (lint exR 2 [] (only 2) exD).1 = [⟨107, 109, 20⟩, ⟨208, 210, 20⟩, ⟨307, 309, 20⟩] ∧
    (lint exR 2 [] (only 3) exD).1 = [⟨100, 101, 30⟩, ⟨300, 301, 30⟩] ∧
    (lint exR 2 [] (only 4) exD).1 = [⟨0, 5, 40⟩, ⟨1, 5, 41⟩] := by decide +kernel

/-- non-vacuity of toggle_independent: `cAll` and `cNo2` differ on rule 2 and agree on rule 3;
the attributed lints of rule 3 are the same non-empty list -/
example : (lintT exR cAll exD).filter (fun p => p.1 = 3) = (lintT exR cNo2 exD).filter (fun p => p.1 = 3) :=
  (toggle_independent exR 2 cAll cNo2 exD 3 (by decide +kernel)).2.2
example : (lintT exR cNo2 exD).filter (fun p => p.1 = 3) = [(3, ⟨100, 101, 30⟩), (3, ⟨300, 301, 30⟩)] := by decide +kernel
/-- non-vacuity of toggle_independent_setRule -/
example : isEnabled (setRule 2 false cAll) 3 = isEnabled cAll 3 :=
  toggle_independent_setRule cAll 2 3 false (by decide +kernel)
/-- non-vacuity of others_unchanged: switching rule 2 off (`setRule`) keeps the lints of rules 1, 3, 4 -/
example : ((lint (exR.without 2) 2 [] cAll exD).1).Sublist (lint exR 2 [] (setRule 2 false cAll) exD).1 :=
  others_unchanged exR 2 cAll (setRule 2 false cAll) exD 2
    (fun k hk => (toggle_independent_setRule cAll 2 k false hk).symm)
example : (lint (exR.without 2) 2 [] cAll exD).1 =
    [⟨5, 6, 10⟩, ⟨0, 5, 40⟩, ⟨1, 5, 41⟩, ⟨100, 101, 30⟩, ⟨300, 301, 30⟩] := by decide +kernel

/-- non-vacuity of unknown_keys_harmless: unknown keys 9 (on) and 8 (off, `null`) -/
example : (lint exR 2 [] cAll exD).1 = (lint exR 2 [] (cAll ++ [(9, some true), (8, none)]) exD).1 :=
  unknown_keys_harmless exR 2 cAll _ exD (by decide +kernel)

/-- non-vacuity of lint_only_chunks / mem_lint_iff -/
example : (lint exR 2 [] (only 3) exD).1 =
    exD.chunks.flatMap (fun ch => (lint exR 2 [] (only 3) ⟨exD.whole, [ch]⟩).1) :=
  lint_only_chunks exR 2 3 exD (by decide +kernel)
example : (⟨300, 301, 30⟩ : PLint) ∈ (lint exR 2 [] cNo2 exD).1 :=
  (mem_lint_iff exR 2 cNo2 exD _).mpr ⟨3, by decide +kernel, by decide +kernel⟩

end Harper.C11
