import Harper.Lemmas.MergeRules
import Harper.Lemmas.SpellRule
import Harper.Props.C12d
import Harper.Props.C12e
import Harper.Props.C03f
/-!
# C12 (`merge_linters!` rules) — `collect ++ remove_overlaps` over several paragraph-local children is paragraph-local

`merge_linters!` runs its children in order on the whole document, concatenates their lints and calls `remove_overlaps`. With
`cᵢ(X)` the lints of child `i` on text `X`, the candidates of `P ++ D` are `c₁(P) ++ sh c₁(D) ++ c₂(P) ++ sh c₂(D) ++ …` — an
INTERLEAVING of the candidates of the parts `c₁(P) ++ c₂(P) ++ …` and `c₁(D) ++ c₂(D) ++ …`.

* `removeOverlaps_interleaving` (from `Lemmas/MergeRules.lean`): for lint lists `a₁ … aₙ` that START BEFORE `k` and end at or
  before it and `b₁ … bₙ` that start at or after `k`, `remove_overlaps (a₁ ++ b₁ ++ … ++ aₙ ++ bₙ) = remove_overlaps (a₁ ++ … ++ aₙ)
  ++ remove_overlaps (b₁ ++ … ++ bₙ)`, for `remove_overlaps` as coded (stable sort, sweep, `remove_indices`);
  `removeOverlaps_two_classes`: the same for ANY interleaving of two classes with `a.start < b.start ∧ a.end ≤ b.start` for every
  pair. **"every span of the first class ends at or before the break" is NOT enough**: a zero-width lint of the first class AT the break
  sorts after a longer lint of the second class starting there (longest first) and is swallowed (`interleaving_needs_strict`). The
  paragraph break guarantees strictness: every token of `P` is non-empty (`document_tokOK`) and ends inside `P`, and a lint's
  span starts at or before the start of one of its matched tokens (`patternRule_leftIn`).
* `mergeLinters_appendsP`: children that `Appends` and report inside the left part ⇒ the merged rule appends, UP TO WHICH PANIC
  is reported (`SameOrBothPanic`; the whole runs child 1 on both parts before child 2 — witness `merged_panic_order`); it panics
  iff one of the parts does.
* `mergeLinters_paragraphs_separately`: for ANY list of `Fine` children, end to end from the characters of `P` and `D`, with
  equality (the children are total); `mergedRule_paragraphs_separately` for `FineE` children;
  `mergedRule_paragraphs_separately_anyEnv`: for local children and ANY `Env`, up to which panic.
* `hopHope_…`, `letsConfusion_…`, `pronounContraction_…` (`ContractLowerOK`), `compoundNouns_…` (`DictOK`) `_paragraphs_separately`.

SpellCheck as a rule (`Model/SpellRule.lean`):

* `spellCheck_paragraphs_separately`: the rule without its cache, end to end;
* **`spellCheck_cache_transparent`**: an instance with ANY `word_cache` state that satisfies `CacheInv` (every entry is what the
  uncached search returns for its key: the cache only holds entries produced by this rule for this dictionary) and ANY capacity
  returns what the cache-less rule returns — lints and panics — and `spellCheck_cacheInv_preserved`: it leaves such a state
  behind (`CacheInv` holds of the empty cache: `cacheInv_empty`); `spellCheck_session_transparent` for a whole history;
* hence `spellCheck_cached_paragraphs_separately`: three instances with any three such caches;
* `spellCheck_anyKey_transparent`: the same for a cache keyed by `key word` PROVIDED the suggestions factor through `key`
  (`KeySound`); the seeded change C12r3 keys by the lower-cased word, the search does not factor through it (`teh` / `Teh` get
  different results from the real dictionary), and `lowercaseKey_not_transparent` is the kernel-checked witness.
-/
namespace Harper.C12
open Harper Harper.Chunks Harper.Rules Harper.Leaves Harper.PatternRules Harper.MergeRules

/-! ## the lemma about `remove_overlaps` -/

/-- **the interleaving lemma**, for the model's `remove_overlaps` as coded -/
theorem removeOverlaps_interleaving (k : Nat) (ps : List (List RuleLint × List RuleLint))
    (hA : ∀ p ∈ ps, ∀ a ∈ p.1, a.span.start < k ∧ a.span.stop ≤ k) (hB : ∀ p ∈ ps, ∀ b ∈ p.2, k ≤ b.span.start) :
    removeOverlapsRL (ps.flatMap fun p => p.1 ++ p.2) = removeOverlapsRL (ps.flatMap (·.1)) ++ removeOverlapsRL (ps.flatMap (·.2)) :=
  removeOverlapsRL_interleave k ps hA hB

/-- any interleaving `L` of two classes (with / without `p`), every lint of the first starting strictly before and ending at or
before the start of every lint of the second -/
theorem removeOverlaps_two_classes (p : RuleLint → Bool) (L : List RuleLint)
    (h : ∀ a ∈ L, ∀ b ∈ L, p a = true → p b = false → a.span.start < b.span.start ∧ a.span.stop ≤ b.span.start) :
    removeOverlapsRL L = removeOverlapsRL (L.filter p) ++ removeOverlapsRL (L.filter fun x => !p x) :=
  removeOverlapsRL_split p L h

/-- `remove_overlaps` of rule lints IS stable sort by `(start, longest first)` followed by the sweep -/
theorem removeOverlaps_is_sort_then_sweep (ls : List RuleLint) : removeOverlapsRL ls = sweepRL 0 (isortRL ls) :=
  removeOverlapsRL_eq_sweepRL ls

/-- **"every `a` ends at or before `k`" is not enough.** Child 1 reports `[2, 4)` on the right part, child 2 the zero-width
`[2, 2)` on the left part (`k = 2`): the whole keeps only `[2, 4)`, the parts keep both -/
theorem interleaving_needs_strict :
    removeOverlapsRL (([] : List RuleLint) ++ [⟨⟨2, 4⟩, [], 1, 0⟩] ++ ([⟨⟨2, 2⟩, [], 2, 0⟩] ++ [])) = [⟨⟨2, 4⟩, [], 1, 0⟩] ∧
      removeOverlapsRL ([] ++ [⟨⟨2, 2⟩, [], 2, 0⟩]) ++ removeOverlapsRL ([⟨⟨2, 4⟩, [], 1, 0⟩] ++ []) =
        [⟨⟨2, 2⟩, [], 2, 0⟩, ⟨⟨2, 4⟩, [], 1, 0⟩] := by decide

/-- … and with two zero-width lints at `k` the whole keeps both, in the other order (equal keys: the stable sort keeps input order) -/
example : removeOverlapsRL [⟨⟨2, 2⟩, [], 1, 0⟩, ⟨⟨2, 2⟩, [], 2, 0⟩] = [⟨⟨2, 2⟩, [], 1, 0⟩, ⟨⟨2, 2⟩, [], 2, 0⟩] := by decide +kernel

/-- the hypotheses of the lemma are satisfiable with work to do on both sides: `a₁ = [0,3)`, `b₁ = [7,9)`, `a₂ = [1,2), [4,5)`,
`b₂ = [6,8)`, `k = 5` -/
example : removeOverlapsRL ([⟨⟨0, 3⟩, [], 1, 0⟩] ++ [⟨⟨7, 9⟩, [], 2, 0⟩] ++ ([⟨⟨1, 2⟩, [], 3, 0⟩, ⟨⟨4, 5⟩, [], 4, 0⟩] ++ [⟨⟨6, 8⟩, [], 5, 0⟩])) =
    [⟨⟨0, 3⟩, [], 1, 0⟩, ⟨⟨4, 5⟩, [], 4, 0⟩, ⟨⟨6, 8⟩, [], 5, 0⟩] := by decide +kernel

/-! ## `merge_linters!` of rules that append -/

/-- `Appends`, up to which panic is reported -/
def AppendsP (r : PieceRule) : Prop :=
  ∀ (P D : List Char) (A0 : List Tok) (brk : Tok) (td : List Tok), brk.kind.isParagraphBreak = true →
    (∀ t ∈ A0 ++ [brk], tokOK t = true ∧ t.span.stop ≤ P.length) → (∀ t ∈ td, tokOK t = true) →
    SameOrBothPanic (r (P ++ D) ((A0 ++ [brk]) ++ shiftDoc P.length (A0 ++ [brk]).length td))
      (joinE P.length (r P (A0 ++ [brk])) (r D td))

/-- on tokens that are non-empty and end at or before `k`, `r` reports only lints that start before `k` and end at or before it -/
def LeftIn (r : PieceRule) : Prop :=
  ∀ (src : List Char) (toks : List Tok) (k : Nat), (∀ t ∈ toks, tokOK t = true ∧ t.span.stop ≤ k) →
    ∀ ls, r src toks = .ok ls → ∀ l ∈ ls, l.span.start < k ∧ l.span.stop ≤ k

/-- every `PatternLinter` is `LeftIn`, whatever its tree and its `match_to_lint`: the span is a selection of matched tokens -/
theorem patternRule_leftIn (env : Env) (r : PRule) : LeftIn (r.rule env) :=
  fun src toks k hin ls h => PRule.rule_leftIn env r src toks k hin ls h

/-- **`merge_linters!` of rules that append and report inside the left part appends** — lints exactly; it panics iff one of the
parts does -/
theorem mergeLinters_appendsP (rs : List PieceRule) (hA : ∀ r ∈ rs, Appends r) (hL : ∀ r ∈ rs, LeftIn r) :
    AppendsP (mergeLinters rs) := by
  intro P D A0 brk td hb hin hd
  apply mergeLinters_join
  · intro r hr; exact hA r hr P D A0 brk td hb hin hd
  · intro r hr ls e; exact hL r hr P (A0 ++ [brk]) P.length hin ls e

/-- … with equality when the children return on both parts -/
theorem mergeLinters_appends_of_total (rs : List PieceRule) (hA : ∀ r ∈ rs, Appends r) (hL : ∀ r ∈ rs, LeftIn r)
    (P D : List Char) (A0 : List Tok) (brk : Tok) (td : List Tok) (hb : brk.kind.isParagraphBreak = true)
    (hin : ∀ t ∈ A0 ++ [brk], tokOK t = true ∧ t.span.stop ≤ P.length) (hd : ∀ t ∈ td, tokOK t = true)
    (hokP : ∀ r ∈ rs, ∃ ls, r P (A0 ++ [brk]) = .ok ls) (hokD : ∀ r ∈ rs, ∃ ls, r D td = .ok ls) :
    mergeLinters rs (P ++ D) ((A0 ++ [brk]) ++ shiftDoc P.length (A0 ++ [brk]).length td) =
      joinE P.length (mergeLinters rs P (A0 ++ [brk])) (mergeLinters rs D td) :=
  mergeLinters_join_ok _ rs _ _ _ _ _ _ (fun r hr => hA r hr P D A0 brk td hb hin hd)
    (fun r hr ls e => hL r hr P (A0 ++ [brk]) P.length hin ls e) hokP hokD

/-- **which panic**: child 1 panics on the right part only, child 2 on the left part only. The whole reports child 1's panic
(it runs child 1 on the whole document first), the parts report child 2's (the left part is linted first). Both panic. -/
theorem merged_panic_order :
    let r1 : PieceRule := fun src _ => if src = ['d'] ∨ src = ['p', 'd'] then .error .sliceOOB else .ok []
    let r2 : PieceRule := fun src _ => if src = ['p'] ∨ src = ['p', 'd'] then .error .underflow else .ok []
    (∀ r ∈ [r1, r2], r (['p'] ++ ['d']) [] = joinE 1 (r ['p'] []) (r ['d'] [])) ∧
      mergeLinters [r1, r2] (['p'] ++ ['d']) [] = .error .sliceOOB ∧
      joinE 1 (mergeLinters [r1, r2] ['p'] []) (mergeLinters [r1, r2] ['d'] []) = .error .underflow := by decide

/-! ## end to end: from the characters of `P` and `D` -/

/-- C12 for a rule that `AppendsP` -/
theorem separately_of_appendsP (r : PieceRule) (hr : AppendsP r) (cls : Cls) (P0 D : List Char) (k : Nat)
    (extP extD extPD : Ext) (h : ParagraphPair cls P0 D k extP extD extPD) :
    SameOrBothPanic (docRule cls extPD r ((P0 ++ List.replicate k '\n') ++ D))
      (joinE (P0 ++ List.replicate k '\n').length (docRule cls extP r (P0 ++ List.replicate k '\n')) (docRule cls extD r D)) := by
  obtain ⟨A0, pb, td, hpb, eP, eD, ePD, hin⟩ :=
    document_append cls h.cls_ok P0 D k h.two h.no_nl_end h.d_head h.no_quotes extP extD extPD h.ext_local h.ext_ok_p
      h.ext_ok_d h.ext_no_nl
  have hokP := document_tokOK cls extP _ h.ext_ok_p _ eP
  have hokD := document_tokOK cls extD _ h.ext_ok_d _ eD
  generalize P0 ++ List.replicate k '\n' = P at *
  have hbk : pb.kind.isParagraphBreak = true := by rw [hpb]; rfl
  have ePD' : document cls extPD (P ++ D) = .ok ((A0 ++ [pb]) ++ shiftDoc P.length (A0 ++ [pb]).length td) := ePD
  simp only [docRule, eP, eD, ePD']
  exact hr P D A0 pb td hbk (fun t ht => ⟨hokP t ht, hin t ht⟩) hokD

/-- children whose tree and spec are local: each appends -/
theorem mergeChild_appends (env : Env) (c : PRule) (hloc : c.pat.Loc) (hs : SpecLoc c.spec) : Appends (c.rule env) :=
  appends_chunks _ (PRule.xlocalEL env c hloc hs)

/-- **a `merge_linters!` rule over local children, ANY `Env`**: paragraph-local up to which panic is reported -/
theorem mergedRule_paragraphs_separately_anyEnv (env : Env) (children : List PRule) (hc : ∀ c ∈ children, c.pat.Loc ∧ SpecLoc c.spec)
    (cls : Cls) (P0 D : List Char) (k : Nat) (extP extD extPD : Ext) (h : ParagraphPair cls P0 D k extP extD extPD) :
    SameOrBothPanic (docRule cls extPD (mergedRule env children) ((P0 ++ List.replicate k '\n') ++ D))
      (joinE (P0 ++ List.replicate k '\n').length (docRule cls extP (mergedRule env children) (P0 ++ List.replicate k '\n'))
        (docRule cls extD (mergedRule env children) D)) := by
  apply separately_of_appendsP _ _ cls P0 D k extP extD extPD h
  apply mergeLinters_appendsP
  · intro r hr
    obtain ⟨c, hcm, rfl⟩ := List.mem_map.mp hr
    exact mergeChild_appends env c (hc c hcm).1 (hc c hcm).2
  · intro r hr
    obtain ⟨c, hcm, rfl⟩ := List.mem_map.mp hr
    exact patternRule_leftIn env c

/-- **a `merge_linters!` rule over `FineE` children**, end to end (lexer, condensing passes, `iter_chunks`, `run_on_chunk`, the
trees, the `match_to_lint`s, `remove_overlaps`): `rule(P ++ D) = rule(P) ++ shift(rule(D))` -/
theorem mergedRule_paragraphs_separately (env : Env) (children : List PRule) (hc : ∀ c ∈ children, FineE env c)
    (cls : Cls) (P0 D : List Char) (k : Nat) (extP extD extPD : Ext) (h : ParagraphPair cls P0 D k extP extD extPD) :
    docRule cls extPD (mergedRule env children) ((P0 ++ List.replicate k '\n') ++ D) =
      joinE (P0 ++ List.replicate k '\n').length (docRule cls extP (mergedRule env children) (P0 ++ List.replicate k '\n'))
        (docRule cls extD (mergedRule env children) D) := by
  have hs := mergedRule_paragraphs_separately_anyEnv env children (fun c hcm => ⟨(hc c hcm).loc, (hc c hcm).sloc⟩) cls P0 D k extP extD
    extPD h
  obtain ⟨tP, eP, hTP⟩ := C02.document_tiles cls extP _ h.ext_ok_p
  obtain ⟨tD, eD, hTD⟩ := C02.document_tiles cls extD _ h.ext_ok_d
  obtain ⟨lP, elP, _⟩ := C03.mergedRule_spans_wf env children hc _ tP (C03.inText_of_tiles _ _ hTP)
  obtain ⟨lD, elD, _⟩ := C03.mergedRule_spans_wf env children hc _ tD (C03.inText_of_tiles _ _ hTD)
  -- both parts return, so the two sides are equal and not only both panics
  have hy : joinE (P0 ++ List.replicate k '\n').length (docRule cls extP (mergedRule env children) (P0 ++ List.replicate k '\n'))
      (docRule cls extD (mergedRule env children) D) = .ok (lP ++ shiftRLs (P0 ++ List.replicate k '\n').length lD) := by
    simp only [docRule, eP, eD, elP, elD, joinE]
  exact (hs.eq_of_ok hy).trans hy.symm

/-- **`merge_linters!` over ANY list of `Fine` children** (`Lemmas/PatternRules.lean`: all 28 shipped pattern rules are) -/
theorem mergeLinters_paragraphs_separately (env : Env) (children : List PRule) (hc : ∀ c ∈ children, Fine c)
    (cls : Cls) (P0 D : List Char) (k : Nat) (extP extD extPD : Ext) (h : ParagraphPair cls P0 D k extP extD extPD) :
    docRule cls extPD (mergeLinters (children.map fun c => c.rule env)) ((P0 ++ List.replicate k '\n') ++ D) =
      joinE (P0 ++ List.replicate k '\n').length
        (docRule cls extP (mergeLinters (children.map fun c => c.rule env)) (P0 ++ List.replicate k '\n'))
        (docRule cls extD (mergeLinters (children.map fun c => c.rule env)) D) :=
  mergedRule_paragraphs_separately env children (fun c hcm => FineE.of_fine env c (hc c hcm)) cls P0 D k extP extD extPD h

/-! ## the four rules -/

theorem hopHope_paragraphs_separately (env : Env) (cls : Cls) (P0 D : List Char) (k : Nat) (extP extD extPD : Ext)
    (h : ParagraphPair cls P0 D k extP extD extPD) :
    docRule cls extPD (ruleHopHope env) ((P0 ++ List.replicate k '\n') ++ D) =
      joinE (P0 ++ List.replicate k '\n').length (docRule cls extP (ruleHopHope env) (P0 ++ List.replicate k '\n'))
        (docRule cls extD (ruleHopHope env) D) :=
  mergedRule_paragraphs_separately env _ (hopHope_children env) cls P0 D k extP extD extPD h

theorem letsConfusion_paragraphs_separately (env : Env) (cls : Cls) (P0 D : List Char) (k : Nat) (extP extD extPD : Ext)
    (h : ParagraphPair cls P0 D k extP extD extPD) :
    docRule cls extPD (ruleLetsConfusion env) ((P0 ++ List.replicate k '\n') ++ D) =
      joinE (P0 ++ List.replicate k '\n').length (docRule cls extP (ruleLetsConfusion env) (P0 ++ List.replicate k '\n'))
        (docRule cls extD (ruleLetsConfusion env) D) :=
  mergedRule_paragraphs_separately env _ (letsConfusion_children env) cls P0 D k extP extD extPD h

theorem pronounContraction_paragraphs_separately (env : Env) (hl : ContractLowerOK env) (cls : Cls) (P0 D : List Char) (k : Nat)
    (extP extD extPD : Ext) (h : ParagraphPair cls P0 D k extP extD extPD) :
    docRule cls extPD (rulePronounContraction env) ((P0 ++ List.replicate k '\n') ++ D) =
      joinE (P0 ++ List.replicate k '\n').length (docRule cls extP (rulePronounContraction env) (P0 ++ List.replicate k '\n'))
        (docRule cls extD (rulePronounContraction env) D) :=
  mergedRule_paragraphs_separately env _ (pronounContraction_children env hl) cls P0 D k extP extD extPD h

theorem compoundNouns_paragraphs_separately (env : Env) (hd : DictOK env) (cls : Cls) (P0 D : List Char) (k : Nat)
    (extP extD extPD : Ext) (h : ParagraphPair cls P0 D k extP extD extPD) :
    docRule cls extPD (ruleCompoundNouns env) ((P0 ++ List.replicate k '\n') ++ D) =
      joinE (P0 ++ List.replicate k '\n').length (docRule cls extP (ruleCompoundNouns env) (P0 ++ List.replicate k '\n'))
        (docRule cls extD (ruleCompoundNouns env) D) :=
  mergedRule_paragraphs_separately env _ (compoundNouns_children env hd) cls P0 D k extP extD extPD h

theorem mergedChildren_local : ∀ x ∈ allMergedRules, ∀ c ∈ x.2, c.pat.Loc ∧ SpecLoc c.spec :=
  all_cons (all_cons (local_of_fine fineToHop) <| all_cons (local_of_fine fineToHope) all_nil) <|
  all_cons (all_cons generalCompoundNouns_local <| all_cons impliedInstantiatedCompoundNouns_local <|
    all_cons impliedOwnershipCompoundNouns_local all_nil) <|
  all_cons (all_cons shouldContract_local <| all_cons (local_of_fine fineAvoidContraction) all_nil) <|
  all_cons (all_cons (local_of_fine fineLetUsRedundancy) <| all_cons (local_of_fine fineNoContractionWithVerb) all_nil) all_nil

/-- the four rules for ANY dictionary and ANY `to_lowercase`: paragraph-local up to which panic is reported -/
theorem mergedRules_paragraphs_separately_anyEnv (env : Env) (name : String) (children : List PRule)
    (hn : mergedByName name = some children) (cls : Cls) (P0 D : List Char) (k : Nat) (extP extD extPD : Ext)
    (h : ParagraphPair cls P0 D k extP extD extPD) :
    SameOrBothPanic (docRule cls extPD (mergedRule env children) ((P0 ++ List.replicate k '\n') ++ D))
      (joinE (P0 ++ List.replicate k '\n').length (docRule cls extP (mergedRule env children) (P0 ++ List.replicate k '\n'))
        (docRule cls extD (mergedRule env children) D)) :=
  mergedRule_paragraphs_separately_anyEnv env children
    (fun c hc => mergedChildren_local (name, children) (mem_of_lookup hn) c hc) cls P0 D k extP extD extPD h

/-! ## non-vacuity (kernel-evaluated, through the model's own lexer) -/

open Harper.C02 (asciiCls)
open Harper.C01 (envM)

/-- the tokens of `I hop we.¶¶`, of `We hope on a bus`, and of the two joined (what `document` returns for them) -/
def hopP : List Tok :=
  [⟨⟨0, 1⟩, .word⟩, ⟨⟨1, 2⟩, .space 1⟩, ⟨⟨2, 5⟩, .word⟩, ⟨⟨5, 6⟩, .space 1⟩, ⟨⟨6, 8⟩, .word⟩, ⟨⟨8, 9⟩, .punct .Period⟩, ⟨⟨9, 11⟩, .paragraphBreak⟩]
def hopD : List Tok :=
  [⟨⟨0, 2⟩, .word⟩, ⟨⟨2, 3⟩, .space 1⟩, ⟨⟨3, 7⟩, .word⟩, ⟨⟨7, 8⟩, .space 1⟩, ⟨⟨8, 10⟩, .word⟩, ⟨⟨10, 11⟩, .space 1⟩, ⟨⟨11, 12⟩, .word⟩,
    ⟨⟨12, 13⟩, .space 1⟩, ⟨⟨13, 16⟩, .word⟩]

example : document asciiCls noExt c!"I hop we.\n\n" = .ok hopP := by decide +kernel

/-- HopHope on `I hop we.¶¶` + `We hope on a bus`: one lint per paragraph — and from DIFFERENT children (ToHope in `P`, ToHop in
`D`), so the candidate list of the whole is `[] ++ sh [hope] ++ [hop] ++ []`: `remove_overlaps` has to reorder -/
example : ruleHopHope envM (c!"I hop we.\n\n" ++ c!"We hope on a bus") (hopP ++ shiftDoc 11 hopP.length hopD) =
    .ok [⟨⟨2, 5⟩, [.replaceWith c!"hope"], 51, 0⟩, ⟨⟨14, 18⟩, [.replaceWith c!"hop"], 50, 0⟩] := by decide +kernel

example : ruleHopHope envM c!"I hop we.\n\n" hopP = .ok [⟨⟨2, 5⟩, [.replaceWith c!"hope"], 51, 0⟩] ∧
    ruleHopHope envM c!"We hope on a bus" hopD = .ok [⟨⟨3, 7⟩, [.replaceWith c!"hop"], 50, 0⟩] := by decide +kernel

/-! ## SpellCheck as a rule -/

open Harper.SpellRule

theorem spellCheck_appends (senv : SpellEnv) : Appends (ruleSpellCheck senv) := appends_perTok _ (spellTok_tokLocal senv)

/-- **C12 for SpellCheck without its cache, end to end** -/
theorem spellCheck_paragraphs_separately (senv : SpellEnv) (cls : Cls) (P0 D : List Char) (k : Nat) (extP extD extPD : Ext)
    (h : ParagraphPair cls P0 D k extP extD extPD) :
    docRule cls extPD (ruleSpellCheck senv) ((P0 ++ List.replicate k '\n') ++ D) =
      joinE (P0 ++ List.replicate k '\n').length (docRule cls extP (ruleSpellCheck senv) (P0 ++ List.replicate k '\n'))
        (docRule cls extD (ruleSpellCheck senv) D) :=
  separately_of_appends _ (spellCheck_appends senv) cls P0 D k extP extD extPD h

theorem cacheInv_empty (senv : SpellEnv) : CacheInv senv [] := fun e he => by cases he

/-- **the word cache is transparent**: any state satisfying the invariant, any capacity — same lints, same panics -/
theorem spellCheck_cache_transparent (senv : SpellEnv) (cap : Nat) (st : WordCache) (hi : CacheInv senv st) (src : List Char)
    (toks : List Tok) : (spellCheckLint senv cap st src toks).1 = ruleSpellCheck senv src toks :=
  (spellCheckLint_spec senv cap st hi src toks).1

/-- **the invariant is preserved** by `lint` (also by a `lint` that panics half-way) -/
theorem spellCheck_cacheInv_preserved (senv : SpellEnv) (cap : Nat) (st : WordCache) (hi : CacheInv senv st) (src : List Char)
    (toks : List Tok) : CacheInv senv (spellCheckLint senv cap st src toks).2 :=
  (spellCheckLint_spec senv cap st hi src toks).2

/-- a long-lived instance, started with an empty cache, reports on every document of its history what a fresh one would -/
theorem spellCheck_session_transparent (senv : SpellEnv) (cap : Nat) (docs : List (List Char × List Tok)) :
    spellSession senv id cap [] docs = docs.map fun d => ruleSpellCheck senv d.1 d.2 :=
  spellSession_spec senv id (keySound_id senv) cap docs [] (keyInv_nil senv id)

/-- a cache keyed by `key word` is transparent when the suggestions factor through `key` -/
theorem spellCheck_anyKey_transparent (senv : SpellEnv) (key : List Char → List Char) (hk : KeySound senv key) (cap : Nat)
    (st : WordCache) (hi : KeyInv senv key st) (src : List Char) (toks : List Tok) :
    (spellGo senv key cap src st toks).1 = ruleSpellCheck senv src toks ∧ KeyInv senv key (spellGo senv key cap src st toks).2 :=
  spellGo_spec senv key hk cap src toks st hi

/-- `SpellCheck::lint` of an instance with cache `st` on `Document::new(src, &PlainEnglish, _)` -/
def docSpell (cls : Cls) (ext : Ext) (senv : SpellEnv) (cap : Nat) (st : WordCache) (src : List Char) : Except Panic (List RuleLint) :=
  match document cls ext src with
  | .error e => .error e
  | .ok toks => (spellCheckLint senv cap st src toks).1

theorem docSpell_eq (cls : Cls) (ext : Ext) (senv : SpellEnv) (cap : Nat) (st : WordCache) (hi : CacheInv senv st) (src : List Char) :
    docSpell cls ext senv cap st src = docRule cls ext (ruleSpellCheck senv) src := by
  simp only [docSpell, docRule]
  cases document cls ext src with
  | error e => rfl
  | ok toks => simp only [spellCheck_cache_transparent senv cap st hi]

/-- **C12 for SpellCheck with its cache**: three instances (or one instance at three moments of its life) with any caches that
satisfy the invariant, any capacities -/
theorem spellCheck_cached_paragraphs_separately (senv : SpellEnv) (capW capP capD : Nat) (stW stP stD : WordCache)
    (hW : CacheInv senv stW) (hP : CacheInv senv stP) (hD : CacheInv senv stD)
    (cls : Cls) (P0 D : List Char) (k : Nat) (extP extD extPD : Ext) (h : ParagraphPair cls P0 D k extP extD extPD) :
    docSpell cls extPD senv capW stW ((P0 ++ List.replicate k '\n') ++ D) =
      joinE (P0 ++ List.replicate k '\n').length (docSpell cls extP senv capP stP (P0 ++ List.replicate k '\n'))
        (docSpell cls extD senv capD stD D) := by
  rw [docSpell_eq cls extPD senv capW stW hW, docSpell_eq cls extP senv capP stP hP, docSpell_eq cls extD senv capD stD hD]
  exact spellCheck_paragraphs_separately senv cls P0 D k extP extD extPD h

open Harper.C01 (spellEnv0)

/-- the seeded change C12r3: the cache keyed by the lower-cased word -/
def lowerKey : List Char → List Char := fun w => w.map lowerAscii

/-- **a cache keyed by the lower-cased word is NOT transparent**: one instance lints `teh` and then `Teh`; the second document
gets the cached suggestions of `teh` (capitalised) instead of those of `Teh` -/
theorem lowercaseKey_not_transparent :
    spellSession spellEnv0 lowerKey 10000 [] [(c!"teh", [⟨⟨0, 3⟩, .word⟩]), (c!"Teh", [⟨⟨0, 3⟩, .word⟩])] =
        [.ok [⟨⟨0, 3⟩, [.replaceWith c!"ten", .replaceWith c!"tea", .replaceWith c!"tech"], 60, 0⟩],
          .ok [⟨⟨0, 3⟩, [.replaceWith c!"Ten", .replaceWith c!"Tea", .replaceWith c!"Tech"], 60, 0⟩]] ∧
      ruleSpellCheck spellEnv0 c!"Teh" [⟨⟨0, 3⟩, .word⟩] = .ok [⟨⟨0, 3⟩, [.replaceWith c!"Te", .replaceWith c!"Tet"], 60, 0⟩] := by decide

/-- … because the suggestions do not factor through that key -/
example : ¬ KeySound spellEnv0 lowerKey := by
  intro h
  have := h c!"teh" c!"Teh" (by decide +kernel)
  revert this
  decide +kernel

/-- … while the code's cache gives, for the same history, what two fresh instances give -/
example : spellSession spellEnv0 id 10000 [] [(c!"teh", [⟨⟨0, 3⟩, .word⟩]), (c!"Teh", [⟨⟨0, 3⟩, .word⟩])] =
    [.ok [⟨⟨0, 3⟩, [.replaceWith c!"ten", .replaceWith c!"tea", .replaceWith c!"tech"], 60, 0⟩],
      .ok [⟨⟨0, 3⟩, [.replaceWith c!"Te", .replaceWith c!"Tet"], 60, 0⟩]] := by decide +kernel

/-- a capacity of 1: the second word evicts the first, the third look-up is a miss again — same answers -/
example : (spellCheckLint spellEnv0 1 [] c!"teh Teh teh"
      [⟨⟨0, 3⟩, .word⟩, ⟨⟨3, 4⟩, .space 1⟩, ⟨⟨4, 7⟩, .word⟩, ⟨⟨7, 8⟩, .space 1⟩, ⟨⟨8, 11⟩, .word⟩]) =
    (ruleSpellCheck spellEnv0 c!"teh Teh teh"
      [⟨⟨0, 3⟩, .word⟩, ⟨⟨3, 4⟩, .space 1⟩, ⟨⟨4, 7⟩, .word⟩, ⟨⟨7, 8⟩, .space 1⟩, ⟨⟨8, 11⟩, .word⟩],
      [(c!"teh", [c!"ten", c!"tea", c!"tech", c!"the"])]) := by decide +kernel

end Harper.C12
