import Harper.Props.C13
/-!
# C13, third part — overlap removal as a function of the MULTISET of spans, and idempotence

The property quantifies over "all multisets of spans". `Props/C13.lean` proves its three clauses
for every list; what it leaves open is how far the answer depends on the ORDER in which the rules
happened to push their lints (a `LintGroup` iterates a hash map of rules). This file settles it:

* `removeOverlaps_spans_perm_invariant` — the list of spans kept is the same for every ordering
  of the input (only which of several lints with one and the same span survives depends on it,
  and that is fixed by `isort_stable`: the first in input order);
* `removeOverlaps_idempotent` — resolving an already resolved list changes nothing, so the JS
  API (`Linter::lint` after `LintGroup::lint`) and the CLI may apply it again without loss;
* `removeOverlaps_eq_self_of_resolved` — a key-sorted, conflict-free list is a fixed point, i.e.
  nothing is dropped unless there is a conflict.

No hypothesis on the lints (`start ≤ end` is not assumed).
-/
namespace Harper.C13
open Harper

/-- the sort order on keys (`Lint.le` only reads the key) -/
def keyLe (a b : Nat × Nat) : Prop := a.1 < b.1 ∨ (a.1 = b.1 ∧ b.2 ≤ a.2)

theorem keyLe_antisymm (a b : Nat × Nat) (h1 : keyLe a b) (h2 : keyLe b a) : a = b := by
  unfold keyLe at *
  exact Prod.ext (by omega) (by omega)

/-- **the sorted key sequence is a function of the multiset of spans** — stated for two lists
whose KEY lists are permutations of each other (the payloads may differ altogether) -/
theorem isort_keys_keyperm_invariant (l₁ l₂ : List Lint)
    (h : (l₁.map Lint.key).Perm (l₂.map Lint.key)) :
    (isort l₁).map Lint.key = (isort l₂).map Lint.key := by
  apply List.Perm.eq_of_pairwise (le := keyLe)
  · intro a b _ _ h1 h2; exact keyLe_antisymm a b h1 h2
  · exact List.pairwise_map.mpr (isort_key_sorted l₁)
  · exact List.pairwise_map.mpr (isort_key_sorted l₂)
  · exact ((((isort_perm l₁).map Lint.key).trans h).trans ((isort_perm l₂).map Lint.key).symm)

theorem isort_keys_perm_invariant (l₁ l₂ : List Lint) (h : l₁.Perm l₂) :
    (isort l₁).map Lint.key = (isort l₂).map Lint.key :=
  isort_keys_keyperm_invariant l₁ l₂ (h.map _)

/-- the sweep reads spans only: lists with the same key sequence keep the same key sequence -/
theorem sweep_keys_congr (cur : Nat) (xs ys : List Lint)
    (h : xs.map Lint.key = ys.map Lint.key) :
    (sweep cur xs).1.map Lint.key = (sweep cur ys).1.map Lint.key := by
  have key : ∀ zs : List Lint,
      (sweep cur zs).1.map Lint.key = (sweepBy Prod.fst Prod.snd cur (zs.map Lint.key)).1 := fun zs => by
    rw [sweep_eq]
    exact sweepBy_map (f := Lint.key) (s' := Prod.fst) (e' := Prod.snd) (k := 0) (fun _ => ⟨rfl, rfl⟩) zs cur
  rw [key, key, h]

/-- **C13 over multisets**, payload-free form: two lint lists whose span lists are permutations
of each other keep the same spans, in the same order. -/
theorem removeOverlaps_spans_keyperm_invariant (l₁ l₂ : List Lint)
    (h : (l₁.map Lint.key).Perm (l₂.map Lint.key)) :
    (removeOverlaps l₁).map Lint.key = (removeOverlaps l₂).map Lint.key := by
  rw [removeOverlaps_eq_sweep, removeOverlaps_eq_sweep]
  exact sweep_keys_congr 0 _ _ (isort_keys_keyperm_invariant l₁ l₂ h)

/-- **C13 over multisets**: the spans that survive overlap removal, in order, do not depend on
the order in which the lints were handed over. -/
theorem removeOverlaps_spans_perm_invariant (l₁ l₂ : List Lint) (h : l₁.Perm l₂) :
    (removeOverlaps l₁).map Lint.key = (removeOverlaps l₂).map Lint.key :=
  removeOverlaps_spans_keyperm_invariant l₁ l₂ (h.map _)

/-- non-vacuity: a non-trivial permutation with nested, touching, equal and zero-width spans -/
example : removeOverlaps [⟨0,5,1⟩, ⟨3,6,2⟩, ⟨5,5,3⟩, ⟨5,9,4⟩, ⟨2,2,5⟩, ⟨0,5,6⟩]
    = [⟨0,5,1⟩, ⟨5,9,4⟩] := by decide +kernel
example : removeOverlaps [⟨0,5,6⟩, ⟨2,2,5⟩, ⟨5,9,4⟩, ⟨5,5,3⟩, ⟨3,6,2⟩, ⟨0,5,1⟩]
    = [⟨0,5,6⟩, ⟨5,9,4⟩] := by decide +kernel

/-! ## Idempotence -/

/-- re-running the sweep on what it kept keeps all of it -/
theorem sweep_sweep (cur : Nat) (ls : List Lint) :
    sweep cur (sweep cur ls).1 = ((sweep cur ls).1, []) := by
  rw [sweep_eq]
  induction ls generalizing cur with
  | nil => rfl
  | cons l ls ih =>
    by_cases h : l.s < cur
    · rw [sweepBy_cons_drop h]; exact ih cur
    · rw [sweepBy_cons_keep h, sweepBy_cons_keep h, ih l.e]

/-- the stable sort leaves a key-sorted list alone -/
theorem isort_of_sorted (l : List Lint) (h : l.Pairwise (fun a b => Lint.le a b = true)) :
    isort l = l := by
  rw [isort_eq]; exact isortBy_of_sorted _ h

/-- the output of overlap removal is in key order -/
theorem removeOverlaps_le_sorted (l : List Lint) :
    (removeOverlaps l).Pairwise (fun a b => Lint.le a b = true) :=
  (isort_le_sorted l).sublist (removeOverlaps_sublist_isort l)

/-- a key-sorted list in which every lint starts at or after the end of its predecessor is
returned unchanged: nothing is dropped without a conflict -/
theorem removeOverlaps_eq_self_of_resolved (l : List Lint)
    (hs : l.Pairwise (fun a b => Lint.le a b = true))
    (hd : l.Pairwise (fun a b => a.e ≤ b.s)) : removeOverlaps l = l := by
  rw [removeOverlaps_eq]; exact removeOverlapsBy_of_resolved hs hd

/-- non-vacuity of `removeOverlaps_eq_self_of_resolved`: a concrete list with touching and
zero-width spans -/
example : ([⟨0,5,1⟩, ⟨5,5,3⟩, ⟨6,9,4⟩] : List Lint).Pairwise (fun a b => Lint.le a b = true) ∧
    ([⟨0,5,1⟩, ⟨5,5,3⟩, ⟨6,9,4⟩] : List Lint).Pairwise (fun a b => a.e ≤ b.s) := by decide +kernel

/-- **idempotence**: resolving overlaps twice is resolving them once — the output is key-sorted and
conflict-free. -/
theorem removeOverlaps_idempotent (l : List Lint) :
    removeOverlaps (removeOverlaps l) = removeOverlaps l :=
  removeOverlaps_eq_self_of_resolved _ (removeOverlaps_le_sorted l) (removeOverlaps_disjoint_any l)

end Harper.C13
