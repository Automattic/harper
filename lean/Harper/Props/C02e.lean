import Harper.Props.C02d
import Harper.Props.C04
import Harper.Lemmas.Typst
/-!
# C02 / C01 (fifth part) — the Typst translator's own logic, and the HTML `Space` clamp

Model: `Harper/Model/Typst.lean` (`Typst::parse`, `convert_parbreaks`, `parse_expr`, `parse_pattern`,
the closures of `parse_expr`, `def_token!` / `merge!` / `get_text!`, over typst-syntax's tree given
as DATA: every node is the `match` arm it takes, the byte range `doc.range(span)` gives for it, and
the results of exactly the accessors that arm calls). Helper lemmas: `Lemmas/Typst.lean`.

* `typstParse_total` — under the decidable assumption `TreeOK` (ranges inside their parents' ranges
  and on character boundaries, texts not longer than their ranges, and the two facts the translator
  still `unwrap`s / slices on: a `Space` covers a character, a `Str` has its two quotes) the
  translator does not panic. `TreeOK` holds for EVERY real tree seen (monitor). A `FuncCall` whose
  `callee()` is the detached placeholder (`_(…)` in code: the first child is an `Underscore`, not an
  expression) is allowed: `get_text!` gives it the empty text (repair `0f1b3ac`; §7 row 58) —
  regression `example`s below.
* `typstParse_inbounds` — under `TreeOK` every token is a well-formed span inside the text.
* `typstParse_sorted_partial` — under `TreeOK` and `InOrder` (the translator's visiting order is the
  source order: decidable, evaluated on every real tree) ALL tokens are pairwise ordered and
  disjoint. PARTIAL: the property's clause is for every tree; what is missing is that `InOrder` fails
  for two kinds of real trees, and then the clause is FALSE, with kernel-checked witnesses below:
  (1) aliasing — two accessors of typst-syntax return the same child (`Named::expr()` falls back to
  `name()` in `#set text(lang:`; `Parenthesized::expr()` and `::pattern()` are both the first child
  in `#let (x) = 1`; `Closure::body()` falls back to `name()` in `#let x(x`): `NoAlias` fails and the
  child is translated twice (recorded finding `c02-typst-duplicate-node`, `c02-typst-alias-revisit`);
  (2) `NoAlias` holds but the translator visits against the source order — a `Show` rule's transform
  before its selector, a `Set` rule's condition before its arguments, the ignored arguments of
  `rgb` / `raw` / … before the others (recorded finding `c02-typst-visit-order`).
* `typstParse_zero_width_structural` — under the decidable assumption `RangesSolid` (every range
  the translator hands to `def_token!` with a kind that is not a structural break — the node of a
  `token!` arm other than `Linebreak` / `Parbreak`, a placeholder pattern, a field, a callee, a call's
  argument, the name of a named destructuring item — is detached or covers a character; evaluated on
  every real tree: monitor `typst:RangesSolid`, fourth field of op `typok`) every zero-width token
  `Typst::parse` returns is a `ParagraphBreak` or a `Newline`. `TreeOK` is NOT needed for it.
* `convertParbreaks_spec` — which expressions `convert_parbreaks` turns into paragraph breaks.
* `htmlSpaceClamp_spec`, `htmlParse_inbounds_sorted` — the HTML parser: the clamp changes nothing
  but the count of a `Space` token; bounds and order come from `C04.maskParse_inbounds_sorted`.
* `htmlParseSrc_inbounds_sorted`, `htmlParse_no_zero_width` — the same for EXACTLY what the driver
  runs (op `htmlparse`: `htmlParse src mask (plainInner cls)`, the mask of the real masker as data,
  the model of `PlainEnglish` as the inner parser: `plainInner_eq`, `plainInner_innerOK`), and the
  zero-width clause for HTML: every token covers at least one character.

typst-syntax itself (which tree it builds) and the HTML grammar are not modelled: `TreeOK`,
`InOrder`, `RangesSolid` (resp. `MaskOK`) are where they enter; `NoAlias` only classifies the witnesses.
-/
namespace Harper.C02
open Harper Harper.Typst

/-! ## Typst -/

/-- NO PANIC under `TreeOK`, for every byte list / text pair with as many characters as the text
has, every inner parser that tiles its input (`PlainEnglish`: `plainEnglish_innerOK`) and every
tree. Every `unwrap`, `assert!` and slice of `typst_translator.rs` and `offset_cursor.rs` is a panic
value of the model; `TreeOK` is what makes each of them unreachable. (The two `expect`s of
`lib.rs` — `Markup::from_untyped(root)` and `Parbreak::from_untyped(&buf[i])` — have no panic value in
the model: the root of a parsed source is `Markup` and the placeholder is built as a `Parbreak` with
`i < len`, so they cannot fail; they are not modelled.) -/
theorem typstParse_total (E : Env) (hin : Md.InnerOK E.inner) (hN : charCount E.bs = E.src.length)
    (top : TNodes) (h : TreeOK E.bs top) : ∃ toks, typstParse E top = .ok toks := by
  obtain ⟨toks, ht, _⟩ := typstParse_out E hin hN top h
  exact ⟨toks, ht⟩

/-- IN BOUNDS under `TreeOK`: every token `Typst::parse` returns is a well-formed span inside the
text -/
theorem typstParse_inbounds (E : Env) (hin : Md.InnerOK E.inner) (hN : charCount E.bs = E.src.length)
    (top : TNodes) (h : TreeOK E.bs top) (toks : List Tok) (hp : typstParse E top = .ok toks) :
    ∀ t ∈ toks, t.span.start ≤ t.span.stop ∧ t.span.stop ≤ E.src.length := by
  obtain ⟨toks', ht, hb, _⟩ := typstParse_out E hin hN top h
  rw [hp] at ht; cases ht
  exact hb

/-- ORDERED, DISJOINT under `TreeOK` and `InOrder` — all tokens, zero-width ones included. See the
header for what is missing (and false) without `InOrder`. -/
theorem typstParse_sorted_partial (E : Env) (hin : Md.InnerOK E.inner)
    (hN : charCount E.bs = E.src.length) (top : TNodes) (h : TreeOK E.bs top) (ho : InOrder E top)
    (toks : List Tok) (hp : typstParse E top = .ok toks) :
    toks.Pairwise (fun a b => a.span.stop ≤ b.span.start) := by
  obtain ⟨toks', ht, _, hs⟩ := typstParse_out E hin hN top h
  rw [hp] at ht; cases ht
  exact hs ho

/-- all three for exactly what the driver runs (op `typst`): bytes computed from the characters,
inner parser = the model of `PlainEnglish`; `TreeOK` (and `InOrder` for the order) are the only
hypotheses left -/
theorem typstParseSrc_total_inbounds_sorted (cls : Cls) (src : List Char) (top : TNodes)
    (h : TreeOK (utf8Bytes src) top) :
    ∃ toks, typstParseSrc cls src top = .ok toks ∧
      (∀ t ∈ toks, t.span.start ≤ t.span.stop ∧ t.span.stop ≤ src.length) ∧
      (InOrder (envOfSrc cls src) top → toks.Pairwise (fun a b => a.span.stop ≤ b.span.start)) := by
  have hin : Md.InnerOK (envOfSrc cls src).inner := plainEnglish_innerOK cls
  have hN : charCount (envOfSrc cls src).bs = (envOfSrc cls src).src.length := utf8Bytes_charCount src
  exact typstParse_out (envOfSrc cls src) hin hN top h

/-- `convert_parbreaks(buf, exprs)` keeps the number of expressions and converts exactly the
expressions that are `Space`, are neither the first nor the last one, and have a `Heading` or a
`List` item directly before or directly after them -/
theorem convertParbreaks_spec (l : List Shape) :
    (convertParbreaks l).length = l.length ∧
    ∀ (i : Nat) (hi : i < l.length),
      ((convertParbreaks l)[i]? = some true ↔
        0 < i ∧ ∃ a b, l[i - 1]? = some a ∧ l[i + 1]? = some b ∧ l[i] = .space ∧
          (a = .headingOrList ∨ b = .headingOrList)) :=
  ⟨convFlags_length l none, fun i hi => convFlags_true_iff l i hi⟩

/-! ### non-vacuity and witnesses (kernel-evaluated; trees copied from the harness's serialisation
of the real `typst_syntax::Source`) -/

/-- `= H⏎text é`: `Heading[Text] Space Text`, with a two-byte character -/
def headingText : List Char := ['=', ' ', 'H', '\n', 't', 'e', 'x', 't', ' ', 'é']

def headingTree : TNodes := .ofList
  [.body .heading (some (0, 3)) (.ofList [.text (some (2, 3)) ['H']]),
   .space (some (3, 4)),
   .text (some (4, 11)) ['t', 'e', 'x', 't', ' ', 'é']]

theorem headingTree_ok : TreeOK (utf8Bytes headingText) headingTree := by decide +kernel

theorem headingTree_inOrder : InOrder (envOfSrc asciiPlus headingText) headingTree := by decide +kernel

theorem headingTree_parse : typstParseSrc asciiPlus headingText headingTree =
    .ok [⟨⟨2, 3⟩, .word⟩, ⟨⟨3, 4⟩, .paragraphBreak⟩, ⟨⟨4, 8⟩, .word⟩, ⟨⟨8, 9⟩, .space 1⟩, ⟨⟨9, 10⟩, .word⟩] := by
  decide +kernel

/-- the hypotheses are satisfiable by a real tree -/
example : TreeOK (utf8Bytes headingText) headingTree := headingTree_ok
example : NoAlias headingTree := by decide +kernel
example : InOrder (envOfSrc asciiPlus headingText) headingTree := headingTree_inOrder

/-- … and the model returns what the real parser returns: the `Space` after the heading has become
a paragraph break, the second text is shifted by the CHARACTER offset 4 -/
example : typstParseSrc asciiPlus headingText headingTree =
    .ok [⟨⟨2, 3⟩, .word⟩, ⟨⟨3, 4⟩, .paragraphBreak⟩, ⟨⟨4, 8⟩, .word⟩, ⟨⟨8, 9⟩, .space 1⟩, ⟨⟨9, 10⟩, .word⟩] :=
  headingTree_parse

/-- non-vacuity of `typstParse_total`, `typstParse_inbounds`, `typstParse_sorted_partial` and
`typstParseSrc_total_inbounds_sorted`: ALL hypotheses at once (`InnerOK`, the character count,
`TreeOK`, `InOrder`) on the real tree above — five tokens, a nested node, a converted paragraph
break, a two-byte character; the theorem applied, its conclusion concrete -/
example : ∃ toks, typstParseSrc asciiPlus headingText headingTree = .ok toks ∧ toks.length = 5 ∧
      (∀ t ∈ toks, t.span.start ≤ t.span.stop ∧ t.span.stop ≤ headingText.length) ∧
      toks.Pairwise (fun a b => a.span.stop ≤ b.span.start) := by
  obtain ⟨toks, h, hb, hs⟩ :=
    typstParseSrc_total_inbounds_sorted asciiPlus headingText headingTree headingTree_ok
  have hl : toks.length = 5 := by
    rw [headingTree_parse] at h; cases h; rfl
  exact ⟨toks, h, hl, hb, hs headingTree_inOrder⟩

/-- the property's clause "zero-width tokens are only structural breaks" for Typst is NOT implied by
`TreeOK`, `NoAlias` and `InOrder` together: a node of the default arm with an EMPTY range (SYNTHETIC
tree — no real typst-syntax tree with an empty-range expression is known) yields a zero-width
`Unlintable`, and all three predicates hold. (The clause is `typstParse_zero_width_structural`
below, under the fourth predicate `RangesSolid`, which this tree violates.) -/
example : TreeOK (utf8Bytes ['a', 'b'])
      (.ofList [.text (some (0, 1)) ['a'], .leaf .other (some (1, 1)), .text (some (1, 2)) ['b']]) ∧
    NoAlias (.ofList [.text (some (0, 1)) ['a'], .leaf .other (some (1, 1)), .text (some (1, 2)) ['b']]) ∧
    InOrder (envOfSrc asciiPlus ['a', 'b'])
      (.ofList [.text (some (0, 1)) ['a'], .leaf .other (some (1, 1)), .text (some (1, 2)) ['b']]) ∧
    typstParseSrc asciiPlus ['a', 'b']
      (.ofList [.text (some (0, 1)) ['a'], .leaf .other (some (1, 1)), .text (some (1, 2)) ['b']]) =
      .ok [⟨⟨0, 1⟩, .word⟩, ⟨⟨1, 1⟩, .unlintable⟩, ⟨⟨1, 2⟩, .word⟩] := by decide +kernel

/-- `é = é`: a text whose byte offset (3) differs from its character offset (2) — shifting by
`offset.byte` would put the last word at 6..7 of a 5-character text -/
example : typstParseSrc asciiPlus ['é', ' ', '=', ' ', 'é']
    (.ofList [.text (some (0, 7)) ['é', ' ', '=', ' ', 'é']]) =
    .ok [⟨⟨0, 1⟩, .word⟩, ⟨⟨1, 2⟩, .space 1⟩, ⟨⟨2, 3⟩, .punct .Equal⟩, ⟨⟨3, 4⟩, .space 1⟩, ⟨⟨4, 5⟩, .word⟩] := by
  decide +kernel

/-- `#[é *b*]`: tokens of nested nodes are placed by the cursor pushed from the parent's start -/
example : typstParseSrc asciiPlus ['#', '[', 'é', ' ', '*', 'b', '*', ']']
    (.ofList [.body .content (some (1, 9)) (.ofList
      [.text (some (2, 4)) ['é'], .space (some (4, 5)),
       .body .strong (some (5, 8)) (.ofList [.text (some (6, 7)) ['b']])])]) =
    .ok [⟨⟨2, 3⟩, .word⟩, ⟨⟨3, 4⟩, .space 1⟩, ⟨⟨5, 6⟩, .word⟩] := by decide +kernel

/-- `#let s = "teh wérd"`: the `Str` arm lints the content of the literal (by design of the
translator; recorded finding `c04-typst-string-literal`), at the right characters -/
example : typstParseSrc asciiPlus
    ['#', 'l', 'e', 't', ' ', 's', ' ', '=', ' ', '"', 't', 'e', 'h', ' ', 'w', 'é', 'r', 'd', '"']
    (.ofList [.letBinding (some (1, 20)) (.leaf .other (some (5, 6)))
      (.ofList [.str (some (9, 20)) ['"', 't', 'e', 'h', ' ', 'w', 'é', 'r', 'd', '"']])]) =
    .ok [⟨⟨5, 6⟩, .unlintable⟩, ⟨⟨10, 13⟩, .word⟩, ⟨⟨13, 14⟩, .space 1⟩, ⟨⟨14, 18⟩, .word⟩] := by
  decide +kernel

/-- REGRESSION `#let f(x) = x`: `LetBindingKind::Closure(_) => None`; the closure in `init` yields its
own name — once, not twice -/
def letClosureTree : TNodes := .ofList
  [.letBinding (some (1, 13)) (.letClosure (some (5, 6)))
    (.ofList [.closure (some (5, 13)) (.ofList [.leaf .other (some (5, 6))])
      (.ofList [.pos (.leaf .other (some (7, 8)))]) (.leaf .other (some (12, 13)))])]

def letClosureText : List Char := ['#', 'l', 'e', 't', ' ', 'f', '(', 'x', ')', ' ', '=', ' ', 'x']

theorem letClosureTree_parse : typstParseSrc asciiPlus letClosureText letClosureTree =
    .ok [⟨⟨5, 6⟩, .unlintable⟩, ⟨⟨7, 8⟩, .unlintable⟩, ⟨⟨12, 13⟩, .unlintable⟩] := by decide +kernel

theorem letClosureTree_ok : TreeOK (utf8Bytes letClosureText) letClosureTree := by decide +kernel

example : typstParseSrc asciiPlus letClosureText letClosureTree =
    .ok [⟨⟨5, 6⟩, .unlintable⟩, ⟨⟨7, 8⟩, .unlintable⟩, ⟨⟨12, 13⟩, .unlintable⟩] := letClosureTree_parse

example : TreeOK (utf8Bytes letClosureText) letClosureTree ∧ NoAlias letClosureTree ∧
    InOrder (envOfSrc asciiPlus letClosureText) letClosureTree :=
  ⟨letClosureTree_ok, by decide +kernel, by decide +kernel⟩

/-- REGRESSION `#let (..n) = 1`: `sink_expr()` only — the sink once -/
example : typstParseSrc asciiPlus
    ['#', 'l', 'e', 't', ' ', '(', '.', '.', 'n', ')', ' ', '=', ' ', '1']
    (.ofList [.letBinding (some (1, 14))
      (.patDestruct (some (5, 10)) (.ofList [.spread (some (6, 9)) (.ofList [.leaf .other (some (8, 9))])]))
      (.ofList [.leaf .other (some (13, 14))])]) =
    .ok [⟨⟨8, 9⟩, .unlintable⟩, ⟨⟨13, 14⟩, .unlintable⟩] := by decide +kernel

/-- REGRESSION `#let` (the synthesised pattern has a detached span): a node without a range leaves
the cursor alone and `def_token!` gives `None` — no panic -/
example : typstParseSrc asciiPlus ['#', 'l', 'e', 't']
    (.ofList [.letBinding (some (1, 4)) (.leaf .other none) .nil]) = .ok [] := by decide +kernel

/-- ALIASING (recorded finding `c02-typst-duplicate-node`). `#set text(lang:` — the named argument
has no value yet, `Named::expr()` (`cast_last_match`) falls back to the identifier `lang`, which is
also `Named::name()`: the same child as two accessor results … -/
def setLangText : List Char :=
  ['#', 's', 'e', 't', ' ', 't', 'e', 'x', 't', '(', 'l', 'a', 'n', 'g', ':']

def setLangTree : TNodes := .ofList
  [.setRule (some (1, 15)) (.leaf .other (some (5, 9))) .nil
    (.ofList [.named (some (10, 15)) (.leaf .other (some (10, 14))) ['l', 'a', 'n', 'g']
      (.leaf .other (some (10, 14)))])]

/-- … `TreeOK` holds, `NoAlias` and `InOrder` do not … -/
example : TreeOK (utf8Bytes setLangText) setLangTree ∧ ¬ NoAlias setLangTree ∧
    ¬ InOrder (envOfSrc asciiPlus setLangText) setLangTree := by decide +kernel

/-- … and the translator returns two tokens with IDENTICAL spans for the one identifier -/
example : typstParseSrc asciiPlus setLangText setLangTree =
    .ok [⟨⟨5, 9⟩, .unlintable⟩, ⟨⟨10, 14⟩, .unlintable⟩, ⟨⟨10, 14⟩, .unlintable⟩] := by decide +kernel

/-- `#let (x) = 1` (well-formed!): `Parenthesized::expr()` and `Parenthesized::pattern()` are both
`cast_first_match` — `parse_pattern` translates `x` twice -/
example : typstParseSrc asciiPlus ['#', 'l', 'e', 't', ' ', '(', 'x', ')', ' ', '=', ' ', '1']
    (.ofList [.letBinding (some (1, 12))
      (.patParen (some (5, 8)) (.leaf .other (some (6, 7))) (.leaf .other (some (6, 7))))
      (.ofList [.leaf .other (some (11, 12))])]) =
    .ok [⟨⟨6, 7⟩, .unlintable⟩, ⟨⟨6, 7⟩, .unlintable⟩, ⟨⟨11, 12⟩, .unlintable⟩] := by decide +kernel

/-- `#let x(x` (typing a function definition): `Closure::body()` (`cast_last_match`) falls back to
the closure's name — the name is translated again AFTER the parameter (recorded finding
`c02-typst-alias-revisit`: the repeated token is not adjacent to its first copy) -/
example : typstParseSrc asciiPlus ['#', 'l', 'e', 't', ' ', 'x', '(', 'x']
    (.ofList [.letBinding (some (1, 8)) (.letClosure (some (5, 6)))
      (.ofList [.closure (some (5, 8)) (.ofList [.leaf .other (some (5, 6))])
        (.ofList [.pos (.leaf .other (some (7, 8)))]) (.leaf .other (some (5, 6)))])]) =
    .ok [⟨⟨5, 6⟩, .unlintable⟩, ⟨⟨7, 8⟩, .unlintable⟩, ⟨⟨5, 6⟩, .unlintable⟩] := by decide +kernel

/-- VISITING ORDER (recorded finding `c02-typst-visit-order`). `#show "foo": [bar]` — no aliasing,
but `merge![recurse!(show_rule.transform()), show_rule.selector().and_then(..)]` visits the transform
first: `NoAlias` holds, `InOrder` does not … -/
def showText : List Char :=
  ['#', 's', 'h', 'o', 'w', ' ', '"', 'f', 'o', 'o', '"', ':', ' ', '[', 'b', 'a', 'r', ']']

def showTree : TNodes := .ofList
  [.recN .showRule (some (1, 18)) (.ofList
    [.body .content (some (13, 18)) (.ofList [.text (some (14, 17)) ['b', 'a', 'r']]),
     .str (some (6, 11)) ['"', 'f', 'o', 'o', '"']])]

example : TreeOK (utf8Bytes showText) showTree ∧ NoAlias showTree ∧
    ¬ InOrder (envOfSrc asciiPlus showText) showTree := by decide +kernel

/-- … and the tokens come out of order: `bar` (14..17) before `foo` (7..10) -/
example : typstParseSrc asciiPlus showText showTree =
    .ok [⟨⟨14, 17⟩, .word⟩, ⟨⟨7, 10⟩, .word⟩] := by decide +kernel

/-- `#rgb(a: 1, "x")`: `parse_args_ignored` emits the ignored (positional) argument before the
named one that precedes it in the source -/
example : typstParseSrc asciiPlus
    ['#', 'r', 'g', 'b', '(', 'a', ':', ' ', '1', ',', ' ', '"', 'x', '"', ')']
    (.ofList [.funcCall (some (1, 15)) (some (1, 4)) (.ofList
      [.named (some (5, 9)) (.leaf .other (some (5, 6))) ['a'] (.leaf .other (some (8, 9))),
       .pos (.str (some (11, 14)) ['"', 'x', '"'])])]) =
    .ok [⟨⟨1, 4⟩, .unlintable⟩, ⟨⟨11, 14⟩, .unlintable⟩, ⟨⟨5, 6⟩, .unlintable⟩, ⟨⟨8, 9⟩, .unlintable⟩] := by
  decide +kernel

/-- `NoAlias` and `InOrder` are independent. `#cite(style:` — the named argument aliases like
`lang:` above, but `style` is an IGNORED argument of `cite`: `parse_args_ignored` emits one
`Unlintable` over the whole argument and never descends into it. `NoAlias` fails, `InOrder` holds,
and the tokens are ordered, as `typstParse_sorted_partial` says -/
def citeText : List Char := ['#', 'c', 'i', 't', 'e', '(', 's', 't', 'y', 'l', 'e', ':']

def citeTree : TNodes := .ofList
  [.funcCall (some (1, 12)) (some (1, 5)) (.ofList
    [.named (some (6, 12)) (.leaf .other (some (6, 11))) ['s', 't', 'y', 'l', 'e']
      (.leaf .other (some (6, 11)))])]

example : TreeOK (utf8Bytes citeText) citeTree ∧ ¬ NoAlias citeTree ∧
    InOrder (envOfSrc asciiPlus citeText) citeTree := by decide +kernel

example : typstParseSrc asciiPlus citeText citeTree =
    .ok [⟨⟨1, 5⟩, .unlintable⟩, ⟨⟨6, 12⟩, .unlintable⟩] := by decide +kernel

/-- REGRESSION `#{_()}` (§7 row 58, repair `0f1b3ac`): `FuncCall::callee()` returns a detached
placeholder when the call's first child is an `Underscore`; `get_text!` gives the empty text,
`token!(func.callee(), Unlintable)` finds no range and its `?` leaves the closure `parse_func_call` with `None` — the call contributes nothing,
the tree satisfies `TreeOK`, and `typstParse_total` covers it -/
def underscoreCallTree : TNodes := .ofList
  [.body .code (some (1, 6)) (.ofList [.funcCall (some (2, 5)) none .nil])]

example : typstParseSrc asciiPlus ['#', '{', '_', '(', ')', '}'] underscoreCallTree = .ok [] := by decide +kernel

example : TreeOK (utf8Bytes ['#', '{', '_', '(', ')', '}']) underscoreCallTree := by decide +kernel

/-- … `#let x = _(1)`: the binding's name is translated, the call — its argument `1` included —
yields nothing (`?` leaves the closure before the arguments are looked at) … -/
example : typstParseSrc asciiPlus ['#', 'l', 'e', 't', ' ', 'x', ' ', '=', ' ', '_', '(', '1', ')']
    (.ofList [.letBinding (some (1, 13)) (.leaf .other (some (5, 6)))
      (.ofList [.funcCall (some (9, 13)) none (.ofList [.pos (.leaf .other (some (11, 12)))])])]) =
    .ok [⟨⟨5, 6⟩, .unlintable⟩] := by decide +kernel

/-- … and `#(_[a])`: the content block `[a]` passed to `_` is NOT translated either (real parser:
no token at all) -/
example : typstParseSrc asciiPlus ['#', '(', '_', '[', 'a', ']', ')']
    (.ofList [.rec1 .parenthesized (some (1, 7)) (.funcCall (some (2, 6)) none (.ofList
      [.pos (.body .content (some (3, 6)) (.ofList [.text (some (4, 5)) ['a']]))]))]) = .ok [] := by
  decide +kernel

/-- `TreeOK` is needed: the remaining `unwrap` / slice are guarded by the tree in every real tree
seen (monitor), and a tree that violates them makes the model panic like the code would: a `Space`
without a character (`get_text!` gives the empty text, `chars.next().unwrap()`) … -/
example : typstParseSrc asciiPlus ['a'] (.ofList [.space (some (1, 1))]) = .error .unwrapNone := by
  decide +kernel

/-- … a `Str` node of one character (`string[1..0]`) … -/
example : typstParseSrc asciiPlus ['"'] (.ofList [.str (some (0, 1)) ['"']]) = .error .sliceOOB := by
  decide +kernel

/-- … a child that starts BEFORE its parent (`assert!(new_byte >= self.byte)` of `push_to`) … -/
example : typstParseSrc asciiPlus ['a', 'b']
    (.ofList [.body .strong (some (1, 2)) (.ofList [.leaf .other (some (0, 1))])]) =
    .error .assertFail := by decide +kernel

/-- … and a range inside the two-byte `é` (`doc.get(..).unwrap()` of `push_to`) -/
example : typstParseSrc asciiPlus ['é'] (.ofList [.leaf .other (some (1, 2))]) = .error .unwrapNone := by
  decide +kernel

/-! ### zero-width tokens are only structural breaks -/

/-- ZERO-WIDTH TOKENS ARE ONLY STRUCTURAL BREAKS, under `RangesSolid`: for every byte list / text,
every inner parser that tiles its input and every tree whose `def_token!` ranges of non-structural
kinds are detached or cover a character, every token of `Typst::parse` with an empty span is a
`ParagraphBreak` or a `Newline`. Neither `TreeOK` nor the character count is needed (with `TreeOK` the
parse also exists: `typstParseSrc_zero_width_structural`): `def_token!` over a range that covers a
character is at least one character wide from whatever cursor, a `Space` whose `get_text!` is not
empty covers a character, `Text` / `Str` tokens are the inner parser's (tiling: no empty token). -/
theorem typstParse_zero_width_structural (E : Env) (hin : Md.InnerOK E.inner) (top : TNodes)
    (hs : RangesSolid E.bs top) (toks : List Tok) (hp : typstParse E top = .ok toks) :
    ∀ t ∈ toks, t.span.start = t.span.stop → t.kind = .paragraphBreak ∨ t.kind.isNewline = true :=
  typstParse_zw E hin top toks hp hs

/-- … for exactly what the driver runs (op `typst`), with `TreeOK`: the parse exists and its
zero-width tokens are structural breaks -/
theorem typstParseSrc_zero_width_structural (cls : Cls) (src : List Char) (top : TNodes)
    (h : TreeOK (utf8Bytes src) top) (hs : RangesSolid (utf8Bytes src) top) :
    ∃ toks, typstParseSrc cls src top = .ok toks ∧
      ∀ t ∈ toks, t.span.start = t.span.stop → t.kind = .paragraphBreak ∨ t.kind.isNewline = true := by
  obtain ⟨toks, ht, _⟩ := typstParseSrc_total_inbounds_sorted cls src top h
  exact ⟨toks, ht, typstParse_zero_width_structural (envOfSrc cls src) (plainEnglish_innerOK cls) top hs
    toks ht⟩

/-- `RangesSolid` holds for the real trees of this file: the heading, `#let f(x) = x` (identifiers of
the default arm, a closure's parameters), `#cite(style:` (a callee, an ignored argument),
`#show "foo": [bar]`, `#set text(lang:` — aliasing and visiting order do not matter for it -/
example : RangesSolid (utf8Bytes headingText) headingTree := by decide +kernel
theorem letClosureTree_solid : RangesSolid (utf8Bytes letClosureText) letClosureTree := by decide +kernel
example : RangesSolid (utf8Bytes letClosureText) letClosureTree := letClosureTree_solid
example : RangesSolid (utf8Bytes citeText) citeTree ∧ RangesSolid (utf8Bytes showText) showTree ∧
    RangesSolid (utf8Bytes setLangText) setLangTree := by decide +kernel

/-- non-vacuity of `typstParseSrc_zero_width_structural`: both hypotheses at once on the real tree
of `#let f(x) = x`, the theorem applied; its three tokens are `Unlintable`s of width 1 -/
example : ∃ toks, typstParseSrc asciiPlus letClosureText letClosureTree = .ok toks ∧ toks.length = 3 ∧
    ∀ t ∈ toks, t.span.start = t.span.stop → t.kind = .paragraphBreak ∨ t.kind.isNewline = true := by
  obtain ⟨toks, h, hz⟩ :=
    typstParseSrc_zero_width_structural asciiPlus letClosureText letClosureTree letClosureTree_ok
      letClosureTree_solid
  rw [letClosureTree_parse] at h; cases h
  exact ⟨_, rfl, rfl, hz⟩

/-- the premise of the clause is met by a tree that satisfies `RangesSolid` (SYNTHETIC: no real tree
with an empty `Linebreak` / `Parbreak` is known either): an empty `Linebreak` and an empty `Parbreak`
give a zero-width `Newline` and a zero-width `ParagraphBreak` — allowed by the clause -/
example : RangesSolid (utf8Bytes ['a', 'b'])
      (.ofList [.text (some (0, 1)) ['a'], .leaf .linebreak (some (1, 1)), .leaf .parbreak (some (1, 1)),
        .text (some (1, 2)) ['b']]) ∧
    typstParseSrc asciiPlus ['a', 'b']
      (.ofList [.text (some (0, 1)) ['a'], .leaf .linebreak (some (1, 1)), .leaf .parbreak (some (1, 1)),
        .text (some (1, 2)) ['b']]) =
      .ok [⟨⟨0, 1⟩, .word⟩, ⟨⟨1, 1⟩, .newline 1⟩, ⟨⟨1, 1⟩, .paragraphBreak⟩, ⟨⟨1, 2⟩, .word⟩] := by decide +kernel

/-- … and the synthetic witness above (zero-width `Unlintable` 1..1 with `TreeOK`, `NoAlias`, `InOrder`)
VIOLATES `RangesSolid`: `RangesSolid` is what separates it from the real trees -/
example : ¬ RangesSolid (utf8Bytes ['a', 'b'])
    (.ofList [.text (some (0, 1)) ['a'], .leaf .other (some (1, 1)), .text (some (1, 2)) ['b']]) := by
  decide +kernel

/-- every other conjunct of `RangesSolid` is needed too (SYNTHETIC trees, all `TreeOK`): an empty
placeholder pattern, an empty field, an empty callee, an empty ignored argument of `rgb`, an empty
name of a named destructuring item each give a zero-width `Unlintable` / `Word` -/
example : typstParseSrc asciiPlus ['a'] (.ofList [.patPlaceholder (some (1, 1))]) =
      .ok [⟨⟨1, 1⟩, .unlintable⟩] ∧
    typstParseSrc asciiPlus ['a'] (.ofList [.fieldAccess (some (0, 1)) (.leaf .other (some (0, 1))) (some (1, 1))]) =
      .ok [⟨⟨0, 1⟩, .unlintable⟩, ⟨⟨1, 1⟩, .word⟩] ∧
    typstParseSrc asciiPlus ['a'] (.ofList [.funcCall (some (0, 1)) (some (0, 0)) .nil]) =
      .ok [⟨⟨0, 0⟩, .unlintable⟩] ∧
    typstParseSrc asciiPlus ['r', 'g', 'b']
      (.ofList [.funcCall (some (0, 3)) (some (0, 3)) (.ofList [.pos (.text (some (3, 3)) [])])]) =
      .ok [⟨⟨0, 3⟩, .unlintable⟩, ⟨⟨3, 3⟩, .unlintable⟩] ∧
    typstParseSrc asciiPlus ['a']
      (.ofList [.patDestruct (some (0, 1)) (.ofList [.dnamed (some (0, 1)) (some (0, 0)) (.leaf .other (some (0, 1)))])]) =
      .ok [⟨⟨0, 0⟩, .word⟩, ⟨⟨0, 1⟩, .unlintable⟩] := by decide +kernel

example : ¬ RangesSolid (utf8Bytes ['a']) (.ofList [.patPlaceholder (some (1, 1))]) ∧
    ¬ RangesSolid (utf8Bytes ['a'])
      (.ofList [.fieldAccess (some (0, 1)) (.leaf .other (some (0, 1))) (some (1, 1))]) ∧
    ¬ RangesSolid (utf8Bytes ['a']) (.ofList [.funcCall (some (0, 1)) (some (0, 0)) .nil]) ∧
    ¬ RangesSolid (utf8Bytes ['r', 'g', 'b'])
      (.ofList [.funcCall (some (0, 3)) (some (0, 3)) (.ofList [.pos (.text (some (3, 3)) [])])]) ∧
    ¬ RangesSolid (utf8Bytes ['a'])
      (.ofList [.patDestruct (some (0, 1)) (.ofList [.dnamed (some (0, 1)) (some (0, 0)) (.leaf .other (some (0, 1)))])]) := by
  decide +kernel

/-- `convert_parbreaks` on `Heading Space Text Space List Space`: the first and the second `Space`
are next to a heading / a list item; the last expression is never converted -/
example : convertParbreaks [.headingOrList, .space, .other, .space, .headingOrList, .space] =
    [false, true, false, true, false, false] := by decide +kernel

/-- … a `Space` in first position is not converted even before a heading -/
example : convertParbreaks [.space, .headingOrList, .space, .other] = [false, false, true, false] := by
  decide +kernel

/-! ## HTML -/

/-- THE CLAMP: `HtmlParser::parse` changes nothing but the count of a `Space` token — same number
of tokens, same spans, `Space(v)` becomes `Space(min v 1)`, every other kind is kept -/
theorem htmlSpaceClamp_spec (toks : List Tok) :
    (htmlSpaceClamp toks).length = toks.length ∧
    ∀ (i : Nat) (hi : i < toks.length),
      ∃ t', (htmlSpaceClamp toks)[i]? = some t' ∧ t'.span = toks[i].span ∧
        (match toks[i].kind with
         | .space v => t'.kind = .space (min v 1)
         | k => t'.kind = k) := by
  refine ⟨by simp [htmlSpaceClamp], ?_⟩
  intro i hi
  refine ⟨Typst.clampTok toks[i], by simp [htmlSpaceClamp, List.getElem?_eq_getElem hi], ?_, ?_⟩
  · exact Typst.clampTok_span _
  · cases hk : toks[i].kind <;> simp [Typst.clampTok, hk]

/-- IN BOUNDS, ORDERED: given the mask invariant (`MaskOK`: sorted, disjoint, inside the text — what
`TreeSitterMasker::create_mask` is proved to return or to panic, C04) and an inner parser that keeps
its tokens inside its chunk and in order (`InnerOK`), `HtmlParser::parse` does not panic and its
tokens are inside the source and pairwise ordered and disjoint -/
theorem htmlParse_inbounds_sorted (src : List Char) (mask : List Span) (inner : List Char → List Tok)
    (hm : MaskOK src.length mask) (hin : InnerOK inner) :
    ∃ toks, htmlParse src mask inner = .ok toks ∧
      (∀ t ∈ toks, t.span.start ≤ t.span.stop ∧ t.span.stop ≤ src.length) ∧
      toks.Pairwise (fun a b => a.span.stop ≤ b.span.start) := by
  obtain ⟨toks, h1, h2, h3⟩ := C04.maskParse_inbounds_sorted src mask inner hm hin
  refine ⟨htmlSpaceClamp toks, by simp only [htmlParse, h1, bind, Except.bind, pure, Except.pure], ?_, ?_⟩
  · intro t ht
    simp only [htmlSpaceClamp, List.mem_map] at ht
    obtain ⟨u, hu, rfl⟩ := ht
    rw [Typst.clampTok_span u]
    exact h2 u hu
  · simp only [htmlSpaceClamp, List.pairwise_map]
    exact h3.imp (by intro a b hab; rw [Typst.clampTok_span a, Typst.clampTok_span b]; exact hab)

/-- non-vacuity of `htmlParse_inbounds_sorted`: both hypotheses at once — a HAND-MADE mask of two
allowed spans over `a␣␣␣b<i>␣␣` (`MaskOK`) and an inner parser that answers one `Space(n)` over its
whole chunk (`InnerOK`); the theorem applied … -/
example : ∃ toks, htmlParse ['a', ' ', ' ', ' ', 'b', '<', 'i', '>', ' ', ' '] [⟨1, 4⟩, ⟨8, 10⟩]
      (fun c => if c.isEmpty then [] else [⟨⟨0, c.length⟩, .space c.length⟩]) = .ok toks ∧
      (∀ t ∈ toks, t.span.start ≤ t.span.stop ∧ t.span.stop ≤ 10) ∧
      toks.Pairwise (fun a b => a.span.stop ≤ b.span.start) :=
  htmlParse_inbounds_sorted _ _ _ (by
    refine ⟨?_, by decide +kernel⟩
    intro s hs; simp at hs; rcases hs with rfl | rfl <;> simp) (by
    intro c
    by_cases hc : c = [] <;> simp [hc])

/-- … and what comes out: the inner tokens shifted to 1 and 8, `Space(3)` / `Space(2)` clamped -/
example : htmlParse ['a', ' ', ' ', ' ', 'b', '<', 'i', '>', ' ', ' '] [⟨1, 4⟩, ⟨8, 10⟩]
      (fun c => if c.isEmpty then [] else [⟨⟨0, c.length⟩, .space c.length⟩]) =
    .ok [⟨⟨1, 4⟩, .space 1⟩, ⟨⟨8, 10⟩, .space 1⟩] := by decide +kernel

/-- the clamp on the tokens of `a␣␣␣b`: `Space(3)` becomes `Space(1)` over the same three blanks -/
example : htmlSpaceClamp [⟨⟨3, 4⟩, .word⟩, ⟨⟨4, 7⟩, .space 3⟩, ⟨⟨7, 8⟩, .word⟩, ⟨⟨8, 8⟩, .space 0⟩] =
    [⟨⟨3, 4⟩, .word⟩, ⟨⟨4, 7⟩, .space 1⟩, ⟨⟨7, 8⟩, .word⟩, ⟨⟨8, 8⟩, .space 0⟩] := by decide +kernel

/-! ### exactly what the driver runs (op `htmlparse`) -/

/-- the model of `PlainEnglish` never fails, so the total inner parser `plainInner` the HTML op runs
IS that model: the `[]` default of its second arm is never taken -/
theorem plainInner_eq (cls : Cls) (chunk : List Char) :
    parsePlainFull cls chunk = .ok (plainInner cls chunk) := by
  obtain ⟨toks, h⟩ := parsePlainFull_total cls chunk
  simp only [plainInner, h]

/-- … it tiles its chunk: tokens inside the chunk, ordered (`InnerOK` of the `Mask` theorems), and
each covers a character -/
theorem plainInner_innerOK (cls : Cls) :
    InnerOK (plainInner cls) ∧ ∀ c, ∀ t ∈ plainInner cls c, t.span.start < t.span.stop := by
  have key : ∀ c, (∀ t ∈ plainInner cls c, 0 ≤ t.span.start ∧ t.span.start < t.span.stop ∧
      t.span.stop ≤ c.length) ∧ (plainInner cls c).Pairwise (fun x y => x.span.stop ≤ y.span.start) := by
    intro c
    obtain ⟨toks, h, ht, _⟩ := parsePlainFull_tiles cls c
    have he := plainInner_eq cls c
    rw [h] at he; cases he
    exact Md.tiles_facts _ 0 c.length ht
  refine ⟨fun c => ⟨fun t ht => ?_, (key c).2⟩, fun c t ht => ((key c).1 t ht).2.1⟩
  have := (key c).1 t ht
  omega

/-- ZERO-WIDTH CLAUSE FOR HTML: if the inner parser's tokens all cover a character (a tiling lexer's
do) then EVERY token `HtmlParser::parse` returns covers a character — there is no zero-width token at
all: `parsers::Mask` puts a `ParagraphBreak` only over a gap that contains a line feed, and the clamp
leaves spans alone. No hypothesis on the mask. -/
theorem htmlParse_no_zero_width (src : List Char) (mask : List Span) (inner : List Char → List Tok)
    (hpos : ∀ c, ∀ t ∈ inner c, t.span.start < t.span.stop) (toks : List Tok)
    (h : htmlParse src mask inner = .ok toks) : ∀ t ∈ toks, t.span.start < t.span.stop :=
  Typst.htmlParse_pos src mask inner hpos toks h

/-- NO PANIC, IN BOUNDS, ORDERED, NO ZERO-WIDTH TOKEN for exactly what the driver runs (op `htmlparse`:
the text, the mask the real `TreeSitterMasker` computed for it, the model of `PlainEnglish` as the
inner parser): `MaskOK` (monitored on every real mask: `html:MaskOK`) is the only hypothesis left -/
theorem htmlParseSrc_inbounds_sorted (cls : Cls) (src : List Char) (mask : List Span)
    (hm : MaskOK src.length mask) :
    ∃ toks, htmlParseSrc cls src mask = .ok toks ∧
      (∀ t ∈ toks, t.span.start < t.span.stop ∧ t.span.stop ≤ src.length) ∧
      toks.Pairwise (fun a b => a.span.stop ≤ b.span.start) := by
  obtain ⟨toks, h1, h2, h3⟩ := htmlParse_inbounds_sorted src mask (plainInner cls) hm (plainInner_innerOK cls).1
  refine ⟨toks, h1, fun t ht => ⟨?_, (h2 t ht).2⟩, h3⟩
  exact htmlParse_no_zero_width src mask (plainInner cls) (plainInner_innerOK cls).2 toks h1 t ht

/-- `Scott</p><b title="x">'There`: the text of the masked-markup corner case (DESIGN §6 C02) and the
mask the real masker computes for it (two `text` nodes, not separated by blanks only) -/
def scottText : List Char :=
  ['S', 'c', 'o', 't', 't', '<', '/', 'p', '>', '<', 'b', ' ', 't', 'i', 't', 'l', 'e', '=', '"', 'x', '"', '>',
   '\'', 'T', 'h', 'e', 'r', 'e']

def scottMask : List Span := [⟨0, 5⟩, ⟨22, 28⟩]

/-- non-vacuity of `htmlParseSrc_inbounds_sorted`: the REAL mask satisfies `MaskOK`; the theorem
applied … -/
example : ∃ toks, htmlParseSrc asciiPlus scottText scottMask = .ok toks ∧
      (∀ t ∈ toks, t.span.start < t.span.stop ∧ t.span.stop ≤ 28) ∧
      toks.Pairwise (fun a b => a.span.stop ≤ b.span.start) :=
  htmlParseSrc_inbounds_sorted asciiPlus scottText scottMask (by
    refine ⟨?_, by decide +kernel⟩
    intro s hs; simp [scottMask] at hs; rcases hs with rfl | rfl <;> simp [scottText])

/-- … and what comes out is what the real `HtmlParser` returns (K, op `htmlparse`, corpus): a word,
and — 17 characters of markup later — an apostrophe and a word. Adjacent tokens of a masked front-end
need not be adjacent in the text (no tiling) … -/
example : htmlParseSrc asciiPlus scottText scottMask =
    .ok [⟨⟨0, 5⟩, .word⟩, ⟨⟨22, 23⟩, .punct .Apostrophe⟩, ⟨⟨23, 28⟩, .word⟩] := by decide +kernel

/-- … and `Document::parse`'s contraction pass leaves the three tokens alone although their kinds are
`word ' word`: `condense_pattern` merges only tokens that are contiguous in the source (the
`windows(2)` test; `contiguous` in the model; repair `c3ef348`, DESIGN §6 C02 "masked front-ends").
Without that test the result is ONE `Word` 0..28 whose text is `Scott</p><b title="x">'There`. -/
example : condenseContractions scottText
      [⟨⟨0, 5⟩, .word⟩, ⟨⟨22, 23⟩, .punct .Apostrophe⟩, ⟨⟨23, 28⟩, .word⟩] =
    .ok [⟨⟨0, 5⟩, .word⟩, ⟨⟨22, 23⟩, .punct .Apostrophe⟩, ⟨⟨23, 28⟩, .word⟩] := by
  decide +kernel

/-- … whereas the same three kinds over ADJACENT characters (`it's` inside one text node) are one
`Word`: the pass is not switched off -/
example : condenseContractions ['i', 't', '\'', 's']
      [⟨⟨0, 2⟩, .word⟩, ⟨⟨2, 3⟩, .punct .Apostrophe⟩, ⟨⟨3, 4⟩, .word⟩] = .ok [⟨⟨0, 4⟩, .word⟩] := by
  decide +kernel

/-- blanks runs, a raw-text element, a paragraph break over a gap with a line feed, a two-byte
character: `<p>a   é</p>⏎<script>x</script> b` with the real mask — `Space(3)` clamped to `Space(1)`
over the same three blanks, nothing from the script, tokens at CHARACTER offsets -/
example : htmlParseSrc asciiPlus
    ['<', 'p', '>', 'a', ' ', ' ', ' ', 'é', '<', '/', 'p', '>', '\n', '<', 's', 'c', 'r', 'i', 'p', 't', '>', 'x',
     '<', '/', 's', 'c', 'r', 'i', 'p', 't', '>', ' ', 'b']
    [⟨3, 8⟩, ⟨32, 33⟩] =
    .ok [⟨⟨3, 4⟩, .word⟩, ⟨⟨4, 7⟩, .space 1⟩, ⟨⟨7, 8⟩, .word⟩, ⟨⟨8, 32⟩, .paragraphBreak⟩, ⟨⟨32, 33⟩, .word⟩] := by
  decide +kernel

end Harper.C02
