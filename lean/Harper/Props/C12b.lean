import Harper.Lemmas.LexExtAppend
import Harper.Lemmas.Rules
import Harper.Lemmas.RulesPattern
import Harper.Props.C12
import Harper.Props.C02b
/-!
# C12 (continued) — concrete rules are paragraph-local: theorems, not assumptions

`Props/C12.lean` proves `paragraphs_separately` for any rule that is `XLocal`. Here eleven real rules
(`Model/Rules.lean`: the code as it iterates — per chunk, per sentence, per token, `remove_overlaps` —
compared lint for lint with the real rule, run alone, on every run of the check) are proved local:

* `XLocalE` (`Lemmas/Rules.lean`) is `XLocal` for rules that can panic and that report full lints
  (span, suggestions, message): nothing on the empty piece; text after the paragraph does not
  matter; moving a piece together with its text moves the lints — and the panics.
  `…_xlocal : XLocalE …Piece` for LongSentences (per sentence), Spaces (per sentence), RepeatedWords
  (per chunk), the candidates of CurrencyPlacement (per chunk), EllipsisLength,
  NumberSuffixCapitalization, CorrectNumberSuffix, UnclosedQuotes (per token), ModalOf (per chunk:
  `run_on_chunk` of its pattern with `match_to_lint`, itself translation invariant), AnA (per chunk),
  SentenceCapitalization (per paragraph).
* `overPieces_append` is `lint_append` for such rules; `currencyPlacement_appends` adds
  `remove_overlaps` (run on the lints of the whole document: it cannot mix the two sides, because
  every lint of `P` ends inside `P`).
* `…_paragraphs_separately`: composed with `document_append` exactly as `paragraphs_separately` is —
  from the characters of `P` and `D` to the lints (or the panic) of the rule, with NO hypothesis
  about the rule. `ParagraphPair` bundles the hypotheses of `paragraphs_separately` on the two texts.
* `unclosedQuotes_local_noquotes`: UnclosedQuotes reads `twin_loc`, which `match_quotes` computes
  over the whole document; it is paragraph-local exactly under the premise of C12 (no quotation
  mark in `P`), and not otherwise (witness).
* A `CurrencyPlacement` whose windows slide over `document.tokens()` (seeded change `C12r2`) is not
  a chunk-local rule: kernel-checked witness.
* `asRule_xlocal`: every `XLocalE` rule is an `XLocal` rule of `Props/C12.lean`, so `lint_append`,
  `lint_append_sentences`, `lint_append_chunks`, `paragraphs_separately` apply to the modelled rules.
-/
namespace Harper.C12
open Harper Harper.Chunks Harper.Rules

/-! ## every token of a plain-English document is `tokOK` -/

/-- non-empty, and a suffixed `Number` token covers its two suffix characters -/
theorem document_tokOK (cls : Cls) (ext : Ext) (src : List Char) (hext : ExtOK ext src.length) (toks : List Tok)
    (h : document cls ext src = .ok toks) : ∀ t ∈ toks, tokOK t = true := by
  obtain ⟨toks', e, hT⟩ := C02.document_tiles cls ext src hext
  rw [h] at e
  cases e
  obtain ⟨_, hb, _⟩ := C02.tiles_inbounds_sorted toks 0 src.length hT
  intro t ht
  have ht' := hb t ht
  simp only [tokOK, Bool.and_eq_true, decide_eq_true_eq]
  refine ⟨ht'.2.1, ?_⟩
  cases hk : t.kind with
  | number r o =>
    cases o with
    | none => simp [numSuffix]
    | some s =>
      obtain ⟨pre, c1, c2, htxt, _⟩ := C02.number_suffix_shape cls ext src hext toks h t ht r s hk
      have hl := congrArg List.length htxt
      simp only [List.length_take, List.length_drop, List.length_append, List.length_cons, List.length_nil] at hl
      simp only [numSuffix, decide_eq_true_eq]
      omega
  | _ => simp [numSuffix]

/-! ## locality of each modelled rule's piece function -/

theorem longSentences_xlocal : XLocalE longSentencesPiece := Rules.longSentences_xlocal
theorem spaces_xlocal : XLocalE spacesPiece := Rules.spaces_xlocal
theorem repeatedWords_xlocal (env : Env) : XLocalE (repeatedWordsPiece env) := Rules.repeatedWords_xlocal env
/-- the candidates of CurrencyPlacement in one chunk (adjacent pairs and 4-token windows) -/
theorem currencyPlacement_xlocal (env : Env) : XLocalE (currencyChunk env) := currencyChunk_xlocal env
theorem ellipsisLength_xlocal : XLocalE (perTok ellipsisTok) := perTok_xlocal ellipsis_tokLocal
theorem numberSuffixCapitalization_xlocal (env : Env) : XLocalE (perTok (numberSuffixCapTok env)) :=
  perTok_xlocal (numberSuffixCap_tokLocal env)
theorem correctNumberSuffix_xlocal (env : Env) : XLocalE (perTok (correctNumberSuffixTok env)) :=
  perTok_xlocal (correctNumberSuffix_tokLocal env)
/-- on given tokens UnclosedQuotes is local; what is NOT local is `match_quotes` (see below) -/
theorem unclosedQuotes_xlocal : XLocalE (perTok unclosedQuoteTok) := perTok_xlocal unclosedQuote_tokLocal
/-- `ModalOf::match_to_lint` moves with its match (any number of matched tokens) -/
theorem modalOfMatch_translation (env : Env) (P D : List Char) (m : List Tok) (j : Nat) :
    modalOfMatch env (P ++ D) (shiftDoc P.length j m) = (modalOfMatch env D m).map (shiftRLs P.length) :=
  modalOfMatch_shift env P D m j

/-- the whole pattern linter on one chunk: `run_on_chunk` of the pattern of `ModalOf::default()` (an
`EitherPattern` of four `SequencePattern`s over `WordSet`, `AnyCapitalization`, `WhitespacePattern` and
"any word": every combinator looks only at kinds, spans and the characters under its tokens —
`modalOfPat_sim`) with `match_to_lint` -/
theorem modalOf_xlocal (env : Env) : XLocalE (modalOfPiece env) := Rules.modalOf_xlocal env

/-- AnA per chunk: consecutive word tokens with nothing word-like or unlintable between; `starts_with_vowel`
reads only the second word's characters -/
theorem anA_xlocal (env : Env) : XLocalE (anaPiece env) := Rules.anA_xlocal env

/-- SentenceCapitalization per paragraph: the short-label exemption counts the paragraph's sentences
and the words of its chunks; then sentence by sentence, the first non-whitespace token's characters,
its metadata and the dictionary's capitalisation of that word -/
theorem sentenceCapitalization_xlocal (env : Env) : XLocalE (sentCapParagraph env) := sentCap_xlocal env

/-- the hypotheses of `XLocalE` are about `tokOK` pieces; a real sentence's tokens are -/
example : ∀ t ∈ [(⟨⟨0, 1⟩, .word⟩ : Tok), ⟨⟨1, 3⟩, .space 2⟩, ⟨⟨3, 6⟩, .number 10 (some .st)⟩, ⟨⟨6, 7⟩, .punct .Period⟩],
    tokOK t = true ∧ t.span.stop ≤ 7 := by decide +kernel

/-! ## two documents joined at a paragraph break -/

/-- `r` on the tokens of `P ++ D` = `r` on those of `P`, then `r` on those of `D` moved behind —
lints and panics (`joinE`) -/
def Appends (r : PieceRule) : Prop :=
  ∀ (P D : List Char) (A0 : List Tok) (brk : Tok) (td : List Tok), brk.kind.isParagraphBreak = true →
    (∀ t ∈ A0 ++ [brk], tokOK t = true ∧ t.span.stop ≤ P.length) → (∀ t ∈ td, tokOK t = true) →
    r (P ++ D) ((A0 ++ [brk]) ++ shiftDoc P.length (A0 ++ [brk]).length td) =
      joinE P.length (r P (A0 ++ [brk])) (r D td)

theorem appends_sentences (r : PieceRule) (hr : XLocalE r) : Appends (overPieces iterSentences r) :=
  fun P D A0 brk td hb hin hd =>
    overPieces_append isSentenceTerminator (fun j k => isSentenceTerminator_shiftTwin j k) r hr P D A0 brk
      (isSentenceTerminator_of_break hb) td hin hd

theorem appends_paragraphs (r : PieceRule) (hr : XLocalE r) : Appends (overPieces iterParagraphs r) :=
  fun P D A0 brk td hb hin hd =>
    overPieces_append Kind.isParagraphBreak (fun j k => isParagraphBreak_shiftTwin j k) r hr P D A0 brk hb td hin hd

theorem appends_chunks (r : PieceRule) (hr : XLocalE r) : Appends (overPieces iterChunks r) :=
  fun P D A0 brk td hb hin hd =>
    overPieces_append isChunkTerminator (fun j k => isChunkTerminator_shiftTwin j k) r hr P D A0 brk
      (isChunkTerminator_of_break hb) td hin hd

theorem appends_perTok (f : List Char → Tok → Except Panic (List RuleLint)) (hf : TokLocal f) : Appends (perTok f) :=
  fun P D A0 brk td _ hin hd => perTok_append hf P D (A0 ++ [brk]) td _ hin hd

/-- candidates chunk by chunk, then `remove_overlaps` on all of them: the lints of `P` end inside
`P`, so the sweep never lets a lint of one side remove a lint of the other -/
theorem currencyPlacement_appends (env : Env) : Appends (ruleCurrencyPlacement env) :=
  fun P D A0 brk td hb hin hd => currencyPlacement_append env P D A0 brk hb td hin hd

/-! ## end to end: from the characters of `P` and `D` -/

/-- the rule alone on `Document::new(src, &PlainEnglish, _)` -/
def docRule (cls : Cls) (ext : Ext) (r : PieceRule) (src : List Char) : Except Panic (List RuleLint) :=
  match document cls ext src with
  | .error e => .error e
  | .ok toks => r src toks

/-- the hypotheses of `paragraphs_separately` on the two texts: `P = P0 ++ '\n'^k` (`k ≥ 2`) is a
paragraph followed by its break, free of quotation marks; `D` does not start with a newline; the
class table obeys its three laws; the url / e-mail / hostname lexers are in bounds, local to each
side and newline-free -/
structure ParagraphPair (cls : Cls) (P0 D : List Char) (k : Nat) (extP extD extPD : Ext) : Prop where
  cls_ok : ClsOK cls
  two : 2 ≤ k
  no_nl_end : NoNlEnd P0
  d_head : D.head? ≠ some '\n'
  no_quotes : NoQuoteChars (P0 ++ List.replicate k '\n')
  ext_local : ExtLocal extP extD extPD (P0 ++ List.replicate k '\n').length
  ext_ok_p : ExtOK extP (P0 ++ List.replicate k '\n').length
  ext_ok_d : ExtOK extD D.length
  ext_no_nl : ExtNoNl extP (P0 ++ List.replicate k '\n')

/-- **C12 for one rule that `Appends`, end to end**: lexer, condensing passes, piece iterator,
rule. The lints (or the panic) on `P ++ D` are those on `P` followed by those on `D` moved by `|P|`. -/
theorem separately_of_appends (r : PieceRule) (hr : Appends r) (cls : Cls) (P0 D : List Char) (k : Nat)
    (extP extD extPD : Ext) (h : ParagraphPair cls P0 D k extP extD extPD) :
    docRule cls extPD r ((P0 ++ List.replicate k '\n') ++ D) =
      joinE (P0 ++ List.replicate k '\n').length (docRule cls extP r (P0 ++ List.replicate k '\n')) (docRule cls extD r D) := by
  obtain ⟨A0, pb, td, hpb, eP, eD, ePD, hin⟩ :=
    document_append cls h.cls_ok P0 D k h.two h.no_nl_end h.d_head h.no_quotes extP extD extPD h.ext_local h.ext_ok_p
      h.ext_ok_d h.ext_no_nl
  have hokP := document_tokOK cls extP _ h.ext_ok_p _ eP
  have hokD := document_tokOK cls extD _ h.ext_ok_d _ eD
  generalize P0 ++ List.replicate k '\n' = P at *
  have hbk : pb.kind.isParagraphBreak = true := by rw [hpb]; rfl
  have ePD' : document cls extPD (P ++ D) = .ok ((A0 ++ [pb]) ++ shiftDoc P.length (A0 ++ [pb]).length td) := ePD
  simp only [docRule, eP, eD, ePD']
  exact hr P D A0 pb td hbk (fun t ht => ⟨hokP t ht, hin t ht⟩) hokD

theorem longSentences_paragraphs_separately (env : Env) (cls : Cls) (P0 D : List Char) (k : Nat)
    (extP extD extPD : Ext) (h : ParagraphPair cls P0 D k extP extD extPD) :
    docRule cls extPD (ruleLongSentences env) ((P0 ++ List.replicate k '\n') ++ D) =
      joinE (P0 ++ List.replicate k '\n').length (docRule cls extP (ruleLongSentences env) (P0 ++ List.replicate k '\n'))
        (docRule cls extD (ruleLongSentences env) D) :=
  separately_of_appends _ (appends_sentences _ longSentences_xlocal) cls P0 D k extP extD extPD h

theorem currencyPlacement_paragraphs_separately (env : Env) (cls : Cls) (P0 D : List Char) (k : Nat)
    (extP extD extPD : Ext) (h : ParagraphPair cls P0 D k extP extD extPD) :
    docRule cls extPD (ruleCurrencyPlacement env) ((P0 ++ List.replicate k '\n') ++ D) =
      joinE (P0 ++ List.replicate k '\n').length (docRule cls extP (ruleCurrencyPlacement env) (P0 ++ List.replicate k '\n'))
        (docRule cls extD (ruleCurrencyPlacement env) D) :=
  separately_of_appends _ (currencyPlacement_appends env) cls P0 D k extP extD extPD h

theorem spaces_paragraphs_separately (env : Env) (cls : Cls) (P0 D : List Char) (k : Nat)
    (extP extD extPD : Ext) (h : ParagraphPair cls P0 D k extP extD extPD) :
    docRule cls extPD (ruleSpaces env) ((P0 ++ List.replicate k '\n') ++ D) =
      joinE (P0 ++ List.replicate k '\n').length (docRule cls extP (ruleSpaces env) (P0 ++ List.replicate k '\n'))
        (docRule cls extD (ruleSpaces env) D) :=
  separately_of_appends _ (appends_sentences _ spaces_xlocal) cls P0 D k extP extD extPD h

theorem repeatedWords_paragraphs_separately (env : Env) (cls : Cls) (P0 D : List Char) (k : Nat)
    (extP extD extPD : Ext) (h : ParagraphPair cls P0 D k extP extD extPD) :
    docRule cls extPD (ruleRepeatedWords env) ((P0 ++ List.replicate k '\n') ++ D) =
      joinE (P0 ++ List.replicate k '\n').length (docRule cls extP (ruleRepeatedWords env) (P0 ++ List.replicate k '\n'))
        (docRule cls extD (ruleRepeatedWords env) D) :=
  separately_of_appends _ (appends_chunks _ (repeatedWords_xlocal env)) cls P0 D k extP extD extPD h

theorem ellipsisLength_paragraphs_separately (env : Env) (cls : Cls) (P0 D : List Char) (k : Nat)
    (extP extD extPD : Ext) (h : ParagraphPair cls P0 D k extP extD extPD) :
    docRule cls extPD (ruleEllipsisLength env) ((P0 ++ List.replicate k '\n') ++ D) =
      joinE (P0 ++ List.replicate k '\n').length (docRule cls extP (ruleEllipsisLength env) (P0 ++ List.replicate k '\n'))
        (docRule cls extD (ruleEllipsisLength env) D) :=
  separately_of_appends _ (appends_perTok _ ellipsis_tokLocal) cls P0 D k extP extD extPD h

theorem numberSuffixCapitalization_paragraphs_separately (env : Env) (cls : Cls) (P0 D : List Char) (k : Nat)
    (extP extD extPD : Ext) (h : ParagraphPair cls P0 D k extP extD extPD) :
    docRule cls extPD (ruleNumberSuffixCapitalization env) ((P0 ++ List.replicate k '\n') ++ D) =
      joinE (P0 ++ List.replicate k '\n').length
        (docRule cls extP (ruleNumberSuffixCapitalization env) (P0 ++ List.replicate k '\n'))
        (docRule cls extD (ruleNumberSuffixCapitalization env) D) :=
  separately_of_appends _ (appends_perTok _ (numberSuffixCap_tokLocal env)) cls P0 D k extP extD extPD h

theorem correctNumberSuffix_paragraphs_separately (env : Env) (cls : Cls) (P0 D : List Char) (k : Nat)
    (extP extD extPD : Ext) (h : ParagraphPair cls P0 D k extP extD extPD) :
    docRule cls extPD (ruleCorrectNumberSuffix env) ((P0 ++ List.replicate k '\n') ++ D) =
      joinE (P0 ++ List.replicate k '\n').length
        (docRule cls extP (ruleCorrectNumberSuffix env) (P0 ++ List.replicate k '\n'))
        (docRule cls extD (ruleCorrectNumberSuffix env) D) :=
  separately_of_appends _ (appends_perTok _ (correctNumberSuffix_tokLocal env)) cls P0 D k extP extD extPD h

theorem modalOf_paragraphs_separately (env : Env) (cls : Cls) (P0 D : List Char) (k : Nat)
    (extP extD extPD : Ext) (h : ParagraphPair cls P0 D k extP extD extPD) :
    docRule cls extPD (ruleModalOf env) ((P0 ++ List.replicate k '\n') ++ D) =
      joinE (P0 ++ List.replicate k '\n').length (docRule cls extP (ruleModalOf env) (P0 ++ List.replicate k '\n'))
        (docRule cls extD (ruleModalOf env) D) :=
  separately_of_appends _ (appends_chunks _ (modalOf_xlocal env)) cls P0 D k extP extD extPD h

theorem anA_paragraphs_separately (env : Env) (cls : Cls) (P0 D : List Char) (k : Nat)
    (extP extD extPD : Ext) (h : ParagraphPair cls P0 D k extP extD extPD) :
    docRule cls extPD (ruleAnA env) ((P0 ++ List.replicate k '\n') ++ D) =
      joinE (P0 ++ List.replicate k '\n').length (docRule cls extP (ruleAnA env) (P0 ++ List.replicate k '\n'))
        (docRule cls extD (ruleAnA env) D) :=
  separately_of_appends _ (appends_chunks _ (anA_xlocal env)) cls P0 D k extP extD extPD h

theorem sentenceCapitalization_paragraphs_separately (env : Env) (cls : Cls) (P0 D : List Char) (k : Nat)
    (extP extD extPD : Ext) (h : ParagraphPair cls P0 D k extP extD extPD) :
    docRule cls extPD (ruleSentenceCapitalization env) ((P0 ++ List.replicate k '\n') ++ D) =
      joinE (P0 ++ List.replicate k '\n').length
        (docRule cls extP (ruleSentenceCapitalization env) (P0 ++ List.replicate k '\n'))
        (docRule cls extD (ruleSentenceCapitalization env) D) :=
  separately_of_appends _ (appends_paragraphs _ (sentenceCapitalization_xlocal env)) cls P0 D k extP extD extPD h

/-- **UnclosedQuotes is paragraph-local when `P` contains no quotation mark** (`ParagraphPair.no_quotes`,
the premise of C12): then no quote of `D` can find its twin in `P`, `match_quotes` pairs the quotes
of `D` among themselves exactly as it does for `D` alone, and an unpaired quote stays unpaired. -/
theorem unclosedQuotes_local_noquotes (env : Env) (cls : Cls) (P0 D : List Char) (k : Nat)
    (extP extD extPD : Ext) (h : ParagraphPair cls P0 D k extP extD extPD) :
    docRule cls extPD (ruleUnclosedQuotes env) ((P0 ++ List.replicate k '\n') ++ D) =
      joinE (P0 ++ List.replicate k '\n').length (docRule cls extP (ruleUnclosedQuotes env) (P0 ++ List.replicate k '\n'))
        (docRule cls extD (ruleUnclosedQuotes env) D) :=
  separately_of_appends _ (appends_perTok _ unclosedQuote_tokLocal) cls P0 D k extP extD extPD h

/-! ## non-vacuity and counter-examples (kernel-evaluated) -/

open Harper.C02 (asciiCls)

/-- an `Env` for ASCII texts: a number's `to_string()` is its text, no word metadata -/
def env0 : Env where
  numStr := id
  numVal := fun _ => .nonInt
  wordFlags := fun _ => 0
  lower := fun c => [lowerAscii c]
  isLower := fun c => 'a' ≤ c && c ≤ 'z'
  isUpper := fun c => 'A' ≤ c && c ≤ 'Z'
  isAlpha := isAsciiAlpha
  isAlnum := isAsciiAlnum
  isWs := fun c => c == ' ' || c == '\t' || c == '\n'
  canonical := fun _ => none

def noExt : Ext := fun _ => none

/-- with no url / e-mail / hostname token anywhere, `ParagraphPair` is four decidable conditions on the characters -/
theorem paragraphPair_noExt (cls : Cls) (hc : ClsOK cls) (P0 D : List Char) (k : Nat) (hk : 2 ≤ k) (hend : NoNlEnd P0)
    (hD : D.head? ≠ some '\n') (hq : NoQuoteChars (P0 ++ List.replicate k '\n')) :
    ParagraphPair cls P0 D k noExt noExt noExt where
  cls_ok := hc
  two := hk
  no_nl_end := hend
  d_head := hD
  no_quotes := hq
  ext_local := ⟨fun _ _ => rfl, fun _ => rfl⟩
  ext_ok_p := by intro _ _ _ h; cases h
  ext_ok_d := by intro _ _ _ h; cases h
  ext_no_nl := by intro _ _ _ h; cases h

/-- `ParagraphPair` is satisfiable: `It cost 4$.¶¶` + `a $ 20 the the` -/
example : ParagraphPair asciiCls ['I', 't', ' ', 'c', 'o', 's', 't', ' ', '4', '$', '.'] ['a', ' ', '$', ' ', '2', '0', ' ', 't', 'h', 'e', ' ', 't', 'h', 'e']
    2 noExt noExt noExt :=
  paragraphPair_noExt asciiCls asciiCls_clsOK _ _ 2 (by decide +kernel) (by decide +kernel) (by decide +kernel) (by decide +kernel)

/-- … and the conclusion computed on it: CurrencyPlacement and RepeatedWords report in BOTH paragraphs
(`4$` → `$4` at 8..10; `$ 20` → `$20` and `the the` → `the`, moved by 13) -/
example : docRule asciiCls noExt (ruleCurrencyPlacement env0)
      (['I', 't', ' ', 'c', 'o', 's', 't', ' ', '4', '$', '.', '\n', '\n'] ++ ['a', ' ', '$', ' ', '2', '0', ' ', 't', 'h', 'e', ' ', 't', 'h', 'e']) =
    .ok [⟨⟨8, 10⟩, [.replaceWith ['$', '4']], 2, 0⟩, ⟨⟨15, 19⟩, [.replaceWith ['$', '2', '0']], 2, 0⟩] := by decide +kernel

example : docRule asciiCls noExt (ruleRepeatedWords env0)
      (['I', 't', ' ', 'c', 'o', 's', 't', ' ', '4', '$', '.', '\n', '\n'] ++ ['a', ' ', '$', ' ', '2', '0', ' ', 't', 'h', 'e', ' ', 't', 'h', 'e']) =
    .ok [⟨⟨20, 27⟩, [.replaceWith ['t', 'h', 'e']], 5, 0⟩] := by decide +kernel

/-- **UnclosedQuotes is NOT paragraph-local when `P` contains a quotation mark**: `"a.¶¶` + `b"` —
together the two marks are twins and nothing is reported; separately each is unclosed -/
example : docRule asciiCls noExt (ruleUnclosedQuotes env0) (['"', 'a', '.', '\n', '\n'] ++ ['b', '"']) = .ok [] ∧
    docRule asciiCls noExt (ruleUnclosedQuotes env0) ['"', 'a', '.', '\n', '\n'] = .ok [⟨⟨0, 1⟩, [], 8, 0⟩] ∧
    docRule asciiCls noExt (ruleUnclosedQuotes env0) ['b', '"'] = .ok [⟨⟨1, 2⟩, [], 8, 0⟩] := by decide +kernel

/-- the tokens of `ab.¶¶` and of `$ 20` -/
def witP : List Tok := [⟨⟨0, 2⟩, .word⟩, ⟨⟨2, 3⟩, .punct .Period⟩, ⟨⟨3, 5⟩, .paragraphBreak⟩]
def witD : List Tok := [⟨⟨0, 1⟩, .punct .Currency⟩, ⟨⟨1, 2⟩, .space 1⟩, ⟨⟨2, 4⟩, .number 10 none⟩]

example : (document asciiCls noExt ['a', 'b', '.', '\n', '\n']).toOption = some witP ∧
    (document asciiCls noExt ['$', ' ', '2', '0']).toOption = some witD := by decide +kernel

/-- the seeded change `C12r2-currency-window-over-document`: with both windows sliding over
`document.tokens()`, the 4-token window `(¶¶, $, ␣, 20)` reports `$ 20` → `$20` at the start of the
second paragraph, which `$ 20` alone (three tokens, no window) never gets -/
example : ruleCurrencyPlacementWholeDoc env0 (['a', 'b', '.', '\n', '\n'] ++ ['$', ' ', '2', '0']) (witP ++ shiftDoc 5 3 witD) =
      .ok [⟨⟨5, 9⟩, [.replaceWith ['$', '2', '0']], 2, 0⟩] ∧
    ruleCurrencyPlacementWholeDoc env0 ['$', ' ', '2', '0'] witD = .ok [] ∧
    ruleCurrencyPlacementWholeDoc env0 ['a', 'b', '.', '\n', '\n'] witP = .ok [] := by decide +kernel

/-- hence the whole-document CurrencyPlacement does not commute with joining paragraphs … -/
example : ¬ Appends (ruleCurrencyPlacementWholeDoc env0) := by
  intro h
  have := h ['a', 'b', '.', '\n', '\n'] ['$', ' ', '2', '0'] [⟨⟨0, 2⟩, .word⟩, ⟨⟨2, 3⟩, .punct .Period⟩] ⟨⟨3, 5⟩, .paragraphBreak⟩ witD
    rfl (by decide +kernel) (by decide +kernel)
  revert this
  decide +kernel

/-- … and is NOT a chunk-local rule: its candidates are not `overPieces iterChunks f` for any
`XLocalE f` (for the real rule they are, with `f = currencyChunk env`: `currencyPlacement_xlocal`) -/
example : ¬ ∃ f : PieceRule, XLocalE f ∧ ∀ src toks, currencyChunk env0 src toks = overPieces iterChunks f src toks := by
  rintro ⟨f, hf, heq⟩
  have h := appends_chunks f hf ['a', 'b', '.', '\n', '\n'] ['$', ' ', '2', '0'] [⟨⟨0, 2⟩, .word⟩, ⟨⟨2, 3⟩, .punct .Period⟩]
    ⟨⟨3, 5⟩, .paragraphBreak⟩ witD rfl (by decide +kernel) (by decide +kernel)
  rw [← heq, ← heq, ← heq] at h
  revert h
  decide +kernel

/-! ## the modelled rules as `XLocal` rules of `Props/C12.lean` -/

/-- a lint as `Props/C12.lean` sees it: where it is and which message -/
def toPLint (l : RuleLint) : PLint := ⟨l.span, l.msg⟩

/-- a piece rule as an abstract `Rule` (on pieces of `tokOK` tokens — every piece of a document) -/
def asRule (r : PieceRule) : Rule := fun src piece =>
  if piece.all tokOK then
    match r src piece with
    | .ok ls => ls.map toPLint
    | .error _ => []
  else []

theorem asRule_xlocal (r : PieceRule) (hr : XLocalE r) : XLocal (asRule r) where
  nil := by intro src; simp [asRule, hr.nil]
  left := by
    intro P D piece hp
    simp only [asRule]
    split
    · rename_i hall
      rw [hr.left P D piece (fun t ht => ⟨List.all_eq_true.mp hall t ht, hp t ht⟩)]
    · rfl
  right := by
    intro P D piece j
    simp only [asRule]
    have hall : (shiftDoc P.length j piece).all tokOK = piece.all tokOK := by
      simp only [shiftDoc_eq_map, List.all_map]
      congr 1
      funext t
      simp
    rw [hall]
    split
    · rename_i hok
      rw [hr.right P D piece j (fun t ht => List.all_eq_true.mp hok t ht)]
      cases r D piece with
      | error e => rfl
      | ok ls => simp [Except.map, shiftRLs, shiftLints, toPLint, shiftRL, shiftSpan]
    · rfl

/-- e.g. `lint_append_sentences` of `Props/C12.lean` applies to Spaces with no hypothesis left -/
theorem spaces_lint_append (P D : List Char) (A0 : List Tok) (brk : Tok) (hb : brk.kind.isParagraphBreak = true)
    (td tpd : List Tok) (hin : ∀ t ∈ A0 ++ [brk], t.span.stop ≤ P.length) (hdoc : DocAppend tpd (A0 ++ [brk]) td P.length) :
    lintBy iterSentences (asRule spacesPiece) (P ++ D) tpd =
      lintBy iterSentences (asRule spacesPiece) P (A0 ++ [brk]) ++
        shiftLints P.length (lintBy iterSentences (asRule spacesPiece) D td) :=
  lint_append_sentences _ (asRule_xlocal _ spaces_xlocal) P D A0 brk hb td tpd hin hdoc

/-- … and `lint_append_chunks` to RepeatedWords and to the candidates of CurrencyPlacement -/
theorem repeatedWords_lint_append (env : Env) (P D : List Char) (A0 : List Tok) (brk : Tok)
    (hb : brk.kind.isParagraphBreak = true) (td tpd : List Tok) (hin : ∀ t ∈ A0 ++ [brk], t.span.stop ≤ P.length)
    (hdoc : DocAppend tpd (A0 ++ [brk]) td P.length) :
    lintBy iterChunks (asRule (repeatedWordsPiece env)) (P ++ D) tpd =
      lintBy iterChunks (asRule (repeatedWordsPiece env)) P (A0 ++ [brk]) ++
        shiftLints P.length (lintBy iterChunks (asRule (repeatedWordsPiece env)) D td) :=
  lint_append_chunks _ (asRule_xlocal _ (repeatedWords_xlocal env)) P D A0 brk hb td tpd hin hdoc

/-! ## non-vacuity, continued -/

/-- non-vacuity of `document_tokOK`: the document of `It cost 4$. 1st` -/
example : ∀ t ∈ [(⟨⟨0, 2⟩, .word⟩ : Tok), ⟨⟨2, 3⟩, .space 1⟩, ⟨⟨3, 7⟩, .word⟩, ⟨⟨7, 8⟩, .space 1⟩, ⟨⟨8, 9⟩, .number 10 none⟩,
      ⟨⟨9, 10⟩, .punct .Currency⟩, ⟨⟨10, 11⟩, .punct .Period⟩, ⟨⟨11, 12⟩, .space 1⟩, ⟨⟨12, 15⟩, .number 10 (some .st)⟩], tokOK t = true :=
  document_tokOK asciiCls noExt ['I', 't', ' ', 'c', 'o', 's', 't', ' ', '4', '$', '.', ' ', '1', 's', 't'] (fun _ _ _ h => by cases h) _ (by decide +kernel)

/-! ## `ParagraphPair` from conditions on the characters -/

/-- behind `P`, the table of the three MODELLED lexers (`Model/LexExt.lean`) for `P ++ D` is their table for `D` -/
theorem extOfSrc_behind (P D : List Char) (i : Nat) : extOfSrc (P ++ D) (P.length + i) = extOfSrc D i := by
  simp only [extOfSrc, List.drop_length_add_append]

/-- **`ParagraphPair` for the url / e-mail / hostname lexers AS MODELLED (`extOfSrc`: the tables computed from the
texts, not handed over), from conditions on the characters only — every one decidable** (the quantifiers are
bounded): inside `P` the three lexers find the same with and without `D` behind (`hloc`: false exactly for the
recorded finding `c12-lex-at-lookahead`, see below), and no token they find in `P` contains a newline (`hnl`).
`ExtOK` is `extOfSrc_ok`; the half of `ExtLocal` behind `P` is unconditional. -/
theorem paragraphPair_of_text (cls : Cls) (hc : ClsOK cls) (P0 D : List Char) (k : Nat) (hk : 2 ≤ k) (hend : NoNlEnd P0)
    (hD : D.head? ≠ some '\n') (hq : NoQuoteChars (P0 ++ List.replicate k '\n'))
    (hloc : ∀ pos, pos < (P0 ++ List.replicate k '\n').length →
      extOfSrc ((P0 ++ List.replicate k '\n') ++ D) pos = extOfSrc (P0 ++ List.replicate k '\n') pos)
    (hnl : ∀ pos, pos < (P0 ++ List.replicate k '\n').length → ∀ kn ∈ extOfSrc (P0 ++ List.replicate k '\n') pos,
      ∀ c ∈ ((P0 ++ List.replicate k '\n').drop pos).take kn.2, c ≠ '\n') :
    ParagraphPair cls P0 D k (extOfSrc (P0 ++ List.replicate k '\n')) (extOfSrc D)
      (extOfSrc ((P0 ++ List.replicate k '\n') ++ D)) where
  cls_ok := hc
  two := hk
  no_nl_end := hend
  d_head := hD
  no_quotes := hq
  ext_local := ⟨hloc, extOfSrc_behind _ D⟩
  ext_ok_p := extOfSrc_ok _
  ext_ok_d := extOfSrc_ok _
  ext_no_nl := by
    intro pos kd n h
    by_cases hp : pos < (P0 ++ List.replicate k '\n').length
    · exact hnl pos hp (kd, n) h
    · intro c hc
      rw [List.drop_eq_nil_of_le (by omega)] at hc
      simp at hc

/-! ## C12 end to end, from the characters of `P` and `D` and nothing else -/

/-- **`ParagraphPair` holds of the three lexers as modelled whenever `D` contains no `@`** — the only condition beyond
the wording of C12 (`P` a paragraph free of quotation marks followed by its break, `D` the rest); no hypothesis about
tokens, tables or lexers is left. -/
theorem paragraphPair_atFree (cls : Cls) (hc : ClsOK cls) (P0 D : List Char) (k : Nat) (hk : 2 ≤ k) (hend : NoNlEnd P0)
    (hD : D.head? ≠ some '\n') (hq : NoQuoteChars (P0 ++ List.replicate k '\n')) (hat : ∀ c ∈ D, c ≠ '@') :
    ParagraphPair cls P0 D k (extOfSrc (P0 ++ List.replicate k '\n')) (extOfSrc D)
      (extOfSrc ((P0 ++ List.replicate k '\n') ++ D)) :=
  paragraphPair_of_text cls hc P0 D k hk hend hD hq (extOfSrc_local_of_atFree P0 D k (by omega) hat)
    (fun pos _ kn hkn => extOfSrc_noNl _ hq pos kn.1 kn.2 hkn)

/-- **C12 for every rule that `Appends`, from the characters alone** (`parsePlainFull`'s table, i.e. every lexer
modelled): the lints — or the panic — on `P ++ D` are those on `P` followed by those on `D` moved by `|P|`. -/
theorem separately_atFree (r : PieceRule) (hr : Appends r) (cls : Cls) (hc : ClsOK cls) (P0 D : List Char) (k : Nat)
    (hk : 2 ≤ k) (hend : NoNlEnd P0) (hD : D.head? ≠ some '\n') (hq : NoQuoteChars (P0 ++ List.replicate k '\n'))
    (hat : ∀ c ∈ D, c ≠ '@') :
    docRule cls (extOfSrc ((P0 ++ List.replicate k '\n') ++ D)) r ((P0 ++ List.replicate k '\n') ++ D) =
      joinE (P0 ++ List.replicate k '\n').length
        (docRule cls (extOfSrc (P0 ++ List.replicate k '\n')) r (P0 ++ List.replicate k '\n'))
        (docRule cls (extOfSrc D) r D) :=
  separately_of_appends r hr cls P0 D k _ _ _ (paragraphPair_atFree cls hc P0 D k hk hend hD hq hat)

/-- the same for the abstract paragraph-local rules of `Props/C12.lean` -/
theorem paragraphs_separately_atFree (cls : Cls) (hc : ClsOK cls) (P0 D : List Char) (k : Nat) (hk : 2 ≤ k)
    (hend : NoNlEnd P0) (hD : D.head? ≠ some '\n') (hq : NoQuoteChars (P0 ++ List.replicate k '\n'))
    (hat : ∀ c ∈ D, c ≠ '@') (r : Rule) (hr : XLocal r) :
    ∃ lp ld, lintDoc cls (extOfSrc (P0 ++ List.replicate k '\n')) iterParagraphs r (P0 ++ List.replicate k '\n') = .ok lp ∧
      lintDoc cls (extOfSrc D) iterParagraphs r D = .ok ld ∧
      lintDoc cls (extOfSrc ((P0 ++ List.replicate k '\n') ++ D)) iterParagraphs r ((P0 ++ List.replicate k '\n') ++ D) =
        .ok (lp ++ shiftLints (P0 ++ List.replicate k '\n').length ld) :=
  have h := paragraphPair_atFree cls hc P0 D k hk hend hD hq hat
  paragraphs_separately cls hc P0 D k hk hend hD hq _ _ _ h.ext_local h.ext_ok_p h.ext_ok_d h.ext_no_nl r hr

/-! ## non-vacuity of the above; the `Consequently` clause -/

/-- non-vacuity of `paragraphPair_of_text`: `It cost 4$, ask a@b.c now.¶¶` + `the the: 4$` — real words in both texts, an e-mail
address in `P` (so the table is not empty), a colon and no `@` in `D`: the five conditions of `paragraphPair_atFree` -/
theorem paragraphPair_mail : ParagraphPair asciiCls ['I', 't', ' ', 'c', 'o', 's', 't', ' ', '4', '$', ',', ' ', 'a', 's', 'k', ' ', 'a', '@', 'b', '.', 'c', ' ', 'n', 'o', 'w', '.']
    ['t', 'h', 'e', ' ', 't', 'h', 'e', ':', ' ', '4', '$'] 2
    (extOfSrc (['I', 't', ' ', 'c', 'o', 's', 't', ' ', '4', '$', ',', ' ', 'a', 's', 'k', ' ', 'a', '@', 'b', '.', 'c', ' ', 'n', 'o', 'w', '.'] ++ List.replicate 2 '\n'))
    (extOfSrc ['t', 'h', 'e', ' ', 't', 'h', 'e', ':', ' ', '4', '$'])
    (extOfSrc ((['I', 't', ' ', 'c', 'o', 's', 't', ' ', '4', '$', ',', ' ', 'a', 's', 'k', ' ', 'a', '@', 'b', '.', 'c', ' ', 'n', 'o', 'w', '.'] ++ List.replicate 2 '\n') ++
      ['t', 'h', 'e', ' ', 't', 'h', 'e', ':', ' ', '4', '$'])) :=
  paragraphPair_atFree asciiCls asciiCls_clsOK _ _ 2 (by decide +kernel) (by decide +kernel) (by decide +kernel) (by decide +kernel)
    (by decide +kernel)

/-- the table is not empty: the e-mail address at 16..21 -/
example : extOfSrc (['I', 't', ' ', 'c', 'o', 's', 't', ' ', '4', '$', ',', ' ', 'a', 's', 'k', ' ', 'a', '@', 'b', '.', 'c', ' ', 'n', 'o', 'w', '.'] ++ List.replicate 2 '\n') 16 = some (.email, 5) := by
  decide +kernel

abbrev mailP : List Char :=
  ['I', 't', ' ', 'c', 'o', 's', 't', ' ', '4', '$', ',', ' ', 'a', 's', 'k', ' ', 'a', '@', 'b', '.', 'c', ' ', 'n', 'o', 'w', '.'] ++ List.replicate 2 '\n'
abbrev restD : List Char := ['t', 'h', 'e', ' ', 't', 'h', 'e', ':', ' ', '4', '$']

theorem mail_currency : docRule asciiCls (extOfSrc mailP) (ruleCurrencyPlacement env0) mailP =
    .ok [⟨⟨8, 10⟩, [.replaceWith ['$', '4']], 2, 0⟩] := by decide +kernel
theorem rest_currency : docRule asciiCls (extOfSrc restD) (ruleCurrencyPlacement env0) restD =
    .ok [⟨⟨9, 11⟩, [.replaceWith ['$', '4']], 2, 0⟩] := by decide +kernel
theorem mail_repeated : docRule asciiCls (extOfSrc mailP) (ruleRepeatedWords env0) mailP = .ok [] := by decide +kernel
theorem rest_repeated : docRule asciiCls (extOfSrc restD) (ruleRepeatedWords env0) restD =
    .ok [⟨⟨0, 7⟩, [.replaceWith ['t', 'h', 'e']], 5, 0⟩] := by decide +kernel

/-- … and the conclusion of `currencyPlacement_paragraphs_separately` / `repeatedWords_paragraphs_separately` on it, computed
with the modelled lexers: lints in BOTH paragraphs (`4$` at 8..10; `the the` and `4$` behind, moved by 28) -/
example : docRule asciiCls (extOfSrc ((['I', 't', ' ', 'c', 'o', 's', 't', ' ', '4', '$', ',', ' ', 'a', 's', 'k', ' ', 'a', '@', 'b', '.', 'c', ' ', 'n', 'o', 'w', '.'] ++ List.replicate 2 '\n') ++ ['t', 'h', 'e', ' ', 't', 'h', 'e', ':', ' ', '4', '$']))
      (ruleCurrencyPlacement env0) ((['I', 't', ' ', 'c', 'o', 's', 't', ' ', '4', '$', ',', ' ', 'a', 's', 'k', ' ', 'a', '@', 'b', '.', 'c', ' ', 'n', 'o', 'w', '.'] ++ List.replicate 2 '\n') ++ ['t', 'h', 'e', ' ', 't', 'h', 'e', ':', ' ', '4', '$']) =
    .ok [⟨⟨8, 10⟩, [.replaceWith ['$', '4']], 2, 0⟩, ⟨⟨37, 39⟩, [.replaceWith ['$', '4']], 2, 0⟩] :=
  (currencyPlacement_paragraphs_separately env0 asciiCls _ _ 2 _ _ _ paragraphPair_mail).trans
    (by rw [mail_currency, rest_currency]; rfl)

example : docRule asciiCls (extOfSrc ((['I', 't', ' ', 'c', 'o', 's', 't', ' ', '4', '$', ',', ' ', 'a', 's', 'k', ' ', 'a', '@', 'b', '.', 'c', ' ', 'n', 'o', 'w', '.'] ++ List.replicate 2 '\n') ++ ['t', 'h', 'e', ' ', 't', 'h', 'e', ':', ' ', '4', '$']))
      (ruleRepeatedWords env0) ((['I', 't', ' ', 'c', 'o', 's', 't', ' ', '4', '$', ',', ' ', 'a', 's', 'k', ' ', 'a', '@', 'b', '.', 'c', ' ', 'n', 'o', 'w', '.'] ++ List.replicate 2 '\n') ++ ['t', 'h', 'e', ' ', 't', 'h', 'e', ':', ' ', '4', '$']) =
    .ok [⟨⟨28, 35⟩, [.replaceWith ['t', 'h', 'e']], 5, 0⟩] :=
  (repeatedWords_paragraphs_separately env0 asciiCls _ _ 2 _ _ _ paragraphPair_mail).trans
    (by rw [mail_repeated, rest_repeated]; rfl)

/-- **`hloc` is what the recorded finding `c12-lex-at-lookahead` violates**, here with the lexers as modelled: with an
`@` in `D` (`Ping @x.`) `lex_email_address` takes the LAST `@` of the whole rest of the text, the address in `P` is no
longer found, and the document of the whole is not the two documents put together -/
example : ¬ (∀ pos, pos < (['I', 't', ' ', 'c', 'o', 's', 't', ' ', '4', '$', ',', ' ', 'a', 's', 'k', ' ', 'a', '@', 'b', '.', 'c', ' ', 'n', 'o', 'w', '.'] ++ List.replicate 2 '\n').length →
      extOfSrc ((['I', 't', ' ', 'c', 'o', 's', 't', ' ', '4', '$', ',', ' ', 'a', 's', 'k', ' ', 'a', '@', 'b', '.', 'c', ' ', 'n', 'o', 'w', '.'] ++ List.replicate 2 '\n') ++ ['P', 'i', 'n', 'g', ' ', '@', 'x', '.']) pos = extOfSrc (['I', 't', ' ', 'c', 'o', 's', 't', ' ', '4', '$', ',', ' ', 'a', 's', 'k', ' ', 'a', '@', 'b', '.', 'c', ' ', 'n', 'o', 'w', '.'] ++ List.replicate 2 '\n') pos) := by decide +kernel

example : extOfSrc ((['I', 't', ' ', 'c', 'o', 's', 't', ' ', '4', '$', ',', ' ', 'a', 's', 'k', ' ', 'a', '@', 'b', '.', 'c', ' ', 'n', 'o', 'w', '.'] ++ List.replicate 2 '\n') ++ ['P', 'i', 'n', 'g', ' ', '@', 'x', '.']) 16 = none := by decide +kernel

example : (document asciiCls (extOfSrc ((['I', 't', ' ', 'c', 'o', 's', 't', ' ', '4', '$', ',', ' ', 'a', 's', 'k', ' ', 'a', '@', 'b', '.', 'c', ' ', 'n', 'o', 'w', '.'] ++ List.replicate 2 '\n') ++ ['P', 'i', 'n', 'g', ' ', '@', 'x', '.'])) ((['I', 't', ' ', 'c', 'o', 's', 't', ' ', '4', '$', ',', ' ', 'a', 's', 'k', ' ', 'a', '@', 'b', '.', 'c', ' ', 'n', 'o', 'w', '.'] ++ List.replicate 2 '\n') ++ ['P', 'i', 'n', 'g', ' ', '@', 'x', '.'])).toOption ≠
    (do let tp ← (document asciiCls (extOfSrc (['I', 't', ' ', 'c', 'o', 's', 't', ' ', '4', '$', ',', ' ', 'a', 's', 'k', ' ', 'a', '@', 'b', '.', 'c', ' ', 'n', 'o', 'w', '.'] ++ List.replicate 2 '\n')) (['I', 't', ' ', 'c', 'o', 's', 't', ' ', '4', '$', ',', ' ', 'a', 's', 'k', ' ', 'a', '@', 'b', '.', 'c', ' ', 'n', 'o', 'w', '.'] ++ List.replicate 2 '\n')).toOption
        let td ← (document asciiCls (extOfSrc ['P', 'i', 'n', 'g', ' ', '@', 'x', '.']) ['P', 'i', 'n', 'g', ' ', '@', 'x', '.']).toOption
        pure (tp ++ shiftDoc 28 tp.length td)) := by decide +kernel

/-! ### "editing one paragraph never changes, moves or hides a lint in another paragraph" -/

/-- **The second sentence of C12 for every rule that `Appends`** (the eleven rules above; every `MapPhraseLinter` and
`ProperNounCapitalizationLinter` of `Props/C12c.lean`): two texts with the same continuation `D` behind different first
paragraphs report the SAME lints `ld` for `D` — those of `D` checked alone — moved by `|P|` resp. `|P'|`: none changed,
none hidden, none added. (With a panic on either side: `separately_of_appends`.) -/
theorem edit_first_paragraph_rule (r : PieceRule) (hr : Appends r) (cls : Cls) (P0 P0' D : List Char) (k k' : Nat)
    (extP extP' extD extPD extPD' : Ext) (h : ParagraphPair cls P0 D k extP extD extPD)
    (h' : ParagraphPair cls P0' D k' extP' extD extPD') (lp lp' ld : List RuleLint)
    (eP : docRule cls extP r (P0 ++ List.replicate k '\n') = .ok lp)
    (eP' : docRule cls extP' r (P0' ++ List.replicate k' '\n') = .ok lp')
    (eD : docRule cls extD r D = .ok ld) :
    docRule cls extPD r ((P0 ++ List.replicate k '\n') ++ D) = .ok (lp ++ shiftRLs (P0 ++ List.replicate k '\n').length ld) ∧
    docRule cls extPD' r ((P0' ++ List.replicate k' '\n') ++ D) = .ok (lp' ++ shiftRLs (P0' ++ List.replicate k' '\n').length ld) := by
  rw [separately_of_appends r hr cls P0 D k extP extD extPD h, separately_of_appends r hr cls P0' D k' extP' extD extPD' h', eP, eP', eD]
  exact ⟨rfl, rfl⟩

/-- … and changing the text AFTER the paragraph break changes no lint of the first paragraph, not even its place -/
theorem edit_later_text_rule (r : PieceRule) (hr : Appends r) (cls : Cls) (P0 D D' : List Char) (k : Nat)
    (extP extD extD' extPD extPD' : Ext) (h : ParagraphPair cls P0 D k extP extD extPD)
    (h' : ParagraphPair cls P0 D' k extP extD' extPD') (lp ld ld' : List RuleLint)
    (eP : docRule cls extP r (P0 ++ List.replicate k '\n') = .ok lp)
    (eD : docRule cls extD r D = .ok ld) (eD' : docRule cls extD' r D' = .ok ld') :
    docRule cls extPD r ((P0 ++ List.replicate k '\n') ++ D) = .ok (lp ++ shiftRLs (P0 ++ List.replicate k '\n').length ld) ∧
    docRule cls extPD' r ((P0 ++ List.replicate k '\n') ++ D') = .ok (lp ++ shiftRLs (P0 ++ List.replicate k '\n').length ld') := by
  rw [separately_of_appends r hr cls P0 D k extP extD extPD h, separately_of_appends r hr cls P0 D' k extP extD' extPD' h', eP, eD, eD']
  exact ⟨rfl, rfl⟩

/-- a second first paragraph in front of the same `D`: `Pay 5$.¶¶` -/
theorem paragraphPair_pay : ParagraphPair asciiCls ['P', 'a', 'y', ' ', '5', '$', '.']
    ['t', 'h', 'e', ' ', 't', 'h', 'e', ':', ' ', '4', '$'] 2
    (extOfSrc (['P', 'a', 'y', ' ', '5', '$', '.'] ++ List.replicate 2 '\n'))
    (extOfSrc ['t', 'h', 'e', ' ', 't', 'h', 'e', ':', ' ', '4', '$'])
    (extOfSrc ((['P', 'a', 'y', ' ', '5', '$', '.'] ++ List.replicate 2 '\n') ++ ['t', 'h', 'e', ' ', 't', 'h', 'e', ':', ' ', '4', '$'])) :=
  paragraphPair_atFree asciiCls asciiCls_clsOK _ _ 2 (by decide +kernel) (by decide +kernel) (by decide +kernel) (by decide +kernel)
    (by decide +kernel)

/-- non-vacuity of `edit_first_paragraph_rule` (CurrencyPlacement, the modelled lexers): the first paragraph
`It cost 4$, ask a@b.c now.¶¶` edited to `Pay 5$.¶¶`; the lint `4$` of `the the: 4$` is reported at 37..39 before
and at 18..20 after — same lint, moved by the change of length -/
example : docRule asciiCls (extOfSrc ((['I', 't', ' ', 'c', 'o', 's', 't', ' ', '4', '$', ',', ' ', 'a', 's', 'k', ' ', 'a', '@', 'b', '.', 'c', ' ', 'n', 'o', 'w', '.'] ++ List.replicate 2 '\n') ++ ['t', 'h', 'e', ' ', 't', 'h', 'e', ':', ' ', '4', '$'])) (ruleCurrencyPlacement env0)
      ((['I', 't', ' ', 'c', 'o', 's', 't', ' ', '4', '$', ',', ' ', 'a', 's', 'k', ' ', 'a', '@', 'b', '.', 'c', ' ', 'n', 'o', 'w', '.'] ++ List.replicate 2 '\n') ++ ['t', 'h', 'e', ' ', 't', 'h', 'e', ':', ' ', '4', '$']) =
      .ok ([⟨⟨8, 10⟩, [.replaceWith ['$', '4']], 2, 0⟩] ++ shiftRLs (['I', 't', ' ', 'c', 'o', 's', 't', ' ', '4', '$', ',', ' ', 'a', 's', 'k', ' ', 'a', '@', 'b', '.', 'c', ' ', 'n', 'o', 'w', '.'] ++ List.replicate 2 '\n').length [⟨⟨9, 11⟩, [.replaceWith ['$', '4']], 2, 0⟩]) ∧
    docRule asciiCls (extOfSrc ((['P', 'a', 'y', ' ', '5', '$', '.'] ++ List.replicate 2 '\n') ++ ['t', 'h', 'e', ' ', 't', 'h', 'e', ':', ' ', '4', '$'])) (ruleCurrencyPlacement env0)
      ((['P', 'a', 'y', ' ', '5', '$', '.'] ++ List.replicate 2 '\n') ++ ['t', 'h', 'e', ' ', 't', 'h', 'e', ':', ' ', '4', '$']) =
      .ok ([⟨⟨4, 6⟩, [.replaceWith ['$', '5']], 2, 0⟩] ++ shiftRLs (['P', 'a', 'y', ' ', '5', '$', '.'] ++ List.replicate 2 '\n').length [⟨⟨9, 11⟩, [.replaceWith ['$', '4']], 2, 0⟩]) :=
  edit_first_paragraph_rule _ (currencyPlacement_appends env0) asciiCls _ _ _ 2 2 _ _ _ _ _ paragraphPair_mail paragraphPair_pay
    _ _ _ mail_currency (by decide +kernel) rest_currency

/-- non-vacuity of `edit_later_text_rule`: `the the: 4$` edited to `Ping`: the lint of the first paragraph stays at 8..10 -/
example : docRule asciiCls (extOfSrc ((['I', 't', ' ', 'c', 'o', 's', 't', ' ', '4', '$', ',', ' ', 'a', 's', 'k', ' ', 'a', '@', 'b', '.', 'c', ' ', 'n', 'o', 'w', '.'] ++ List.replicate 2 '\n') ++ ['t', 'h', 'e', ' ', 't', 'h', 'e', ':', ' ', '4', '$'])) (ruleCurrencyPlacement env0)
      ((['I', 't', ' ', 'c', 'o', 's', 't', ' ', '4', '$', ',', ' ', 'a', 's', 'k', ' ', 'a', '@', 'b', '.', 'c', ' ', 'n', 'o', 'w', '.'] ++ List.replicate 2 '\n') ++ ['t', 'h', 'e', ' ', 't', 'h', 'e', ':', ' ', '4', '$']) =
      .ok ([⟨⟨8, 10⟩, [.replaceWith ['$', '4']], 2, 0⟩] ++ shiftRLs (['I', 't', ' ', 'c', 'o', 's', 't', ' ', '4', '$', ',', ' ', 'a', 's', 'k', ' ', 'a', '@', 'b', '.', 'c', ' ', 'n', 'o', 'w', '.'] ++ List.replicate 2 '\n').length [⟨⟨9, 11⟩, [.replaceWith ['$', '4']], 2, 0⟩]) ∧
    docRule asciiCls (extOfSrc ((['I', 't', ' ', 'c', 'o', 's', 't', ' ', '4', '$', ',', ' ', 'a', 's', 'k', ' ', 'a', '@', 'b', '.', 'c', ' ', 'n', 'o', 'w', '.'] ++ List.replicate 2 '\n') ++ ['P', 'i', 'n', 'g'])) (ruleCurrencyPlacement env0)
      ((['I', 't', ' ', 'c', 'o', 's', 't', ' ', '4', '$', ',', ' ', 'a', 's', 'k', ' ', 'a', '@', 'b', '.', 'c', ' ', 'n', 'o', 'w', '.'] ++ List.replicate 2 '\n') ++ ['P', 'i', 'n', 'g']) =
      .ok ([⟨⟨8, 10⟩, [.replaceWith ['$', '4']], 2, 0⟩] ++ shiftRLs (['I', 't', ' ', 'c', 'o', 's', 't', ' ', '4', '$', ',', ' ', 'a', 's', 'k', ' ', 'a', '@', 'b', '.', 'c', ' ', 'n', 'o', 'w', '.'] ++ List.replicate 2 '\n').length []) :=
  edit_later_text_rule _ (currencyPlacement_appends env0) asciiCls _ _ _ 2 _ _ _ _ _ paragraphPair_mail
    (paragraphPair_atFree asciiCls asciiCls_clsOK _ _ 2 (by decide +kernel) (by decide +kernel) (by decide +kernel) (by decide +kernel)
      (by decide +kernel))
    _ _ _ mail_currency rest_currency (by decide +kernel)

/-- non-vacuity of `spaces_lint_append` / `repeatedWords_lint_append`: the documents of `a  b.¶¶` and `c c` -/
example : lintBy iterSentences (asRule spacesPiece) (['a', ' ', ' ', 'b', '.', '\n', '\n'] ++ ['c', ' ', 'c'])
      (([⟨⟨0, 1⟩, .word⟩, ⟨⟨1, 3⟩, .space 2⟩, ⟨⟨3, 4⟩, .word⟩, ⟨⟨4, 5⟩, .punct .Period⟩] ++ [⟨⟨5, 7⟩, .paragraphBreak⟩]) ++
        shiftDoc 7 5 [⟨⟨0, 1⟩, .word⟩, ⟨⟨1, 2⟩, .space 1⟩, ⟨⟨2, 3⟩, .word⟩]) =
    lintBy iterSentences (asRule spacesPiece) ['a', ' ', ' ', 'b', '.', '\n', '\n']
        ([⟨⟨0, 1⟩, .word⟩, ⟨⟨1, 3⟩, .space 2⟩, ⟨⟨3, 4⟩, .word⟩, ⟨⟨4, 5⟩, .punct .Period⟩] ++ [⟨⟨5, 7⟩, .paragraphBreak⟩]) ++
      shiftLints 7 (lintBy iterSentences (asRule spacesPiece) ['c', ' ', 'c'] [⟨⟨0, 1⟩, .word⟩, ⟨⟨1, 2⟩, .space 1⟩, ⟨⟨2, 3⟩, .word⟩]) :=
  spaces_lint_append _ _ _ ⟨⟨5, 7⟩, .paragraphBreak⟩ rfl _ _ (by decide +kernel) rfl

example : lintBy iterChunks (asRule (repeatedWordsPiece env0)) (['a', ' ', ' ', 'b', '.', '\n', '\n'] ++ ['c', ' ', 'c'])
      (([⟨⟨0, 1⟩, .word⟩, ⟨⟨1, 3⟩, .space 2⟩, ⟨⟨3, 4⟩, .word⟩, ⟨⟨4, 5⟩, .punct .Period⟩] ++ [⟨⟨5, 7⟩, .paragraphBreak⟩]) ++
        shiftDoc 7 5 [⟨⟨0, 1⟩, .word⟩, ⟨⟨1, 2⟩, .space 1⟩, ⟨⟨2, 3⟩, .word⟩]) =
    lintBy iterChunks (asRule (repeatedWordsPiece env0)) ['a', ' ', ' ', 'b', '.', '\n', '\n']
        ([⟨⟨0, 1⟩, .word⟩, ⟨⟨1, 3⟩, .space 2⟩, ⟨⟨3, 4⟩, .word⟩, ⟨⟨4, 5⟩, .punct .Period⟩] ++ [⟨⟨5, 7⟩, .paragraphBreak⟩]) ++
      shiftLints 7 (lintBy iterChunks (asRule (repeatedWordsPiece env0)) ['c', ' ', 'c'] [⟨⟨0, 1⟩, .word⟩, ⟨⟨1, 2⟩, .space 1⟩, ⟨⟨2, 3⟩, .word⟩]) :=
  repeatedWords_lint_append env0 _ _ _ ⟨⟨5, 7⟩, .paragraphBreak⟩ rfl _ _ (by decide +kernel) rfl

/-- … and the lints they speak about: the double blank at 1..3 (Spaces), `c c` at 7..10 (RepeatedWords) -/
example : lintBy iterSentences (asRule spacesPiece) (['a', ' ', ' ', 'b', '.', '\n', '\n'] ++ ['c', ' ', 'c'])
      (([⟨⟨0, 1⟩, .word⟩, ⟨⟨1, 3⟩, .space 2⟩, ⟨⟨3, 4⟩, .word⟩, ⟨⟨4, 5⟩, .punct .Period⟩] ++ [⟨⟨5, 7⟩, .paragraphBreak⟩]) ++
        shiftDoc 7 5 [⟨⟨0, 1⟩, .word⟩, ⟨⟨1, 2⟩, .space 1⟩, ⟨⟨2, 3⟩, .word⟩]) = [⟨⟨1, 3⟩, 3⟩] ∧
    lintBy iterChunks (asRule (repeatedWordsPiece env0)) (['a', ' ', ' ', 'b', '.', '\n', '\n'] ++ ['c', ' ', 'c'])
      (([⟨⟨0, 1⟩, .word⟩, ⟨⟨1, 3⟩, .space 2⟩, ⟨⟨3, 4⟩, .word⟩, ⟨⟨4, 5⟩, .punct .Period⟩] ++ [⟨⟨5, 7⟩, .paragraphBreak⟩]) ++
        shiftDoc 7 5 [⟨⟨0, 1⟩, .word⟩, ⟨⟨1, 2⟩, .space 1⟩, ⟨⟨2, 3⟩, .word⟩]) = [⟨⟨7, 10⟩, 5⟩] := by decide +kernel

/-- non-vacuity of `paragraphPair_atFree` / `separately_atFree`: `It cost 4$, ask a@b.c now.¶¶` + `the the: 4$` (the pair of
`paragraphPair_mail`; its lints, in both paragraphs, are computed above) — the five conditions, all on the characters -/
example : docRule asciiCls (extOfSrc ((['I', 't', ' ', 'c', 'o', 's', 't', ' ', '4', '$', ',', ' ', 'a', 's', 'k', ' ', 'a', '@', 'b', '.', 'c', ' ', 'n', 'o', 'w', '.'] ++ List.replicate 2 '\n') ++ ['t', 'h', 'e', ' ', 't', 'h', 'e', ':', ' ', '4', '$']))
      (ruleCurrencyPlacement env0) ((['I', 't', ' ', 'c', 'o', 's', 't', ' ', '4', '$', ',', ' ', 'a', 's', 'k', ' ', 'a', '@', 'b', '.', 'c', ' ', 'n', 'o', 'w', '.'] ++ List.replicate 2 '\n') ++ ['t', 'h', 'e', ' ', 't', 'h', 'e', ':', ' ', '4', '$']) =
    joinE (['I', 't', ' ', 'c', 'o', 's', 't', ' ', '4', '$', ',', ' ', 'a', 's', 'k', ' ', 'a', '@', 'b', '.', 'c', ' ', 'n', 'o', 'w', '.'] ++ List.replicate 2 '\n').length
      (docRule asciiCls (extOfSrc (['I', 't', ' ', 'c', 'o', 's', 't', ' ', '4', '$', ',', ' ', 'a', 's', 'k', ' ', 'a', '@', 'b', '.', 'c', ' ', 'n', 'o', 'w', '.'] ++ List.replicate 2 '\n')) (ruleCurrencyPlacement env0) (['I', 't', ' ', 'c', 'o', 's', 't', ' ', '4', '$', ',', ' ', 'a', 's', 'k', ' ', 'a', '@', 'b', '.', 'c', ' ', 'n', 'o', 'w', '.'] ++ List.replicate 2 '\n'))
      (docRule asciiCls (extOfSrc ['t', 'h', 'e', ' ', 't', 'h', 'e', ':', ' ', '4', '$']) (ruleCurrencyPlacement env0) ['t', 'h', 'e', ' ', 't', 'h', 'e', ':', ' ', '4', '$']) :=
  separately_atFree _ (currencyPlacement_appends env0) asciiCls asciiCls_clsOK _ _ 2 (by decide +kernel) (by decide +kernel) (by decide +kernel) (by decide +kernel)
    (by decide +kernel)

/-- **`hat` is needed also when `P` contains no `@`**: `lex_url`'s login part looks for the FIRST `@` of the whole rest of
the text. `Go to s://a.b/c now.¶¶` alone has the URL `s://a.b/c` (5..14); followed by `x@y` the URL is `s://` only -/
example : extOfSrc (['G', 'o', ' ', 't', 'o', ' ', 's', ':', '/', '/', 'a', '.', 'b', '/', 'c', ' ', 'n', 'o', 'w', '.'] ++ List.replicate 2 '\n') 6 = some (.url, 9) ∧
    extOfSrc ((['G', 'o', ' ', 't', 'o', ' ', 's', ':', '/', '/', 'a', '.', 'b', '/', 'c', ' ', 'n', 'o', 'w', '.'] ++ List.replicate 2 '\n') ++ ['x', '@', 'y']) 6 = some (.url, 4) := by decide +kernel

/-- **`ParagraphPair.two` (`k ≥ 2`) is needed**: one newline does not end the paragraph — `the⏎` + `the` checked together
is a repeated word across the newline (one lint, 0..7), checked separately it is nothing; with two newlines nothing
is reported either way -/
example : docRule asciiCls noExt (ruleRepeatedWords env0) ((['t', 'h', 'e'] ++ List.replicate 1 '\n') ++ ['t', 'h', 'e']) =
      .ok [⟨⟨0, 7⟩, [.replaceWith ['t', 'h', 'e']], 5, 0⟩] ∧
    docRule asciiCls noExt (ruleRepeatedWords env0) (['t', 'h', 'e'] ++ List.replicate 1 '\n') = .ok [] ∧
    docRule asciiCls noExt (ruleRepeatedWords env0) ['t', 'h', 'e'] = .ok [] ∧
    docRule asciiCls noExt (ruleRepeatedWords env0) ((['t', 'h', 'e'] ++ List.replicate 2 '\n') ++ ['t', 'h', 'e']) = .ok [] := by
  decide +kernel

/-- non-vacuity of `paragraphPair_atFree` with a URL and a hostname in `P` (so that `lexUrl_nl`, `lexUrl_noNl`,
`lexHostnameToken_nlEnd`, `lexHostnameToken_noNl` and everything below them are exercised on tokens that exist):
`Go to s://a.b/c or x.y now.¶¶` + `the the` -/
example : ParagraphPair asciiCls ['G', 'o', ' ', 't', 'o', ' ', 's', ':', '/', '/', 'a', '.', 'b', '/', 'c', ' ', 'o', 'r', ' ', 'x', '.', 'y', ' ', 'n', 'o', 'w', '.'] ['t', 'h', 'e', ' ', 't', 'h', 'e'] 2
    (extOfSrc (['G', 'o', ' ', 't', 'o', ' ', 's', ':', '/', '/', 'a', '.', 'b', '/', 'c', ' ', 'o', 'r', ' ', 'x', '.', 'y', ' ', 'n', 'o', 'w', '.'] ++ List.replicate 2 '\n')) (extOfSrc ['t', 'h', 'e', ' ', 't', 'h', 'e']) (extOfSrc ((['G', 'o', ' ', 't', 'o', ' ', 's', ':', '/', '/', 'a', '.', 'b', '/', 'c', ' ', 'o', 'r', ' ', 'x', '.', 'y', ' ', 'n', 'o', 'w', '.'] ++ List.replicate 2 '\n') ++ ['t', 'h', 'e', ' ', 't', 'h', 'e'])) :=
  paragraphPair_atFree asciiCls asciiCls_clsOK _ _ 2 (by decide +kernel) (by decide +kernel) (by decide +kernel) (by decide +kernel) (by decide +kernel)

example : extOfSrc ((['G', 'o', ' ', 't', 'o', ' ', 's', ':', '/', '/', 'a', '.', 'b', '/', 'c', ' ', 'o', 'r', ' ', 'x', '.', 'y', ' ', 'n', 'o', 'w', '.'] ++ List.replicate 2 '\n') ++ ['t', 'h', 'e', ' ', 't', 'h', 'e']) 6 = some (.url, 9) ∧
    extOfSrc ((['G', 'o', ' ', 't', 'o', ' ', 's', ':', '/', '/', 'a', '.', 'b', '/', 'c', ' ', 'o', 'r', ' ', 'x', '.', 'y', ' ', 'n', 'o', 'w', '.'] ++ List.replicate 2 '\n') ++ ['t', 'h', 'e', ' ', 't', 'h', 'e']) 19 = some (.hostname, 3) := by decide +kernel

/-- … and RepeatedWords on it: nothing in `P`, `the the` behind it at 29..36 -/
example : docRule asciiCls (extOfSrc ((['G', 'o', ' ', 't', 'o', ' ', 's', ':', '/', '/', 'a', '.', 'b', '/', 'c', ' ', 'o', 'r', ' ', 'x', '.', 'y', ' ', 'n', 'o', 'w', '.'] ++ List.replicate 2 '\n') ++ ['t', 'h', 'e', ' ', 't', 'h', 'e'])) (ruleRepeatedWords env0) ((['G', 'o', ' ', 't', 'o', ' ', 's', ':', '/', '/', 'a', '.', 'b', '/', 'c', ' ', 'o', 'r', ' ', 'x', '.', 'y', ' ', 'n', 'o', 'w', '.'] ++ List.replicate 2 '\n') ++ ['t', 'h', 'e', ' ', 't', 'h', 'e']) =
    .ok [⟨⟨29, 36⟩, [.replaceWith ['t', 'h', 'e']], 5, 0⟩] := by decide +kernel

/-- non-vacuity of `paragraphPair_noExt` and of `unclosedQuotes_local_noquotes` in the case it is about — a quotation
mark in `D`, none in `P`: `a.¶¶` + `b"`; the unclosed quote of `D` (1..2 alone) is reported at 5..6 -/
example : docRule asciiCls noExt (ruleUnclosedQuotes env0) ((['a', '.'] ++ List.replicate 2 '\n') ++ ['b', '"']) =
    joinE (['a', '.'] ++ List.replicate 2 '\n').length
      (docRule asciiCls noExt (ruleUnclosedQuotes env0) (['a', '.'] ++ List.replicate 2 '\n'))
      (docRule asciiCls noExt (ruleUnclosedQuotes env0) ['b', '"']) :=
  unclosedQuotes_local_noquotes env0 asciiCls _ _ 2 _ _ _
    (paragraphPair_noExt asciiCls asciiCls_clsOK ['a', '.'] ['b', '"'] 2 (by decide +kernel) (by decide +kernel) (by decide +kernel) (by decide +kernel))

example : docRule asciiCls noExt (ruleUnclosedQuotes env0) ((['a', '.'] ++ List.replicate 2 '\n') ++ ['b', '"']) =
    .ok [⟨⟨5, 6⟩, [], 8, 0⟩] := by decide +kernel

end Harper.C12
