import Harper.Lemmas.LintGroup
/-!
# C05 — lint results depend only on text, language, dictionary and configuration

Property theorems only. Model: `Harper/Model/LintGroup.lean` — `LintGroup::lint` with its
`chunk_pattern_cache` as an LRU list of arbitrary capacity, keyed by
`(chunk content, configuration)` where the chunk content `γ` is the chunk's characters AND its
tokens' kinds and spans relative to the chunk start (the key of the current code; before the fix
`131eac6` the tokens were missing and the property was false across languages).

`H_loc` — a pattern rule's output, relative to the chunk start, depends only on the chunk content
and whether the rule is enabled — is the *type* of `Rules.pat` (`γ → List PLint`), so it is built
into every statement below rather than being a hypothesis; the harness monitors it on the real
rules (same chunk at different offsets / in different documents). Whole-document rules are
functions of the document (`δ → List PLint`); the one stateful whole-document rule, `SpellCheck`,
is treated separately (`spell_history_independent`). The 64-bit key hash is modelled as injective.
Threads and processes are not modelled (exercised by the harness only).
-/
namespace Harper.C05
open Harper Harper.LG

variable {κ δ γ : Type} [DecidableEq κ] [DecidableEq γ]

/-- `cache_inv`, step: `lint` preserves the invariant "every entry `((g, c), v)` has `v = compute R c g`"
(whatever the capacity, the configuration, the document), and a `setConfig` does not touch the cache. The base
case, the empty cache, is `Lru.inv_nil`. -/
theorem cache_inv_step (R : Rules κ δ γ) (cap : Nat) (s : State κ γ) (op : Op κ δ γ)
    (h : CacheInv R s.cache) : CacheInv R (step R cap s op).1.cache := by
  cases op with
  | setConfig c => exact h
  | lint d => exact (lint_spec R cap s.cfg d h).2

/-- `cache_inv`: every state reachable from a fresh group by any history satisfies the invariant -/
theorem cache_inv (R : Rules κ δ γ) (cap : Nat) (c₀ : Cfg κ) (ops : List (Op κ δ γ)) :
    CacheInv R (exec R cap ⟨c₀, []⟩ ops).cache :=
  exec_invariant R cap (fun s => CacheInv R s.cache) (cache_inv_step R cap) _ ops (Lru.inv_nil _)

/-- under the invariant the cache is unobservable: a long-lived group returns what a fresh group
(of any capacity) returns -/
theorem lint_cache_unobservable (R : Rules κ δ γ) (cap cap' : Nat) (st : Cache κ γ) (c : Cfg κ)
    (d : Doc δ γ) (h : CacheInv R st) : (lint R cap st c d).1 = (lint R cap' [] c d).1 := by
  rw [(lint_spec R cap c d h).1, (lint_spec R cap' c d (Lru.inv_nil _)).1]

/-- History independence, from any state satisfying the invariant. -/
theorem lint_history_independent_from (R : Rules κ δ γ) (cap : Nat) (s : State κ γ)
    (ops : List (Op κ δ γ)) (h : CacheInv R s.cache) :
    run R cap s ops = runFresh R cap s.cfg ops := by
  induction ops generalizing s with
  | nil => rfl
  | cons op ops ih =>
    cases op with
    | setConfig c =>
      show run R cap { s with cfg := c } ops = runFresh R cap c ops
      exact ih { s with cfg := c } h
    | lint d =>
      have hs := lint_spec R cap s.cfg d h
      show (lint R cap s.cache s.cfg d).1 :: run R cap { s with cache := (lint R cap s.cache s.cfg d).2 } ops
        = (lint R cap [] s.cfg d).1 :: runFresh R cap s.cfg ops
      rw [lint_cache_unobservable R cap cap s.cache s.cfg d h]
      congr 1
      exact ih { s with cache := (lint R cap s.cache s.cfg d).2 } hs.2

/-- **History independence.** For EVERY sequence of operations (`setConfig c` | `lint doc`), every
capacity and every initial configuration, on one long-lived group starting from the empty cache,
every `lint` returns exactly (lints and their order) what a brand-new group with the then-current
configuration returns for that document. -/
theorem lint_history_independent (R : Rules κ δ γ) (cap : Nat) (c₀ : Cfg κ)
    (ops : List (Op κ δ γ)) : run R cap ⟨c₀, []⟩ ops = runFresh R cap c₀ ops :=
  lint_history_independent_from R cap ⟨c₀, []⟩ ops (Lru.inv_nil _)

/-- the capacity is unobservable too -/
theorem capacity_unobservable (R : Rules κ δ γ) (cap cap' : Nat) (c₀ : Cfg κ)
    (ops : List (Op κ δ γ)) : run R cap ⟨c₀, []⟩ ops = run R cap' ⟨c₀, []⟩ ops := by
  rw [lint_history_independent, lint_history_independent]
  induction ops generalizing c₀ with
  | nil => rfl
  | cons op ops ih =>
    cases op with
    | setConfig c => exact ih c
    | lint d =>
      show (lint R cap [] c₀ d).1 :: runFresh R cap c₀ ops = (lint R cap' [] c₀ d).1 :: runFresh R cap' c₀ ops
      rw [lint_cache_unobservable R cap cap' [] c₀ d (Lru.inv_nil _), ih c₀]

/-- the cache never grows beyond its capacity (`NonZero`: at least one entry) -/
theorem cache_bounded (R : Rules κ δ γ) (cap : Nat) (c₀ : Cfg κ) (ops : List (Op κ δ γ)) :
    (exec R cap ⟨c₀, []⟩ ops).cache.length ≤ max cap 1 := by
  refine exec_invariant R cap (fun s => s.cache.length ≤ max cap 1) (fun s op hs => ?_) _ ops
    (Nat.zero_le _)
  cases op with
  | setConfig c => exact hs
  | lint d => exact lintChunks_length R cap s.cfg d.chunks hs

/-- C11's `unknown_keys_harmless` through the cache: an unknown key changes the cache key, so it
can only cost misses. Whatever the history (any state with the invariant), linting under `c₂` gives
what a fresh group gives under any `c₁` that agrees with `c₂` on every registered rule. -/
theorem unknown_keys_harmless_cached (R : Rules κ δ γ) (cap : Nat) (st : Cache κ γ)
    (c₁ c₂ : Cfg κ) (d : Doc δ γ) (hst : CacheInv R st)
    (h : ∀ r ∈ R.doc.map (·.1) ++ R.pat.map (·.1), isEnabled c₁ r = isEnabled c₂ r) :
    (lint R cap st c₂ d).1 = (lint R cap [] c₁ d).1 := by
  rw [(lint_spec R cap c₂ d hst).1, (lint_spec R cap c₁ d (Lru.inv_nil _)).1]
  exact (lintSpec_congr R d h).symm

/-- The same for `SpellCheck.word_cache`: from any cache state whose entries are what `suggest`
computes (in particular from any state reached from the empty cache), the lints for a document's
words are those of a fresh `SpellCheck` — one lint per unknown word, built from `suggest w`. The key
is the exact word (`Teh` and `teh` are different keys), and truncation / capitalisation (`post`)
happens after the lookup on a clone, so it cannot leak into the cache. -/
theorem spell_history_independent {ω σ : Type} [DecidableEq ω] (known : ω → Bool)
    (suggest : ω → σ) (post : ω → σ → PLint) (cap cap' : Nat) (st : Lru ω σ) (ws : List ω)
    (h : Lru.Inv suggest st) :
    (spellLint known suggest post cap st ws).1 = (spellLint known suggest post cap' [] ws).1 ∧
      Lru.Inv suggest (spellLint known suggest post cap st ws).2 := by
  have a := spellLint_spec known suggest post cap ws h
  have b := spellLint_spec known suggest post cap' ws (Lru.inv_nil suggest)
  exact ⟨by rw [a.1, b.1], a.2⟩

/-- The same over a whole history of documents: after ANY list of earlier documents `hist` checked by
one long-lived `SpellCheck` (empty word cache at the start, any capacity), the lints for the next
document are those of a fresh `SpellCheck`. -/
theorem spell_history_independent_seq {ω σ : Type} [DecidableEq ω] (known : ω → Bool)
    (suggest : ω → σ) (post : ω → σ → PLint) (cap cap' : Nat) (hist : List (List ω)) (ws : List ω) :
    (spellLint known suggest post cap
        (hist.foldl (fun st d => (spellLint known suggest post cap st d).2) []) ws).1 =
      (spellLint known suggest post cap' [] ws).1 := by
  have hinv : ∀ (st : Lru ω σ), Lru.Inv suggest st →
      Lru.Inv suggest (hist.foldl (fun st d => (spellLint known suggest post cap st d).2) st) := by
    induction hist with
    | nil => intro st h; exact h
    | cons d ds ih =>
      intro st h
      exact ih _ (spell_history_independent known suggest post cap cap st d h).2
  exact (spell_history_independent known suggest post cap cap' _ ws (hinv [] (Lru.inv_nil _))).1

/-- The property in one line: after ANY history `hist` (documents and configuration changes, any
capacity) on a group that started with an empty cache, linting `d` gives exactly what a brand-new
group (of any capacity `cap'`) with the configuration then in force gives. -/
theorem lint_after_any_history (R : Rules κ δ γ) (cap cap' : Nat) (c₀ : Cfg κ)
    (hist : List (Op κ δ γ)) (d : Doc δ γ) :
    (lint R cap (exec R cap ⟨c₀, []⟩ hist).cache (exec R cap ⟨c₀, []⟩ hist).cfg d).1 =
      (lint R cap' [] (exec R cap ⟨c₀, []⟩ hist).cfg d).1 :=
  lint_cache_unobservable R cap cap' _ _ d (cache_inv R cap c₀ hist)

/-! ## Non-vacuity: a concrete history with hits, misses and evictions (capacity 2) -/

/-- two pattern rules (2, 3) and a whole-document rule (1); chunk contents are numbers -/
def exR : Rules Nat Nat Nat where
  doc := [(1, fun d => [⟨d, d + 1, 10⟩])]
  pat := [(2, fun g => [⟨g, g + 2, 20⟩]), (3, fun g => if g = 7 then [⟨0, 1, 30⟩] else [])]

def cOn : Cfg Nat := [(1, some true), (2, some true), (3, some true)]
def cOff3 : Cfg Nat := [(1, some true), (2, some true), (3, some false)]

def exOps : List (Op Nat Nat Nat) :=
  [.lint ⟨0, [(10, 7), (20, 8)]⟩,      -- miss 7, miss 8
   .lint ⟨1, [(50, 7)]⟩,               -- hit 7 at another offset
   .setConfig cOff3,
   .lint ⟨2, [(0, 7)]⟩,                -- miss (7, cOff3): evicts (8, cOn), the least recently used
   .setConfig cOn,
   .lint ⟨3, [(5, 8), (9, 7)]⟩]        -- miss 8 again (evicts (7, cOn)), then miss 7 (evicts (7, cOff3))

example : run exR 2 ⟨cOn, []⟩ exOps =
    [[⟨0, 1, 10⟩, ⟨17, 19, 20⟩, ⟨10, 11, 30⟩, ⟨28, 30, 20⟩],
     [⟨1, 2, 10⟩, ⟨57, 59, 20⟩, ⟨50, 51, 30⟩],
     [⟨2, 3, 10⟩, ⟨7, 9, 20⟩],
     [⟨3, 4, 10⟩, ⟨13, 15, 20⟩, ⟨16, 18, 20⟩, ⟨9, 10, 30⟩]] := by decide +kernel

/-- after the first lint both chunks are cached, most recent first: the second lint is a hit -/
theorem exCache_eq : (exec exR 2 ⟨cOn, []⟩ (exOps.take 1)).cache =
    [((8, cOn), [⟨8, 10, 20⟩]), ((7, cOn), [⟨7, 9, 20⟩, ⟨0, 1, 30⟩])] := by decide +kernel
example : (exec exR 2 ⟨cOn, []⟩ (exOps.take 1)).cache =
    [((8, cOn), [⟨8, 10, 20⟩]), ((7, cOn), [⟨7, 9, 20⟩, ⟨0, 1, 30⟩])] := exCache_eq
example : Lru.find (7, cOn) (exec exR 2 ⟨cOn, []⟩ (exOps.take 1)).cache =
    some [⟨7, 9, 20⟩, ⟨0, 1, 30⟩] := by decide +kernel

/-- the hit moved `(7, cOn)` to the front, so the next miss evicts `(8, cOn)` -/
example : (exec exR 2 ⟨cOn, []⟩ (exOps.take 4)).cache =
    [((7, cOff3), [⟨7, 9, 20⟩]), ((7, cOn), [⟨7, 9, 20⟩, ⟨0, 1, 30⟩])] := by decide +kernel

/-- at the end three distinct keys have been evicted; the cache holds `cap = 2` entries -/
example : (exec exR 2 ⟨cOn, []⟩ exOps).cache =
    [((7, cOn), [⟨7, 9, 20⟩, ⟨0, 1, 30⟩]), ((8, cOn), [⟨8, 10, 20⟩])] := by decide +kernel

/-- capacity 1: every other lookup evicts; same results -/
example : run exR 1 ⟨cOn, []⟩ exOps = run exR 2 ⟨cOn, []⟩ exOps := capacity_unobservable exR 1 2 cOn exOps

/-- why the tokens must be part of the key (the defect fixed by `131eac6`): two chunk contents
with the same characters but different tokens are different `γ`s, hence different keys; here
`(chars, toks)` pairs — plain text then Markdown of the same characters -/
def exRtok : Rules Nat Nat (Nat × Nat) where
  doc := []
  pat := [(2, fun g => if g.2 = 1 then [⟨0, 5, 20⟩] else [])]

example : run exRtok 9 ⟨[(2, some true)], []⟩ [.lint ⟨0, [(0, (7, 0))]⟩, .lint ⟨0, [(0, (7, 1))]⟩] =
    [[], [⟨0, 5, 20⟩]] := by decide +kernel

/-- `SpellCheck`: `Teh` (1) and `teh` (2) are different keys; word 3 is known; capacity 1 evicts -/
example : (spellLint (fun w => w == 3) (fun w => w * 10) (fun w s => ⟨w, w, s⟩) 1 [] [1, 3, 2, 1, 1]).1 =
    [⟨1, 1, 10⟩, ⟨2, 2, 20⟩, ⟨1, 1, 10⟩, ⟨1, 1, 10⟩] := by decide +kernel

/-- the non-empty cache the first lint of `exOps` leaves behind -/
theorem exCache_inv : CacheInv exR [((8, cOn), [⟨8, 10, 20⟩]), ((7, cOn), [⟨7, 9, 20⟩, ⟨0, 1, 30⟩])] :=
  exCache_eq ▸ cache_inv exR 2 cOn (exOps.take 1)

/-- non-vacuity of cache_inv_step -/
example : CacheInv exR (step exR 2 ⟨cOn, [((8, cOn), [⟨8, 10, 20⟩]), ((7, cOn), [⟨7, 9, 20⟩, ⟨0, 1, 30⟩])]⟩
    (.lint ⟨2, [(0, 7), (3, 9)]⟩)).1.cache :=
  cache_inv_step exR 2 ⟨cOn, _⟩ _ exCache_inv

/-- non-vacuity of lint_cache_unobservable: a hit (chunk 7) and a miss (chunk 9) on a two-entry
cache of capacity 2 give what a fresh group of capacity 5 gives -/
example : (lint exR 2 [((8, cOn), [⟨8, 10, 20⟩]), ((7, cOn), [⟨7, 9, 20⟩, ⟨0, 1, 30⟩])] cOn ⟨2, [(0, 7), (3, 9)]⟩).1 =
    (lint exR 5 [] cOn ⟨2, [(0, 7), (3, 9)]⟩).1 :=
  lint_cache_unobservable exR 2 5 _ cOn _ exCache_inv

/-- non-vacuity of lint_history_independent_from: the rest of `exOps` from that state -/
example : run exR 2 ⟨cOn, [((8, cOn), [⟨8, 10, 20⟩]), ((7, cOn), [⟨7, 9, 20⟩, ⟨0, 1, 30⟩])]⟩ (exOps.drop 1) =
    runFresh exR 2 cOn (exOps.drop 1) :=
  lint_history_independent_from exR 2 ⟨cOn, _⟩ _ exCache_inv

/-- non-vacuity of unknown_keys_harmless_cached: an unknown key 9 (on) and an unknown key 8 (off) -/
example : (lint exR 2 [((8, cOn), [⟨8, 10, 20⟩]), ((7, cOn), [⟨7, 9, 20⟩, ⟨0, 1, 30⟩])]
      (cOn ++ [(9, some true), (8, some false)]) ⟨2, [(0, 7)]⟩).1 = (lint exR 2 [] cOn ⟨2, [(0, 7)]⟩).1 :=
  unknown_keys_harmless_cached exR 2 _ cOn _ _ exCache_inv (by decide +kernel)

/-- non-vacuity of spell_history_independent: a cache that already holds `1 ↦ 10` -/
example : (spellLint (fun w => w == 3) (fun w => w * 10) (fun w s => ⟨w, w, s⟩) 1 [(1, 10)] [1, 3, 2]).1 =
    (spellLint (fun w => w == 3) (fun w => w * 10) (fun w s => ⟨w, w, s⟩) 4 [] [1, 3, 2]).1 :=
  (spell_history_independent _ _ _ 1 4 [(1, 10)] [1, 3, 2]
    (by intro e he; simp at he; subst he; rfl)).1

/-- a capacity of 0 behaves as 1 (`NonZero`): same results, one entry -/
example : run exR 0 ⟨cOn, []⟩ exOps = run exR 2 ⟨cOn, []⟩ exOps := capacity_unobservable exR 0 2 cOn exOps
example : (exec exR 0 ⟨cOn, []⟩ exOps).cache = [((7, cOn), [⟨7, 9, 20⟩, ⟨0, 1, 30⟩])] := by decide +kernel

/-- the property read on the example: the long-lived results are the fresh ones, lint by lint -/
example : run exR 2 ⟨cOn, []⟩ exOps = runFresh exR 2 cOn exOps := lint_history_independent exR 2 cOn exOps
example : (runFresh exR 2 cOn exOps).length = 4 := by decide +kernel

/-- `lint_after_any_history` on the example: the configuration in force after `exOps.take 3` is
`cOff3`, the cache is not empty, and chunk 7 under `cOff3` has not been seen -/
example : (lint exR 2 (exec exR 2 ⟨cOn, []⟩ (exOps.take 3)).cache cOff3 ⟨2, [(0, 7)]⟩).1 =
    (lint exR 9 [] cOff3 ⟨2, [(0, 7)]⟩).1 :=
  lint_after_any_history exR 2 9 cOn (exOps.take 3) ⟨2, [(0, 7)]⟩

/-- `spell_history_independent_seq`: two earlier documents, capacity 1 -/
example : (spellLint (fun w => w == 3) (fun w => w * 10) (fun w s => ⟨w, w, s⟩) 1
      ([[1, 2], [2, 3, 4]].foldl (fun st d => (spellLint (fun w => w == 3) (fun w => w * 10) (fun w s => ⟨w, w, s⟩) 1 st d).2) [])
      [4, 1]).1 = [⟨4, 4, 40⟩, ⟨1, 1, 10⟩] := by decide +kernel


end Harper.C05
