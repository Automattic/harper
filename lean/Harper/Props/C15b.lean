import Harper.Props.C15
/-!
# C15, second part — the specification `lev` IS the Levenshtein metric

`Props/C15.lean` proves that the `u8` two-row routine computes `lev` and that every fuzzy result
carries `lev` of the query (or of its lower-case form) and the word. The property says "a TRUE
Levenshtein distance": that claim is only as good as `lev`, a five-line recursion written for
this model. This file checks the specification against what makes Levenshtein distance what it
is, so that a slip in the recursion (a wrong base case, a cost on the wrong branch) could not hide
behind theorems that merely compare the code with it:

* `lev_eq_zero_iff` — distance 0 exactly for equal strings;
* `lev_comm` (in `Props/C15.lean`) — symmetry;
* `lev_triangle` — the triangle inequality, by composing edit scripts (`Align.trans`, in
  `Lemmas/EditDistance.lean` with the other facts about scripts);
* `lev_append_le` — distances of concatenations add at most (used by `lev_single_edit`);
  `lev_cons_same_le` — a common first character can be kept;
* `lev_single_edit` — one insertion, deletion or substitution anywhere costs at most 1.

Consequences used by the property's reading: `fuzzy_distance_via_lower` — the distance reported
for a mixed-case query is within `lev q (lower q)` of the distance to the query as typed.
-/
namespace Harper.C15
open Harper

section Metric
variable {α : Type} [DecidableEq α]

/-- **identity of indiscernibles** -/
theorem lev_eq_zero_iff (s t : List α) : lev s t = 0 ↔ s = t := by
  constructor
  · intro h; exact (Align.of_lev s t).eq_of_zero h
  · rintro rfl; exact lev_self s

/-- **the triangle inequality** -/
theorem lev_triangle (s t u : List α) : lev s u ≤ lev s t + lev t u := by
  obtain ⟨k, hk, hal⟩ := (Align.of_lev s t).trans (Align.of_lev t u)
  exact Nat.le_trans hal.lev_le hk

/-- a common first character can be kept -/
theorem lev_cons_same_le (a : α) (s t : List α) : lev (a :: s) (a :: t) ≤ lev s t := by
  have := (Align.sub a a (Align.of_lev s t)).lev_le
  rw [edCost_self] at this; exact this

/-- distances of concatenations add at most -/
theorem lev_append_le (s t s' t' : List α) : lev (s ++ s') (t ++ t') ≤ lev s t + lev s' t' :=
  ((Align.of_lev s t).append (Align.of_lev s' t')).lev_le

/-- **one edit costs at most one**, wherever it happens: `p ++ x ++ r` against `p ++ y ++ r` with
`x`, `y` of at most one character each (insertion, deletion, substitution or nothing). -/
theorem lev_single_edit (p r x y : List α) (hx : x.length ≤ 1) (hy : y.length ≤ 1) :
    lev (p ++ x ++ r) (p ++ y ++ r) ≤ 1 := by
  have h1 : lev (p ++ x ++ r) (p ++ y ++ r) ≤ lev (p ++ x) (p ++ y) + lev r r :=
    lev_append_le _ _ _ _
  have h2 : lev (p ++ x) (p ++ y) ≤ lev p p + lev x y := lev_append_le _ _ _ _
  have h3 : lev x y ≤ max x.length y.length := lev_le_max x y
  rw [lev_self] at h1 h2
  omega

/-- what falling back to the lower-cased query can change: the two distances a fuzzy result may
carry (`fuzzy_sound`: `min (lev q w) (lev (lower q) w)`) differ by at most the number of edits
between the query and its lower-case form. -/
theorem fuzzy_distance_via_lower (q ql w : List α) :
    lev q w ≤ lev ql w + lev q ql ∧ lev ql w ≤ lev q w + lev q ql := by
  constructor
  · have := lev_triangle q ql w; omega
  · have := lev_triangle ql q w; rw [lev_comm ql q] at this; omega

end Metric

/-! ## Non-vacuity and regression values (kernel-evaluated) -/
example : lev "flaw".toList "lawn".toList = 2 := lev_of_editDistance (by decide +kernel)
example : lev "abc".toList "abc".toList = 0 := lev_of_editDistance (by decide +kernel)
example : lev "abc".toList "abd".toList = 1 := lev_of_editDistance (by decide +kernel)
/-- the triangle inequality is tight somewhere (`ab → ad → cd`: 2 = 1 + 1) and strict somewhere
(`ab → cd → ab`: 0 < 2 + 2) -/
example : lev "ab".toList "cd".toList = 2 ∧ lev "ab".toList "ad".toList = 1 ∧
    lev "ad".toList "cd".toList = 1 :=
  ⟨lev_of_editDistance (by decide +kernel), lev_of_editDistance (by decide +kernel), lev_of_editDistance (by decide +kernel)⟩
example : lev "ab".toList "ab".toList = 0 ∧ lev "cd".toList "ab".toList = 2 :=
  ⟨lev_of_editDistance (by decide +kernel), lev_of_editDistance (by decide +kernel)⟩
/-- `lev_single_edit` instantiated: a deletion in the middle of a word -/
example : lev "recieve".toList "receve".toList ≤ 1 := by
  have h : "recieve".toList = "rec".toList ++ ['i'] ++ "eve".toList ∧
      "receve".toList = "rec".toList ++ [] ++ "eve".toList := by decide +kernel
  rw [h.1, h.2]
  exact lev_single_edit _ _ _ _ (Nat.le_refl 1) (Nat.zero_le 1)

end Harper.C15
