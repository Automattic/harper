import Harper.Lemmas.Leaves
import Harper.Props.C03b
import Harper.Props.C01Leaves
import Harper.Props.C12c
/-!
# C03 / C01 (generic rule constructions) — every phrase-correction rule points into the text and does not panic

For the generic constructions of `Model/Leaves.lean` (compared with the shipped rules row by row on
every run of the check):

* `replace_with_match_case_length` / `_only_case`: the suggestion `MapPhraseLinter` offers has the length of
  the correct form and differs from it only by ASCII case;
* `mapPhrase_spans_wf` / `mapPhrase_total`: for EVERY pattern tree over the real leaves without the three
  demanding patterns (`plain` — every tree of `phrase_corrections.rs` and `closed_compounds.rs` is), on
  well-formed tokens inside the text IN ANY ORDER, zero-width ones included (so also on what the
  Markdown front-end delivers), the `MapPhraseLinter` returns, and every lint has `start ≤ stop ≤ len`;
  `mapPhrase_spans_wf_full`: for every tree whatsoever on tiling tokens with words of ≤ 254 characters;
* `mapPhrase_span_is_match`: the lint's span is exactly `TokenStringExt::span` of the matched tokens, and its
  suggestions are the correct forms re-cased after the matched text;
* `phraseCorrection_spans_wf`, `closedCompound_spans_wf`: the table rows, whatever their phrases;
* `properNoun_spans_wf` / `properNoun_total`: `ProperNounCapitalizationLinter` — including the `unwrap` of its
  second `PatternMap::lookup` on the truncated slice, which is safe because an `ExactPhrase` that matched a
  slice matches the matched prefix again (`phrase_prefix_stable`);
* `mergeLinters_spans_wf`, `mergeLinters_disjoint`: `merge_linters!` of rules that return in-range lints
  returns in-range, pairwise disjoint lints.
-/
namespace Harper.C03
open Harper Harper.Chunks Harper.Rules Harper.Leaves

/-! ## `Suggestion::replace_with_match_case` -/

/-- the suggestion has the length of the correct form -/
theorem replace_with_match_case_length (env : Env) : ∀ (value template : List Char), (matchCase env value template).length = value.length
  | [], [] => rfl
  | [], _ :: _ => rfl
  | _ :: _, [] => rfl
  | v :: vs, t :: ts => by simp only [matchCase, List.length_cons, replace_with_match_case_length env vs ts]

/-- … and every character of it is the correct form's character, or its ASCII upper- or lower-case variant -/
theorem replace_with_match_case_only_case (env : Env) : ∀ (value template : List Char) (i : Nat) (c : Char),
    (matchCase env value template)[i]? = some c →
      ∃ v, value[i]? = some v ∧ (c = v ∨ c = upperAscii v ∨ c = lowerAscii v)
  | [], [], i, c, h => by simp [matchCase] at h
  | [], _ :: _, i, c, h => by simp [matchCase] at h
  | v :: vs, [], i, c, h => ⟨c, h, .inl rfl⟩
  | v :: vs, t :: ts, 0, c, h => by
    simp only [matchCase, List.getElem?_cons_zero, Option.some.injEq] at h
    refine ⟨v, rfl, ?_⟩
    subst h
    split
    · split
      · exact .inr (.inl rfl)
      · exact .inr (.inr rfl)
    · exact .inl rfl
  | v :: vs, t :: ts, i + 1, c, h => by
    simp only [matchCase, List.getElem?_cons_succ] at h
    obtain ⟨w, hw, hc⟩ := replace_with_match_case_only_case env vs ts i c h
    exact ⟨w, by simpa using hw, hc⟩

/-- the template only matters up to the length of the correct form -/
example : matchCase C12.env0 ['i', 'n', 't', 'a', 'c', 't'] ['I', 'N', ' ', 'T', 'A', 'C', 'T'] = ['I', 'N', 't', 'A', 'C', 'T'] := by decide +kernel

/-! ## `MapPhraseLinter` -/

/-- **every `MapPhraseLinter` over a plain tree, on tokens in any order**: no `Span::new` / `get_content` /
slice / `unwrap` panic anywhere in pattern, `run_on_chunk` or `match_to_lint`, and `start ≤ stop ≤ len` -/
theorem mapPhrase_spans_wf (env : Env) (p : RPat) (hp : p.plain = true) (forms : List (List Char)) (src : List Char)
    (toks : List Tok) (h : InText src toks) : RunsWF (ruleMapPhrase env p forms) src toks :=
  overPieces_okh inText_hyp _ _ src toks h
    (fun piece hpc => mapPhrasePiece_ok inText_hyp env p (side_of_plain env _ p hp) forms src piece hpc)

theorem mapPhrase_total (env : Env) (p : RPat) (hp : p.plain = true) (forms : List (List Char)) (src : List Char)
    (toks : List Tok) (h : InText src toks) : ∃ ls, ruleMapPhrase env p forms src toks = .ok ls :=
  (mapPhrase_spans_wf env p hp forms src toks h).imp fun _ h => h.1

/-- tiling tokens are in the text -/
theorem inText_of_tiles (src : List Char) (toks : List Tok) (h : Tiles toks 0 src.length) : InText src toks :=
  fun t ht => ⟨Nat.le_of_lt ((ord_of_tiles toks _ h).2 t ht).1, ((ord_of_tiles toks _ h).2 t ht).2⟩

/-- **every `MapPhraseLinter` whatsoever** (also over `SimilarToPhrase`, `SplitCompoundWord`, `IsNotTitleCase`) on
the tokens of a plain-English document whose words have at most 254 characters -/
theorem mapPhrase_spans_wf_full (env : Env) (hd : DictOK env) (hc : CanonOK env) (p : RPat) (hw : WordsShort env p)
    (forms : List (List Char)) (src : List Char) (toks : List Tok) (h : Tiles toks 0 src.length)
    (hs : ShortWords env src toks) : RunsWF (ruleMapPhrase env p forms) src toks :=
  overPieces_okh (orderedShort_hyp env) _ _ src toks ⟨ord_of_tiles toks _ h, hs⟩
    (fun piece hpc => mapPhrasePiece_ok (orderedShort_hyp env) env p (side_full env hd hc p hw) forms src piece hpc)

theorem mapPhrase_total_full (env : Env) (hd : DictOK env) (hc : CanonOK env) (p : RPat) (hw : WordsShort env p)
    (forms : List (List Char)) (src : List Char) (toks : List Tok) (h : Tiles toks 0 src.length)
    (hs : ShortWords env src toks) : ∃ ls, ruleMapPhrase env p forms src toks = .ok ls :=
  (mapPhrase_spans_wf_full env hd hc p hw forms src toks h hs).imp fun _ h => h.1

/-- **where the lint is, and what it suggests**: the span of the matched tokens, and per correct form the form
re-cased after the text under that span (same length as the form, only ASCII case changed) -/
theorem mapPhrase_span_is_match (env : Env) (forms : List (List Char)) (src : List Char) (m : List Tok)
    (ls : List RuleLint) (h : mapPhraseMatch env forms src m = .ok ls) (l : RuleLint) (hl : l ∈ ls) :
    spanOf m = some l.span ∧ ∃ txt, l.span.getContent src = .ok txt ∧
      l.suggs = forms.map (fun f => .replaceWith (matchCase env f txt)) :=
  mapPhraseMatch_shape env forms src m l ls h hl

/-- **every row of `phrase_corrections.rs`**, whatever its phrases and corrections -/
theorem phraseCorrection_spans_wf (env : Env) (docs : List (List Char × List Tok)) (p : RPat)
    (hp : exactPhrasesOf env docs = some p) (forms : List (List Char)) (src : List Char) (toks : List Tok)
    (h : InText src toks) : RunsWF (ruleMapPhrase env p forms) src toks :=
  mapPhrase_spans_wf env p (C01.exactPhrases_plain env docs p hp) forms src toks h

/-- **every row of `closed_compounds.rs`** -/
theorem closedCompound_spans_wf (env : Env) (psrc : List Char) (ptoks : List Tok) (good : List Char) (r : PieceRule)
    (hr : ruleClosedCompound env psrc ptoks good = some r) (src : List Char) (toks : List Tok) (h : InText src toks) :
    RunsWF r src toks := by
  simp only [ruleClosedCompound, Option.map_eq_some_iff] at hr
  obtain ⟨p, hp, rfl⟩ := hr
  exact mapPhrase_spans_wf env p (C01.exactPhrase_plain env psrc ptoks p hp) [good] src toks h

theorem closedCompound_total (env : Env) (psrc : List Char) (ptoks : List Tok) (good : List Char) (r : PieceRule)
    (hr : ruleClosedCompound env psrc ptoks good = some r) (src : List Char) (toks : List Tok) (h : InText src toks) :
    ∃ ls, r src toks = .ok ls := (closedCompound_spans_wf env psrc ptoks good r hr src toks h).imp fun _ h => h.1


/-! ## `ProperNounCapitalizationLinter` -/

/-- **an `ExactPhrase` that matched a slice matches the matched prefix again** — why the `unwrap` of the second
`PatternMap::lookup` (on `matched_tokens`, not on the rest of the chunk) cannot fail -/
theorem phrase_prefix_stable (env : Env) (psrc : List Char) (ptoks : List Tok) (p : RPat)
    (hp : exactPhraseOf env psrc ptoks = some p) (src : List Char) (ts : List Tok) (n : Nat)
    (h : p.matcher env src ts = .ok n) (hn : n ≠ 0) : p.matcher env src (ts.take n) = .ok n :=
  Leaves.phrase_prefix_stable env p (exactPhrase_isPhrase env psrc ptoks p hp) src ts n h hn

/-- **the proper-noun linter for ANY rows built from canonical documents**, on well-formed tokens inside the text
in any order: no panic (both lookups, `get_content` of every matched token, the span), `start ≤ stop ≤ len` -/
theorem properNoun_spans_wf (env : Env) (rows : List PNRow) (hrows : ∀ r ∈ rows, IsPhrasePat r.pat) (src : List Char)
    (toks : List Tok) (h : InText src toks) : RunsWF (ruleProperNoun env rows) src toks :=
  overPieces_okh inText_hyp _ _ src toks h (fun piece hpc => properNounPiece_ok inText_hyp env rows hrows src piece hpc)

theorem properNoun_total (env : Env) (rows : List PNRow) (hrows : ∀ r ∈ rows, IsPhrasePat r.pat) (src : List Char)
    (toks : List Tok) (h : InText src toks) : ∃ ls, ruleProperNoun env rows src toks = .ok ls :=
  (properNoun_spans_wf env rows hrows src toks h).imp fun _ h => h.1

/-- **every entry of `proper_noun_rules.json`**, whatever its canonical versions -/
theorem properNounRule_spans_wf (env : Env) (docs : List (List Char × List Tok)) (rows : List PNRow)
    (hrows : docs.mapM (fun d => pnRowOf env d.1 d.2) = some rows) (src : List Char) (toks : List Tok)
    (h : InText src toks) : RunsWF (ruleProperNoun env rows) src toks := by
  apply properNoun_spans_wf env rows _ src toks h
  intro r hr
  obtain ⟨d, _, hrd⟩ := mapM_some_mem _ _ _ hrows r hr
  simp only [pnRowOf, Option.map_eq_some_iff] at hrd
  obtain ⟨p, hp, rfl⟩ := hrd
  exact exactPhrase_isPhrase env d.1 d.2 p hp

/-- the `unwrap` is NOT safe for arbitrary keys: a `PatternMap` whose key looks past its match — here
`All [word, Invert(ConsumesRemaining(any))]`: "a word that is not the last token" — returns 1 on `a b`, but finds no
row for the one-token slice it is then asked about -/
example : (RPat.all (.cons (.leaf (.kind .word false)) (.cons (.invert (.consumes (.leaf .any))) .nil))).matcher C12.env0 ['a', ' ', 'b']
      [⟨⟨0, 1⟩, .word⟩, ⟨⟨1, 2⟩, .space 1⟩, ⟨⟨2, 3⟩, .word⟩] = .ok 1 ∧
    properNounMatch C12.env0 [⟨.all (.cons (.leaf (.kind .word false)) (.cons (.invert (.consumes (.leaf .any))) .nil)), [], []⟩]
      ['a', ' ', 'b'] ([⟨⟨0, 1⟩, .word⟩, ⟨⟨1, 2⟩, .space 1⟩, ⟨⟨2, 3⟩, .word⟩].take 1) = .error .unwrapNone := by decide +kernel

/-! ## `merge_linters!` -/

/-- `merge_linters!` of rules that return in-range lints returns in-range lints -/
theorem mergeLinters_spans_wf (rs : List PieceRule) (src : List Char) (toks : List Tok)
    (h : ∀ r ∈ rs, RunsWF r src toks) : RunsWF (mergeLinters rs) src toks :=
  mergeLinters_ok rs src toks src.length h

theorem mergeLinters_total (rs : List PieceRule) (src : List Char) (toks : List Tok)
    (h : ∀ r ∈ rs, RunsWF r src toks) : ∃ ls, mergeLinters rs src toks = .ok ls :=
  (mergeLinters_spans_wf rs src toks h).imp fun _ h => h.1

/-- **what a `merge_linters!` rule returns is pairwise disjoint** (each lint ends before the next starts) when its
children report well-formed spans (a hypothesis the proof does not need): `remove_overlaps` on the lints themselves
(`removeOverlapsRL_eq`, `removeOverlapsBy_disjoint`) -/
theorem mergeLinters_disjoint (rs : List PieceRule) (src : List Char) (toks : List Tok) (ls : List RuleLint)
    (h : mergeLinters rs src toks = .ok ls)
    (hwf : ∀ cands, collectE (fun (r : PieceRule) => r src toks) rs = .ok cands → ∀ c ∈ cands, c.span.start ≤ c.span.stop) :
    ls.Pairwise (fun a b => a.span.stop ≤ b.span.start) := by
  simp only [mergeLinters] at h
  cases hc : collectE (fun (r : PieceRule) => r src toks) rs with
  | error e => rw [hc] at h; cases h
  | ok cands =>
    rw [hc] at h
    simp only [Except.map, Except.ok.injEq] at h
    subst h
    rw [removeOverlapsRL_eq]; exact removeOverlapsBy_disjoint cands

/-- **`merge_linters!` of rules that return in-range lints**: returns, in range AND pairwise disjoint — `mergeLinters_disjoint`
without its side hypothesis on the candidates (they come from the children, `collectE_mem`) -/
theorem mergeLinters_wf_disjoint (rs : List PieceRule) (src : List Char) (toks : List Tok)
    (h : ∀ r ∈ rs, RunsWF r src toks) :
    ∃ ls, mergeLinters rs src toks = .ok ls ∧ (∀ l ∈ ls, l.span.start ≤ l.span.stop ∧ l.span.stop ≤ src.length) ∧
      ls.Pairwise (fun a b => a.span.stop ≤ b.span.start) := by
  obtain ⟨ls, e, hl⟩ := mergeLinters_spans_wf rs src toks h
  refine ⟨ls, e, hl, mergeLinters_disjoint rs src toks ls e ?_⟩
  intro cands hc c hcm
  obtain ⟨r, hr, a, ha, hca⟩ := collectE_mem _ rs cands hc c hcm
  obtain ⟨ls', e', hl'⟩ := h r hr
  rw [e'] at ha
  cases ha
  exact (hl' c hca).1

/-- two `MapPhraseLinter`s merged: `in tact` and `tact now` both claim `tact`; `remove_overlaps` keeps the first -/
example : mergeLinters [ruleMapPhrase C12.env0 C12.intactPat [['i', 'n', 't', 'a', 'c', 't']],
      ruleMapPhrase C12.env0 (.seq (.cons (.leaf (.anyCap ['t', 'a', 'c', 't'])) (.cons (.leaf .whitespace) (.cons (.leaf (.anyCap ['n', 'o', 'w'])) .nil))))
        [['n', 'o', 'w']]]
      ['i', 'n', ' ', 't', 'a', 'c', 't', ' ', 'n', 'o', 'w']
      [⟨⟨0, 2⟩, .word⟩, ⟨⟨2, 3⟩, .space 1⟩, ⟨⟨3, 7⟩, .word⟩, ⟨⟨7, 8⟩, .space 1⟩, ⟨⟨8, 11⟩, .word⟩] =
    .ok [⟨⟨0, 7⟩, [.replaceWith ['i', 'n', 't', 'a', 'c', 't']], 13, 0⟩] := by decide +kernel

/-! ## non-vacuity (kernel-evaluated) -/

open Harper.C12 (env0 noExt docRule intactPat)
open Harper.C02 (asciiCls)

/-- tokens of the Markdown parser's shape — a zero-width `ParagraphBreak` at an EARLIER offset after the words
(what broke `LongSentences`): `InText` holds of them (no order is asked), and the lint is in range -/
example : InText ['#', ' ', 'i', 'n', ' ', 't', 'a', 'c', 't']
    [⟨⟨2, 4⟩, .word⟩, ⟨⟨4, 5⟩, .space 1⟩, ⟨⟨5, 9⟩, .word⟩, ⟨⟨2, 2⟩, .paragraphBreak⟩] := by
  intro t ht
  simp only [List.mem_cons, List.mem_nil_iff, or_false] at ht
  rcases ht with rfl | rfl | rfl | rfl <;> exact ⟨by decide +kernel, by decide +kernel⟩

example : ruleMapPhrase env0 intactPat [['i', 'n', 't', 'a', 'c', 't']] ['#', ' ', 'i', 'n', ' ', 't', 'a', 'c', 't']
      [⟨⟨2, 4⟩, .word⟩, ⟨⟨4, 5⟩, .space 1⟩, ⟨⟨5, 9⟩, .word⟩, ⟨⟨2, 2⟩, .paragraphBreak⟩] =
    .ok [⟨⟨2, 9⟩, [.replaceWith ['i', 'n', 't', 'a', 'c', 't']], 13, 0⟩] := by decide +kernel

/-! ## every hypothesis-carrying theorem of this file at a concrete, non-trivial value -/

/-- the in-text (indeed tiling) tokens of `We In  tact now.` (`C01.srcIntact`, `C01.toksIntact`) -/
theorem inText_weIntact : InText C01.srcIntact C01.toksIntact := C01.inText_intact

/-- non-vacuity of `mapPhrase_spans_wf` / `mapPhrase_total`, applied: a plain tree on in-text tokens, and the value -/
example : RunsWF (ruleMapPhrase env0 intactPat [['i', 'n', 't', 'a', 'c', 't']]) C01.srcIntact C01.toksIntact :=
  mapPhrase_spans_wf env0 intactPat (by decide +kernel) _ _ _ inText_weIntact
example : ruleMapPhrase env0 intactPat [['i', 'n', 't', 'a', 'c', 't']] C01.srcIntact C01.toksIntact =
    .ok [⟨⟨3, 11⟩, [.replaceWith ['I', 'n', 't', 'a', 'c', 't']], 13, 0⟩] := by decide +kernel

/-- non-vacuity of `mapPhrase_span_is_match`: its hypotheses at the three matched tokens `In  tact`, and the theorem applied -/
example : spanOf ((C01.toksIntact.drop 2).take 3) = some ⟨3, 11⟩ ∧
    ∃ txt, (⟨3, 11⟩ : Span).getContent C01.srcIntact = .ok txt ∧
      [Sugg.replaceWith ['I', 'n', 't', 'a', 'c', 't']] = [['i', 'n', 't', 'a', 'c', 't']].map (fun f => .replaceWith (matchCase env0 f txt)) :=
  mapPhrase_span_is_match env0 [['i', 'n', 't', 'a', 'c', 't']] C01.srcIntact ((C01.toksIntact.drop 2).take 3)
    [⟨⟨3, 11⟩, [.replaceWith ['I', 'n', 't', 'a', 'c', 't']], 13, 0⟩] (by decide +kernel) _ (List.mem_singleton.mpr rfl)

/-- non-vacuity of `phraseCorrection_spans_wf`: a row with two phrases (`in tact`, `we in`), applied, and the value -/
example : exactPhrasesOf env0 [C01.phIntact, (['w', 'e', ' ', 'i', 'n'], [⟨⟨0, 2⟩, .word⟩, ⟨⟨2, 3⟩, .space 1⟩, ⟨⟨3, 5⟩, .word⟩])] =
      some (.either (.cons intactPat (.cons (.seq (.cons (.leaf (.anyCap ['w', 'e'])) (.cons (.leaf .whitespace) (.cons (.leaf (.anyCap ['i', 'n'])) .nil)))) .nil))) ∧
    RunsWF (ruleMapPhrase env0 (.either (.cons intactPat (.cons (.seq (.cons (.leaf (.anyCap ['w', 'e'])) (.cons (.leaf .whitespace) (.cons (.leaf (.anyCap ['i', 'n'])) .nil)))) .nil)))
      [['x']]) C01.srcIntact C01.toksIntact ∧
    ruleMapPhrase env0 (.either (.cons intactPat (.cons (.seq (.cons (.leaf (.anyCap ['w', 'e'])) (.cons (.leaf .whitespace) (.cons (.leaf (.anyCap ['i', 'n'])) .nil)))) .nil)))
      [['x']] C01.srcIntact C01.toksIntact = .ok [⟨⟨0, 5⟩, [.replaceWith ['X']], 13, 0⟩] :=
  ⟨rfl, phraseCorrection_spans_wf env0 [C01.phIntact, (['w', 'e', ' ', 'i', 'n'], [⟨⟨0, 2⟩, .word⟩, ⟨⟨2, 3⟩, .space 1⟩, ⟨⟨3, 5⟩, .word⟩])]
    _ rfl _ _ _ inText_weIntact, by decide +kernel⟩

/-- non-vacuity of `closedCompound_spans_wf` / `closedCompound_total`: the row `in tact` → `intact`, applied
(the value is that of `ruleMapPhrase env0 intactPat`, computed above) -/
example : ruleClosedCompound env0 C01.phIntact.1 C01.phIntact.2 ['i', 'n', 't', 'a', 'c', 't'] =
      some (ruleMapPhrase env0 intactPat [['i', 'n', 't', 'a', 'c', 't']]) ∧
    RunsWF (ruleMapPhrase env0 intactPat [['i', 'n', 't', 'a', 'c', 't']]) C01.srcIntact C01.toksIntact ∧
    ∃ ls, ruleMapPhrase env0 intactPat [['i', 'n', 't', 'a', 'c', 't']] C01.srcIntact C01.toksIntact = .ok ls :=
  ⟨rfl, closedCompound_spans_wf env0 C01.phIntact.1 C01.phIntact.2 ['i', 'n', 't', 'a', 'c', 't'] _ rfl _ _ inText_weIntact,
    closedCompound_total env0 C01.phIntact.1 C01.phIntact.2 ['i', 'n', 't', 'a', 'c', 't'] _ rfl _ _ inText_weIntact⟩

/-- non-vacuity of `phrase_prefix_stable`, applied: `in tact` matches 3 of the 6 tokens from `In` on, and again the first 3 alone -/
example : intactPat.matcher env0 C01.srcIntact ((C01.toksIntact.drop 2).take 3) = .ok 3 :=
  phrase_prefix_stable env0 C01.phIntact.1 C01.phIntact.2 intactPat rfl C01.srcIntact (C01.toksIntact.drop 2) 3 (by decide +kernel) (by decide +kernel)

/-- non-vacuity of `properNounRule_spans_wf`, `properNoun_spans_wf`, `properNoun_total`: the entry with the one canonical
version `In Tact`; its row is a phrase pattern; the theorems applied; and the value: the two-blank `In  tact` is flagged -/
example : [((['I', 'n', ' ', 'T', 'a', 'c', 't'], [⟨⟨0, 2⟩, .word⟩, ⟨⟨2, 3⟩, .space 1⟩, ⟨⟨3, 7⟩, .word⟩]) : List Char × List Tok)].mapM
      (fun d => pnRowOf env0 d.1 d.2) =
      some [⟨.seq (.cons (.leaf (.anyCap ['I', 'n'])) (.cons (.leaf .whitespace) (.cons (.leaf (.anyCap ['T', 'a', 'c', 't'])) .nil))),
        [['I', 'n'], [' '], ['T', 'a', 'c', 't']], ['I', 'n', ' ', 'T', 'a', 'c', 't']⟩] ∧
    (∀ r ∈ [(⟨.seq (.cons (.leaf (.anyCap ['I', 'n'])) (.cons (.leaf .whitespace) (.cons (.leaf (.anyCap ['T', 'a', 'c', 't'])) .nil))),
        [['I', 'n'], [' '], ['T', 'a', 'c', 't']], ['I', 'n', ' ', 'T', 'a', 'c', 't']⟩ : PNRow)], IsPhrasePat r.pat) ∧
    RunsWF (ruleProperNoun env0 [⟨.seq (.cons (.leaf (.anyCap ['I', 'n'])) (.cons (.leaf .whitespace) (.cons (.leaf (.anyCap ['T', 'a', 'c', 't'])) .nil))),
        [['I', 'n'], [' '], ['T', 'a', 'c', 't']], ['I', 'n', ' ', 'T', 'a', 'c', 't']⟩]) C01.srcIntact C01.toksIntact ∧
    ruleProperNoun env0 [⟨.seq (.cons (.leaf (.anyCap ['I', 'n'])) (.cons (.leaf .whitespace) (.cons (.leaf (.anyCap ['T', 'a', 'c', 't'])) .nil))),
        [['I', 'n'], [' '], ['T', 'a', 'c', 't']], ['I', 'n', ' ', 'T', 'a', 'c', 't']⟩] C01.srcIntact C01.toksIntact =
      .ok [⟨⟨3, 11⟩, [.replaceWith ['I', 'n', ' ', 'T', 'a', 'c', 't']], 14, 0⟩] := by
  have hrows : ∀ r ∈ [(⟨.seq (.cons (.leaf (.anyCap ['I', 'n'])) (.cons (.leaf .whitespace) (.cons (.leaf (.anyCap ['T', 'a', 'c', 't'])) .nil))),
        [['I', 'n'], [' '], ['T', 'a', 'c', 't']], ['I', 'n', ' ', 'T', 'a', 'c', 't']⟩ : PNRow)], IsPhrasePat r.pat := by
    intro r hr
    rw [List.mem_singleton] at hr
    subst hr
    exact exactPhrase_isPhrase env0 ['I', 'n', ' ', 'T', 'a', 'c', 't'] [⟨⟨0, 2⟩, .word⟩, ⟨⟨2, 3⟩, .space 1⟩, ⟨⟨3, 7⟩, .word⟩] _ rfl
  refine ⟨rfl, hrows, ?_, by decide +kernel⟩
  have h1 := properNounRule_spans_wf env0 [(['I', 'n', ' ', 'T', 'a', 'c', 't'], [⟨⟨0, 2⟩, .word⟩, ⟨⟨2, 3⟩, .space 1⟩, ⟨⟨3, 7⟩, .word⟩])]
    _ rfl C01.srcIntact C01.toksIntact inText_weIntact
  have h2 := properNoun_spans_wf env0 _ hrows C01.srcIntact C01.toksIntact inText_weIntact
  have _h3 := properNoun_total env0 _ hrows C01.srcIntact C01.toksIntact inText_weIntact
  exact h2

/-- non-vacuity of `mergeLinters_spans_wf` / `_total` / `_disjoint` / `_wf_disjoint`, applied to the two `MapPhraseLinter`s of
the `example` above (their results overlap in `tact`; the value is computed there) -/
example : ∃ ls, mergeLinters [ruleMapPhrase env0 intactPat [['i', 'n', 't', 'a', 'c', 't']],
      ruleMapPhrase env0 (.seq (.cons (.leaf (.anyCap ['t', 'a', 'c', 't'])) (.cons (.leaf .whitespace) (.cons (.leaf (.anyCap ['n', 'o', 'w'])) .nil))))
        [['n', 'o', 'w']]] C01.srcIntact C01.toksIntact = .ok ls ∧
    (∀ l ∈ ls, l.span.start ≤ l.span.stop ∧ l.span.stop ≤ C01.srcIntact.length) ∧
    ls.Pairwise (fun a b => a.span.stop ≤ b.span.start) := by
  apply mergeLinters_wf_disjoint
  intro r hr
  simp only [List.mem_cons, List.mem_nil_iff, or_false] at hr
  rcases hr with rfl | rfl
  · exact mapPhrase_spans_wf env0 _ (by decide +kernel) _ _ _ inText_weIntact
  · exact mapPhrase_spans_wf env0 _ (by decide +kernel) _ _ _ inText_weIntact

/-- **non-vacuity of `mapPhrase_spans_wf_full` / `mapPhrase_total_full`** — `DictOK`, `CanonOK`, `WordsShort`, `Tiles`, `ShortWords`
TOGETHER and none of them trivially: a dictionary that knows `Intact` (a noun) and the proper noun `tact` (canonical `Tact`), a
NON-plain tree (`SplitCompoundWord`, `IsNotTitleCase` around `in tact`, `SimilarToPhrase` of `im tact`), the tiling tokens of
`We In  tact now.`; the linter flags `In  tact`. (`C12.env0` knows no word: there `DictOK` and `CanonOK` hold for want of any entry.) -/
theorem mapPhrase_full_witness : ∃ (env : Env) (p : RPat) (forms : List (List Char)) (src : List Char) (toks : List Tok),
    DictOK env ∧ CanonOK env ∧ WordsShort env p ∧ Tiles toks 0 src.length ∧ ShortWords env src toks ∧ p.plain = false ∧
    ruleMapPhrase env p forms src toks = .ok [⟨⟨3, 11⟩, [.replaceWith ['I', 'n', 't', 'a', 'c', 't']], 13, 0⟩] :=
  ⟨C01.envIntact, C01.demandingTree, [['i', 'n', 't', 'a', 'c', 't']], C01.srcIntact, C01.toksIntact, C01.envIntact_dictOK,
    C01.envIntact_canonOK, C01.demandingTree_wordsShort, by decide +kernel, C01.shortWords_intact, by decide +kernel,
    by decide +kernel⟩

/-- the two theorems applied to that value -/
example : ∃ (env : Env) (p : RPat) (forms : List (List Char)) (src : List Char) (toks : List Tok), p.plain = false ∧
    RunsWF (ruleMapPhrase env p forms) src toks ∧ ∃ ls, ruleMapPhrase env p forms src toks = .ok ls := by
  obtain ⟨env, p, forms, src, toks, hd, hc, hw, ht, hs, hp, _⟩ := mapPhrase_full_witness
  exact ⟨env, p, forms, src, toks, hp, mapPhrase_spans_wf_full env hd hc p hw forms src toks ht hs,
    mapPhrase_total_full env hd hc p hw forms src toks ht hs⟩

end Harper.C03
