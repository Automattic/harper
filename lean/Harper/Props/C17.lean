import Harper.Lemmas.NumberSuffix
/-!
# C17 — ordinal suffixes are judged correctly for every number

Property theorems; specification-side definitions (`ofDigits`, `ordinalOfDigits`,
`suffixLetters`, `suffixSpellings`) and helper lemmas are in `Harper/Lemmas/NumberSuffix.lean`, the
model in `Harper/Model/NumberSuffix.lean`, the arms/rows of `correct_suffix_for`, `from_chars`,
`to_chars` in `Harper/Tables/NumberSuffix.lean` (regenerated from number.rs on every run: a change
such as `11..=13` → `11..=12` makes the table check `arms_spec`, on which `correctSuffix_spec` rests,
fail to build).

The statements quantify over *digit strings* (the number as written, leading zeros included) and
all of `Nat`. What ties them to the code for numbers below 2^53 — that the lexer produces one
`Number` token holding exactly that integer, followed by a two-letter `Word` that
`condense_number_suffixes` folds in — is the correspondence/oracle run of `harness/src/c17.rs`
through the real `LintGroup` (lexer and `f64` parsing are not modelled here).
-/
namespace Harper.C17
open Harper Harper.Tables.NumberSuffix

/-- **The code's arithmetic is the English rule, for every number.** For every non-empty string
of decimal digits, `correct_suffix_for` of its value (the `% 100` teens range, then the `% 10` arms
as extracted from the source) is the suffix English gives to the number as written. -/
theorem correctSuffix_spec (ds : List Nat) (hne : ds ≠ []) (hd : ∀ d ∈ ds, d < 10) :
    correctSuffixFor (ofDigits ds) = some (ordinalOfDigits ds) := by
  match h : ds.reverse with
  | [] => exact absurd (List.reverse_eq_nil_iff.mp h) hne
  | [o] =>
    have hds : ds = [o] := by simpa using congrArg List.reverse h
    subst hds
    have ho : o < 10 := hd o (by simp)
    have := correctSuffixFor_core 0 0 o (by omega) ho
    simpa [ofDigits, ordinalOfDigits] using this
  | o :: t :: r =>
    have hds : ds = r.reverse ++ [t, o] := by simpa using congrArg List.reverse h
    subst hds
    have ho : o < 10 := hd o (by simp)
    have ht : t < 10 := hd t (by simp)
    rw [ofDigits_append_two, ordinalOfDigits_append_two]
    exact correctSuffixFor_core _ t o ht ho

/-- All sixteen spellings (st/nd/rd/th in any letter case) directly after a number are read as
the suffix they spell. -/
theorem spellings_read (w : List Char) (s : Suffix) (hw : (w, s) ∈ suffixSpellings) :
    condenseSuffix w = .ok (some s) :=
  condense_spellings (w, s) hw

/-- …and nothing else is read as a suffix: a word is folded into the number only if it is one of
the sixteen spellings. -/
theorem only_spellings_read (w : List Char) (s : Suffix) (h : condenseSuffix w = .ok (some s)) :
    (w, s) ∈ suffixSpellings := by
  rcases condenseSuffix_cases w with ⟨a, b, rfl, e⟩ | ⟨_, e⟩
  · rw [e] at h
    exact rows_are_spellings _ (fromCharsRow_mem (Except.ok.inj h))
  · rw [e] at h; cases h

/-- non-vacuity of `only_spellings_read`: `ST` is read as a suffix, and the theorem places it among
the sixteen spellings -/
example : condenseSuffix ['S', 'T'] = .ok (some .st) ∧ (['S', 'T'], Suffix.st) ∈ suffixSpellings :=
  ⟨by decide +kernel, only_spellings_read _ _ (by decide +kernel)⟩

/-- **A lint exactly when the suffix is wrong** (token level): for a number token holding the
integer written `ds`, carrying suffix `s`, the rule reports iff `s` is not the English suffix.
(`2 ≤ sp.stop`: the token has room for two suffix letters — `pulled_by(2)`; true of every token
that has a suffix.) -/
theorem lint_iff_wrong (ds : List Nat) (hne : ds ≠ []) (hd : ∀ d ∈ ds, d < 10)
    (s : Suffix) (sp : Span) (h2 : 2 ≤ sp.stop) :
    (lintNumber ⟨.int (ofDigits ds), some s, sp⟩).isSome ↔ s ≠ ordinalOfDigits ds := by
  rw [lintNumber_int _ s _ sp h2 (correctSuffix_spec ds hne hd)]
  split <;> simp_all

/-- non-vacuity of `lint_iff_wrong`: `22st` occupying `[4, 8)` — all hypotheses hold, the suffix is
wrong and the rule reports; `22nd` in the same place is not reported -/
example : [2, 2] ≠ [] ∧ (∀ d ∈ [2, 2], d < 10) ∧ 2 ≤ (⟨4, 8⟩ : Span).stop ∧
    (lintNumber ⟨.int (ofDigits [2, 2]), some .st, ⟨4, 8⟩⟩).isSome = true ∧
    (lintNumber ⟨.int (ofDigits [2, 2]), some .nd, ⟨4, 8⟩⟩).isSome = false := by decide +kernel

theorem ruleOnWritten_spelling (ds : List Nat) (hne : ds ≠ []) (hd : ∀ d ∈ ds, d < 10)
    (w : List Char) (s : Suffix) (hw : (w, s) ∈ suffixSpellings) (p : Nat) :
    ruleOnWritten (.int (ofDigits ds)) w (writtenSpan p ds) =
      .ok (if s ≠ ordinalOfDigits ds then
        some ⟨⟨p + ds.length, p + ds.length + 2⟩, toChars (ordinalOfDigits ds)⟩ else none) := by
  rw [ruleOnWritten, spellings_read w s hw]
  exact congrArg Except.ok
    (lintNumber_int _ s _ _ (Nat.le_add_left 2 _) (correctSuffix_spec ds hne hd))

/-- **A lint exactly when the suffix is wrong** (as written): digits `ds` at position `p` directly
followed by a spelling `w` of suffix `s`. -/
theorem written_lint_iff_wrong (ds : List Nat) (hne : ds ≠ []) (hd : ∀ d ∈ ds, d < 10)
    (w : List Char) (s : Suffix) (hw : (w, s) ∈ suffixSpellings) (p : Nat) :
    (∃ l, ruleOnWritten (.int (ofDigits ds)) w (writtenSpan p ds) = .ok (some l))
      ↔ s ≠ ordinalOfDigits ds := by
  rw [ruleOnWritten_spelling ds hne hd w s hw p]
  by_cases h : s = ordinalOfDigits ds
  · simp [h]
  · simp [h]

theorem lint_of_ruleOnWritten {ds : List Nat} (hne : ds ≠ []) (hd : ∀ d ∈ ds, d < 10)
    {w : List Char} {s : Suffix} (hw : (w, s) ∈ suffixSpellings) {p : Nat} {l : SuffixLint}
    (h : ruleOnWritten (.int (ofDigits ds)) w (writtenSpan p ds) = .ok (some l)) :
    l = ⟨⟨p + ds.length, p + ds.length + 2⟩, toChars (ordinalOfDigits ds)⟩ := by
  rw [ruleOnWritten_spelling ds hne hd w s hw p] at h
  by_cases hs : s = ordinalOfDigits ds
  · rw [if_neg (not_not_intro hs)] at h; cases h
  · rw [if_pos hs] at h; cases h; rfl

/-- **The lint covers exactly the two suffix letters**: characters
`[p + |ds|, p + |ds| + 2)` of the text. -/
theorem lint_span_last_two (ds : List Nat) (hne : ds ≠ []) (hd : ∀ d ∈ ds, d < 10)
    (w : List Char) (s : Suffix) (hw : (w, s) ∈ suffixSpellings) (p : Nat) (l : SuffixLint)
    (h : ruleOnWritten (.int (ofDigits ds)) w (writtenSpan p ds) = .ok (some l)) :
    l.span = ⟨p + ds.length, p + ds.length + 2⟩ := by
  rw [lint_of_ruleOnWritten hne hd hw h]

/-- **The suggestion is the correct suffix**: `ReplaceWith` the letters of the English suffix of
the number as written (compared case-insensitively: the property does not fix the letter case of
the suggestion; the code suggests lower case, see the examples). -/
theorem suggestion_correct (ds : List Nat) (hne : ds ≠ []) (hd : ∀ d ∈ ds, d < 10)
    (w : List Char) (s : Suffix) (hw : (w, s) ∈ suffixSpellings) (p : Nat) (l : SuffixLint)
    (h : ruleOnWritten (.int (ofDigits ds)) w (writtenSpan p ds) = .ok (some l)) :
    l.replacement.map Char.toLower = suffixLetters (ordinalOfDigits ds) := by
  rw [lint_of_ruleOnWritten hne hd hw h]
  exact toChars_eq_letters _

/-- **After applying the suggestion nothing is reported.** The replacement is two letters long (so
the token's span and everything after it are unchanged), is read back as a suffix, and the rule is
silent on the result. -/
theorem fixed_point (ds : List Nat) (hne : ds ≠ []) (hd : ∀ d ∈ ds, d < 10)
    (w : List Char) (s : Suffix) (hw : (w, s) ∈ suffixSpellings) (p : Nat) (l : SuffixLint)
    (h : ruleOnWritten (.int (ofDigits ds)) w (writtenSpan p ds) = .ok (some l)) :
    l.replacement.length = 2 ∧
    ruleOnWritten (.int (ofDigits ds)) l.replacement (writtenSpan p ds) = .ok none := by
  rw [lint_of_ruleOnWritten hne hd hw h]
  refine ⟨toChars_length _, ?_⟩
  rw [ruleOnWritten, condense_toChars]
  exact congrArg Except.ok ((lintNumber_int _ _ _ _ (Nat.le_add_left 2 _)
    (correctSuffix_spec ds hne hd)).trans (if_neg (not_not_intro rfl)))

/-- The rule never panics on any number followed by any word. -/
theorem rule_never_panics (v : NumVal) (w : List Char) (sp : Span) :
    ∃ r, ruleOnWritten v w sp = .ok r := by
  obtain ⟨r, hr⟩ := condenseSuffix_ok w
  exact ⟨lintNumber ⟨v, r, sp⟩, by simp [ruleOnWritten, hr]⟩

/-- A value the guard rejects (fractional part, e.g. `3.5th`) is never reported. -/
theorem nonInt_never_reported (w : List Char) (sp : Span) :
    ruleOnWritten .nonInt w sp = .ok none := by
  obtain ⟨r, hr⟩ := condenseSuffix_ok w
  simp only [ruleOnWritten, hr, lintNumber, correctSuffixForVal]
  cases suffixSpan sp <;> cases r <;> rfl

/-! ### Non-vacuity and witnesses (concrete, kernel-evaluated) -/

/-- the hypotheses of `correctSuffix_spec` hold of `0112`, a number with a leading zero whose tens
digit is 1 -/
example : [0, 1, 1, 2] ≠ [] ∧ (∀ d ∈ [0, 1, 1, 2], d < 10) ∧ ofDigits [0, 1, 1, 2] = 112 ∧
    ordinalOfDigits [0, 1, 1, 2] = .th ∧ correctSuffixFor 112 = some .th := by decide +kernel

/-- the rule on the written digits agrees with common sense on a spread of numbers -/
example : [[0], [1], [2], [3], [4], [1,1], [1,2], [1,3], [2,1], [2,2], [2,3], [1,0,1], [1,1,1],
    [1,0,1,2], [9,0,0,7,1,9,9,2,5,4,7,4,0,9,9,1]].map ordinalOfDigits =
    [.th, .st, .nd, .rd, .th, .th, .th, .th, .st, .nd, .rd, .st, .th, .th, .st] := by decide +kernel

/-- the sixteen spellings, spelled out -/
example : suffixSpellings.map (fun p => (String.ofList p.1, p.2)) =
    [("th", .th), ("Th", .th), ("tH", .th), ("TH", .th), ("st", .st), ("St", .st), ("sT", .st),
     ("ST", .st), ("nd", .nd), ("Nd", .nd), ("nD", .nd), ("ND", .nd), ("rd", .rd), ("Rd", .rd),
     ("rD", .rd), ("RD", .rd)] := by decide +kernel

/-- `The 22ST item.`: digits at 4, a wrong suffix in capitals → lint on [6, 8) suggesting `nd` -/
example : ruleOnWritten (.int (ofDigits [2, 2])) ['S', 'T'] (writtenSpan 4 [2, 2]) =
    .ok (some ⟨⟨6, 8⟩, ['n', 'd']⟩) := by decide +kernel

/-- …and (`['S','T']`, st) is a spelling, so the hypotheses of the written-level theorems hold -/
example : (['S', 'T'], Suffix.st) ∈ suffixSpellings ∧ Suffix.st ≠ ordinalOfDigits [2, 2] := by
  decide +kernel

/-- `The 22nd item.` is left alone; `113th` too; `113rd` is not -/
example : ruleOnWritten (.int 22) ['n', 'd'] ⟨4, 8⟩ = .ok none ∧
    ruleOnWritten (.int 113) ['t', 'h'] ⟨0, 5⟩ = .ok none ∧
    ruleOnWritten (.int 113) ['r', 'd'] ⟨0, 5⟩ = .ok (some ⟨⟨3, 5⟩, ['t', 'h']⟩) := by
  decide +kernel

/-- a three-letter word after a number is not a suffix (`21stx`), nor is `xy` -/
example : condenseSuffix ['s', 't', 'x'] = .ok none ∧ condenseSuffix ['x', 'y'] = .ok none := by
  decide +kernel

/-- `3.5th`: the guard rejects the value, nothing is reported -/
example : ruleOnWritten .nonInt ['t', 'h'] ⟨0, 5⟩ = .ok none := by decide +kernel

end Harper.C17
