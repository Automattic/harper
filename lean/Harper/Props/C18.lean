import Harper.Lemmas.Title
/-!
# C18 — title-casing only changes letter case and is idempotent

Property theorems only; helper lemmas are in `Harper/Lemmas/Title.lean`. The model
(`Harper/Model/Title.lean`) is `make_title_case` as written, over code points, with the real tokens
and, per token, the data the code consults (supplied by the harness). Case mapping is ASCII, as in
the code (`to_ascii_uppercase` / `to_ascii_lowercase`).
-/
/-! ## concrete data for the examples -/
namespace Harper.Title

/-- `this is a test` → `This Is a Test` -/
def toksEx : List TTok := [
  ⟨0,4,true,true,false,true,[116,104,105,115],none⟩, ⟨4,5,false,false,false,false,[],none⟩,
  ⟨5,7,true,true,false,false,[105,115],none⟩, ⟨7,8,false,false,false,false,[],none⟩,
  ⟨8,9,true,true,false,true,[97],none⟩, ⟨9,10,false,false,false,false,[],none⟩,
  ⟨10,14,true,true,false,false,[116,101,115,116],none⟩]
def srcEx : List Nat := [116,104,105,115,32,105,115,32,97,32,116,101,115,116]
def outEx : List Nat := [84,104,105,115,32,73,115,32,97,32,84,101,115,116]

theorem toksEx_titleCase : makeTitleCase toksEx srcEx = .ok outEx := by decide +kernel

end Harper.Title

namespace Harper.C18
open Harper Harper.Title

/-- A run that returns, returns a buffer as long as the text under `toks.span()`. -/
theorem title_length_of_ok (toks : List TTok) (src out : List Nat) (lo hi : Nat)
    (h : makeTitleCase toks src = .ok out) (hs : spanOf toks = some (lo, hi)) :
    out.length = hi - lo := by
  cases toks with
  | nil => simp [spanOf] at hs
  | cons first rest =>
    obtain ⟨lo', hi', out0, hsp, hg, _, rfl⟩ := makeTitleCase_ok h
    rw [hs] at hsp
    injection hsp with hsp
    injection hsp with h1 h2
    subst h1; subst h2
    simp only [List.length_mapIdx]
    exact (Span.getContent_ok_spec hg).2.1

/-- Same length: if the tokens are in order inside the text, word-like tokens are non-empty and
every consulted canonical spelling is at least as long as its token (it has the token's length for
every dictionary entry — monitored), title-casing returns (no panic) a string of the length of
the text under the tokens; of the whole text when the tokens cover it. -/
theorem title_length (first : TTok) (rest : List TTok) (src : List Nat) (hi : Nat)
    (hsp : spanOf (first :: rest) = some (first.start, hi)) (hhi : hi ≤ src.length)
    (hb : Bounded first.start hi (first :: rest)) :
    ∃ out, makeTitleCase (first :: rest) src = .ok out ∧ out.length = hi - first.start ∧
      (Covers (first :: rest) src → out.length = src.length) := by
  obtain ⟨_, hf1, hf2, _, _⟩ := hb first List.mem_cons_self
  obtain ⟨out, hok, hlen⟩ := makeTitleCase_returns hsp (Nat.le_refl _) (Nat.le_trans hf1 hf2) hhi fun w hw => by
    obtain ⟨hm, hwl⟩ := List.mem_filter.mp hw
    obtain ⟨h1, _, h3, h4, h5⟩ := hb w hm
    exact ⟨h1, h4 hwl, h3, h5⟩
  refine ⟨out, hok, hlen, fun hc => ?_⟩
  rw [Covers, hsp] at hc
  obtain ⟨h1, h2⟩ := Prod.mk.inj (Option.some.inj hc)
  omega

/-- non-vacuity of `title_length`: its three hypotheses hold together of `this is a test` -/
example : ∃ first rest, toksEx = first :: rest ∧ spanOf (first :: rest) = some (first.start, 14) ∧
    14 ≤ srcEx.length ∧ Bounded first.start 14 (first :: rest) :=
  ⟨_, _, rfl, by decide +kernel, by decide +kernel, by unfold Bounded; decide +kernel⟩

/-- Only case changes: at every position the output character is the input character, its ASCII
upper- or lower-case variant, or — inside a proper-noun token with a canonical spelling — the
canonical spelling's character at that offset or its ASCII upper/lower variant. -/
theorem title_only_case (first : TTok) (rest : List TTok) (src out : List Nat) (lo hi : Nat)
    (h : makeTitleCase (first :: rest) src = .ok out) (hs : spanOf (first :: rest) = some (lo, hi)) :
    ∀ i, i < out.length → ∃ x y, src[lo + i]? = some x ∧ out[i]? = some y ∧
      (CaseOf x y ∨
        ∃ w ∈ first :: rest, w.wordLike = true ∧ ∃ c, w.canon = some c ∧
          w.start - first.start ≤ i ∧ i < w.stop - first.start ∧
          ∃ y0, c[i - (w.start - first.start)]? = some y0 ∧ CaseOf y0 y) := by
  obtain ⟨lo', hi', out0, hsp, hg, _, rfl⟩ := makeTitleCase_ok h
  rw [hs] at hsp
  injection hsp with hsp
  injection hsp with h1 h2
  subst h1; subst h2
  obtain ⟨_, hlen, hget⟩ := Span.getContent_ok_spec hg
  intro i hi'
  simp only [List.length_mapIdx] at hi'
  have hx : out0[i]? = some out0[i] := List.getElem?_eq_getElem hi'
  refine ⟨out0[i], effAll first.start 0 ((first :: rest).filter (·.wordLike)) i out0[i], ?_, ?_, ?_⟩
  · rw [← hget i (by omega)]; exact hx
  · rw [List.getElem?_mapIdx, hx]; rfl
  · have := effAll_inv (si := first.start) (allWs := (first :: rest).filter (·.wordLike))
      ((first :: rest).filter (·.wordLike)) (fun _ hw => hw) 0 (i := i)
      (Or.inl (CaseOf.refl out0[i]))
    rcases this with hc | ⟨w, hw, c, hcan, ha, hb, y0, hy0, hcase⟩
    · exact Or.inl hc
    · obtain ⟨hm, hwl⟩ := List.mem_filter.mp hw
      exact Or.inr ⟨w, hm, hwl, c, hcan, ha, hb, y0, hy0, hcase⟩

/-- First word: the first character of the first word-like token is never left an ASCII
lower-case letter (so it is upper-case whenever it is an ASCII letter). Needs what every lexed
token list has: word-like tokens in order and non-empty, none before the first token. -/
theorem title_first_upper (first : TTok) (rest : List TTok) (src out : List Nat) (w : TTok)
    (ws : List TTok) (h : makeTitleCase (first :: rest) src = .ok out)
    (hw : (first :: rest).filter (·.wordLike) = w :: ws)
    (hsorted : (w :: ws).Pairwise (fun p q => p.stop ≤ q.start))
    (hne : w.start < w.stop) (hsi : first.start ≤ w.start) :
    ∃ y, out[w.start - first.start]? = some y ∧ isAsciiLower y = false := by
  obtain ⟨lo, hi, out0, _, _, hp, rfl⟩ := makeTitleCase_ok h
  rw [hw] at hp ⊢
  -- the first iteration capitalises (index == 0) and did not panic: the index is in range
  have hcap : (shouldCapToken w || (0 : Nat) == 0 || ws.isEmpty) = true := by simp
  unfold loopPanics at hp
  rw [hcap] at hp
  have hstep : stepPanics first.start out0.length w true = false := by
    cases hsp : stepPanics first.start out0.length w true
    · rfl
    · rw [hsp] at hp; simp at hp
  have hlt : w.start - first.start < out0.length := by
    unfold stepPanics at hstep
    simp only [if_true, Bool.or_eq_false_iff, decide_eq_false_iff_not] at hstep
    omega
  have hx : out0[w.start - first.start]? = some out0[w.start - first.start] :=
    List.getElem?_eq_getElem hlt
  refine ⟨_, by rw [List.getElem?_mapIdx, hx]; rfl, ?_⟩
  unfold effAll
  rw [hcap]
  have hlater : ∀ v ∈ ws, w.start - first.start < v.start - first.start := by
    intro v hv
    have := (List.pairwise_cons.mp hsorted).1 v hv
    omega
  dsimp only
  rw [effAll_id_before _ _ _ _ _ hlater]
  unfold eff
  simp only [if_true]
  exact isAsciiLower_up _

/-- non-vacuity of `title_first_upper`: all five hypotheses hold together of `this is a test`
(first word-like token `this`, three more after it) -/
example : ∃ first rest w ws, toksEx = first :: rest ∧
    makeTitleCase (first :: rest) srcEx = .ok outEx ∧
    (first :: rest).filter (·.wordLike) = w :: ws ∧ ws.length = 3 ∧
    (w :: ws).Pairwise (fun p q => p.stop ≤ q.start) ∧ w.start < w.stop ∧ first.start ≤ w.start :=
  ⟨_, _, _, _, rfl, toksEx_titleCase, rfl, rfl, by decide +kernel, by decide +kernel, by decide +kernel⟩

/-- Idempotent on a fixed tokenisation: when the tokens cover the text, running the function
again on its own output (same tokens, same consulted data) changes nothing and does not panic. -/
theorem title_idempotent_tokens (toks : List TTok) (src out : List Nat)
    (h : makeTitleCase toks src = .ok out) (hc : Covers toks src) :
    makeTitleCase toks out = .ok out := by
  cases toks with
  | nil => simp [Covers, spanOf] at hc
  | cons first rest =>
    obtain ⟨lo, hi, out0, hsp, hg, hp, rfl⟩ := makeTitleCase_ok h
    unfold Covers at hc
    rw [hc] at hsp
    injection hsp with hsp
    injection hsp with h1 h2
    subst h1; subst h2
    rw [Span.getContent_full] at hg
    injection hg with hg
    subst hg
    have hlen : (src.mapIdx (fun i x =>
        effAll first.start 0 ((first :: rest).filter (·.wordLike)) i x)).length = src.length := by
      simp
    have hg' := Span.getContent_full (src.mapIdx (fun i x =>
        effAll first.start 0 ((first :: rest).filter (·.wordLike)) i x))
    rw [hlen] at hg'
    rw [makeTitleCase_of hc hg' (by rw [hlen]; exact hp)]
    congr 1
    rw [List.mapIdx_mapIdx]
    apply List.ext_getElem?
    intro i
    simp only [List.getElem?_mapIdx]
    cases src[i]? with
    | none => rfl
    | some x => exact congrArg some ((effAll_caseFn _ _ _ i).idem x)

/-- Idempotent: for any lexer-plus-dictionary `lexd`, if title-casing `src` returns `out`, the
tokens cover the text, and re-lexing `out` gives the same consulted data (`CaseStable` — a
hypothesis about the unmodelled lexer and dictionary, monitored by the harness on every case),
then title-casing `out` returns `out`. -/
theorem title_idempotent (lexd : List Nat → List TTok) (src out : List Nat)
    (h : titleCaseStr lexd src = .ok out) (hc : Covers (lexd src) src)
    (hs : CaseStable lexd src out) : titleCaseStr lexd out = .ok out := by
  unfold titleCaseStr at *
  rw [makeTitleCase_congr hs out]
  exact title_idempotent_tokens _ _ _ h hc

/-! ### Non-vacuity and witnesses (concrete, kernel-evaluated) -/

/-- `this is a test` → `This Is a Test` -/
example : makeTitleCase toksEx srcEx = .ok outEx := toksEx_titleCase

/-- the hypotheses of `title_length`, `title_first_upper`, `title_idempotent_tokens` hold of it -/
example : spanOf toksEx = some (0, 14) ∧ Covers toksEx srcEx ∧
    (toksEx.filter (·.wordLike)).Pairwise (fun p q => p.stop ≤ q.start) ∧
    makeTitleCase toksEx outEx = .ok outEx :=
  have hc : Covers toksEx srcEx := by decide +kernel
  ⟨hc, hc, by decide +kernel, title_idempotent_tokens _ _ _ toksEx_titleCase hc⟩

example : Bounded 0 14 toksEx := by
  unfold Bounded; decide +kernel

/-- `CaseStable` is satisfiable: a lexer whose consulted data do not depend on case -/
example : CaseStable (fun _ => toksEx) srcEx outEx ∧ titleCaseStr (fun _ => toksEx) srcEx = .ok outEx :=
  ⟨rfl, toksEx_titleCase⟩

/-- a proper noun takes the dictionary's spelling (`iphone` → `iPhone`), then, being first, gets
an upper-case first letter; a curly apostrophe is normalised (`o’reilly` → `O'Reilly`) -/
example : makeTitleCase [⟨0,6,true,true,false,false,[105,112,104,111,110,101],some [105,80,104,111,110,101]⟩]
    [105,112,104,111,110,101] = .ok [73,80,104,111,110,101] := by decide +kernel
example : makeTitleCase [⟨0,8,true,true,false,false,[111,8217,114,101,105,108,108,121],
      some [79,39,82,101,105,108,108,121]⟩]
    [111,8217,114,101,105,108,108,121] = .ok [79,39,82,101,105,108,108,121] := by decide +kernel

/-- shape witness: a canonical spelling SHORTER than its token makes `correct_caps[idx]` panic … -/
example : makeTitleCase [⟨0,3,true,true,false,false,[97,98,99],some [65,66]⟩] [97,98,99] =
    .error .sliceOOB := by decide +kernel
/-- … a LONGER one is silently cut to the token's length (no panic, same length). No entry of the
curated dictionary has either shape (harness monitor over all 129,991 entries × 4 spellings). -/
example : makeTitleCase [⟨0,3,true,true,false,false,[97,98,99],some [65,66,67,68]⟩] [97,98,99] =
    .ok [65,66,67] := by decide +kernel

/-- an empty word-like token at the end of the buffer panics (`output[start - start_index]`);
`Bounded` excludes it -/
example : makeTitleCase [⟨0,1,false,false,false,false,[],none⟩, ⟨1,1,true,false,false,false,[],none⟩] [32] =
    .error .sliceOOB := by decide +kernel

/-- no tokens → empty output, whatever the text (Markdown `A\n` style inputs lose characters that
no token covers: the "same length" clause is about the text under the tokens) -/
example : makeTitleCase [] [65, 10] = .ok [] ∧
    makeTitleCase [⟨0,1,true,true,false,true,[97],none⟩] [65, 10] = .ok [65] := by decide +kernel

/-- short prepositions, determiners and the five conjunctions are lower-cased as a whole, unless
first or last -/
example : makeTitleCase [⟨0,2,true,true,true,false,[111,102],none⟩, ⟨2,3,false,false,false,false,[],none⟩,
      ⟨3,6,true,true,false,false,[97,110,100],none⟩, ⟨6,7,false,false,false,false,[],none⟩,
      ⟨7,9,true,true,true,false,[105,110],none⟩]
    [79,70,32,65,78,68,32,73,78] = .ok [79,70,32,97,110,100,32,73,78] := by decide +kernel

end Harper.C18
