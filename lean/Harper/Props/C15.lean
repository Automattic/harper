import Harper.Lemmas.EditDistance
/-!
# C15 — dictionary back-ends agree; fuzzy search returns true near matches

Property theorems; helper lemmas are in `Harper/Lemmas/EditDistance.lean`. The models
(`Harper/Model/EditDistance.lean`, `Harper/Model/Dict.lean`) follow the code: two rows of `u8`
cells with the dev profile's overflow checks and length assertion (`Arith.checked`, the mode the
correspondence run exercises), the release profile's wrapping arithmetic (`Arith.wrapping`), and
unbounded cells (`Arith.nat`); the mutable dictionary's length window, the two distances, the
sort by distance and the cap; the keyed word map; the merged dictionary's first-child-wins loops.

`lev` is the textbook Levenshtein recursion (`Harper.lev`, in the lemma file because it is the
specification, not code that runs).
-/
namespace Harper.C15
open Harper

/-! ## The distance -/

/-- The Wagner–Fischer rows (unbounded cells) compute the Levenshtein distance; the Rust loops
fill the table over prefixes, so what comes out is literally the distance of the reversed strings. -/
theorem wagnerFischer_eq_lev {α : Type} [DecidableEq α] (s t : List α) :
    editDistance .nat s t = .ok (lev s.reverse t.reverse) :=
  editDistance_eq_lev_reverse .nat s t (.inl rfl)

/-- … which is the same number (an edit script can be read from either end). -/
theorem lev_reverse {α : Type} [DecidableEq α] (s t : List α) :
    lev s.reverse t.reverse = lev s t :=
  Harper.lev_reverse s t

/-- `lev` is symmetric -/
theorem lev_comm {α : Type} [DecidableEq α] (s t : List α) : lev s t = lev t s :=
  Harper.lev_comm s t

/-- With `u8` cells — dev profile (checked) or release profile (wrapping) — the routine neither
panics nor wraps, and returns the Levenshtein distance, whenever both strings have at most 254
characters. -/
theorem u8_rows_exact {α : Type} [DecidableEq α] (m : Arith) (s t : List α)
    (hs : s.length ≤ 254) (ht : t.length ≤ 254) :
    editDistance m s t = .ok (lev s t) :=
  editDistance_eq_lev m s t (.inr ⟨hs, ht⟩)

/-- The exact domain of the dev-profile routine: it returns a value iff both lengths are ≤ 254,
or one string is empty and the other has ≤ 255 characters. (255 against a non-empty string
overflows a `u8` cell; ≥ 256 fails the `debug_assertions` length assertion.) -/
theorem u8_checked_ok_iff {α : Type} [DecidableEq α] (s t : List α) :
    (∃ n, editDistance .checked s t = .ok n) ↔
      (s.length ≤ 254 ∧ t.length ≤ 254) ∨ (t = [] ∧ s.length ≤ 255) ∨ (s = [] ∧ t.length ≤ 255) := by
  constructor
  · intro ⟨n, hn⟩
    by_cases hbig : 255 < s.length ∨ 255 < t.length
    · rw [editDistance_assert s t hbig] at hn; cases hn
    · by_cases hs : s.length = 255
      · by_cases ht : t = []
        · exact .inr (.inl ⟨ht, by omega⟩)
        · rw [editDistance_overflow_source s t hs ht (by omega)] at hn; cases hn
      · by_cases ht : t.length = 255
        · by_cases hs0 : s = []
          · exact .inr (.inr ⟨hs0, by omega⟩)
          · rw [editDistance_overflow_target s t hs0 (by omega) ht] at hn; cases hn
        · exact .inl ⟨by omega, by omega⟩
  · rintro (⟨hs, ht⟩ | ⟨rfl, hs⟩ | ⟨rfl, ht⟩)
    · exact ⟨_, editDistance_eq_lev .checked s t (.inr ⟨hs, ht⟩)⟩
    · exact ⟨_, editDistance_nil_right .checked s (.inr hs)⟩
    · exact ⟨_, editDistance_nil_left .checked t (.inr ht)⟩

/-- … and whenever it returns, the value is the Levenshtein distance. -/
theorem u8_checked_value {α : Type} [DecidableEq α] (s t : List α) (n : Nat)
    (h : editDistance .checked s t = .ok n) : n = lev s t := by
  rcases (u8_checked_ok_iff s t).mp ⟨n, h⟩ with ⟨hs, ht⟩ | ⟨rfl, hs⟩ | ⟨rfl, ht⟩
  · rw [editDistance_eq_lev .checked s t (.inr ⟨hs, ht⟩)] at h
    exact (Except.ok.inj h).symm
  · rw [editDistance_nil_right .checked s (.inr hs)] at h
    simpa using (Except.ok.inj h).symm
  · rw [editDistance_nil_left .checked t (.inr ht)] at h
    simpa using (Except.ok.inj h).symm

/-- The distance is at least the difference of the lengths: words outside the length window
`[len − bound, len + bound]` of `fuzzy_match` cannot be within the bound. -/
theorem lev_ge_length_diff {α : Type} [DecidableEq α] (s t : List α) :
    s.length - t.length ≤ lev s t ∧ t.length - s.length ≤ lev s t := by
  have := lev_length_bounds s t
  omega

/-! ## Fuzzy search of the mutable dictionary

`ws` is the dictionary's word list in iteration order, each word tagged with a payload `x`
identifying it; `q` is the normalised query and `ql` its lower-case form. The hypothesis
`q.length + bound ≤ 254 ∧ ql.length ≤ 254` keeps every candidate in the length window within the
domain of the `u8` routine (real queries are words of a text, real bounds ≤ 3). -/

/-- Soundness: the search returns a value; every result is a word of the dictionary, its reported
distance is the smaller of its true distances to the query and to the lower-cased query and is
within the bound; results are ordered by distance; at most `cap` of them; and no dictionary entry
is reported twice (a rearrangement of the result tags is a sub-list of the dictionary's tags). -/
theorem fuzzy_sound {β : Type} (m : Arith) (bound cap : Nat) (q ql : List Char)
    (ws : List (β × List Char))
    (hq : m = .nat ∨ (q.length + bound ≤ 254 ∧ ql.length ≤ 254)) :
    ∃ res, fuzzyMatch m bound cap q ql ws = .ok res ∧
      (∀ r ∈ res, ∃ w, (r.1, w) ∈ ws ∧ r.2 = min (lev q w) (lev ql w) ∧ r.2 ≤ bound) ∧
      res.Pairwise (fun a b => a.2 ≤ b.2) ∧
      res.length ≤ cap ∧
      (∃ p : List (β × Nat), p.Perm res ∧ (p.map (·.1)).Sublist (ws.map (·.1))) := by
  refine ⟨_, fuzzyMatch_eq m bound cap q ql ws hq, mem_fuzzy, ?_, ?_, ?_⟩
  · exact (sortByDist_sorted _).sublist (List.take_sublist _ _)
  · exact List.length_take_le _ _
  · obtain ⟨p, hp, hsub⟩ := List.exists_perm_sublist (List.take_sublist cap _) (sortByDist_perm _)
    exact ⟨p, hp, (hsub.map _).trans (fuzzyPool_fst_sublist bound q ql ws)⟩

/-- Completeness: when the cap is not smaller than the number of words within the bound, every
non-empty dictionary word within the bound of the query — or within the bound of the lower-cased
query, provided lower-casing kept the query's length — is returned, with its true (smaller)
distance. -/
theorem fuzzy_complete {β : Type} (m : Arith) (bound cap : Nat) (q ql : List Char)
    (ws : List (β × List Char))
    (hq : m = .nat ∨ (q.length + bound ≤ 254 ∧ ql.length ≤ 254))
    (hcap : (ws.filter (fun xw => decide (min (lev q xw.2) (lev ql xw.2) ≤ bound))).length ≤ cap) :
    ∃ res, fuzzyMatch m bound cap q ql ws = .ok res ∧
      ∀ x w, (x, w) ∈ ws → w ≠ [] →
        (lev q w ≤ bound ∨ (ql.length = q.length ∧ lev ql w ≤ bound)) →
        (x, min (lev q w) (lev ql w)) ∈ res := by
  refine ⟨_, fuzzyMatch_eq m bound cap q ql ws hq, fun x w hxw hw hd => ?_⟩
  rw [take_fuzzy_of_cap hcap]
  exact near_mem_fuzzy hxw hw hd

/-- The property's clause: for a lower-case query (lower-casing changes nothing) no non-empty word
within the bound is missed, as long as the cap is not smaller than the number of such words. -/
theorem fuzzy_complete_lower {β : Type} (m : Arith) (bound cap : Nat) (q : List Char)
    (ws : List (β × List Char)) (hq : m = .nat ∨ q.length + bound ≤ 254)
    (hcap : (ws.filter (fun xw => decide (lev q xw.2 ≤ bound))).length ≤ cap) :
    ∃ res, fuzzyMatch m bound cap q q ws = .ok res ∧
      ∀ x w, (x, w) ∈ ws → w ≠ [] → lev q w ≤ bound → (x, lev q w) ∈ res := by
  obtain ⟨res, hres, h⟩ := fuzzy_complete m bound cap q q ws
    (hq.imp_right fun _ => by omega) (by simpa using hcap)
  refine ⟨res, hres, fun x w hxw hw hd => ?_⟩
  simpa using h x w hxw hw (.inl hd)

/-- **Completeness under any cap.** Without the hypothesis `hcap` of `fuzzy_complete`: a non-empty
dictionary word within the bound is either returned, or the result is full (`cap` entries) and every
returned entry is at least as close as the missed word — the cap only ever cuts off the far end. -/
theorem fuzzy_complete_capped {β : Type} (m : Arith) (bound cap : Nat) (q ql : List Char)
    (ws : List (β × List Char))
    (hq : m = .nat ∨ (q.length + bound ≤ 254 ∧ ql.length ≤ 254)) :
    ∃ res, fuzzyMatch m bound cap q ql ws = .ok res ∧
      ∀ x w, (x, w) ∈ ws → w ≠ [] →
        (lev q w ≤ bound ∨ (ql.length = q.length ∧ lev ql w ≤ bound)) →
        (x, min (lev q w) (lev ql w)) ∈ res ∨
          (res.length = cap ∧ ∀ r ∈ res, r.2 ≤ min (lev q w) (lev ql w)) := by
  refine ⟨_, fuzzyMatch_eq m bound cap q ql ws hq, fun x w hxw hw hd => ?_⟩
  have hmem := near_mem_fuzzy hxw hw hd
  generalize hl : sortByDist (fuzzyPool bound q ql ws) = l at hmem ⊢
  have hsorted : l.Pairwise (fun a b => a.2 ≤ b.2) := by rw [← hl]; exact sortByDist_sorted _
  rw [← List.take_append_drop cap l] at hmem hsorted
  rcases List.mem_append.mp hmem with h | h
  · exact .inl h
  · right
    have hlen : cap < l.length := by
      have := List.length_pos_of_mem h
      simp only [List.length_drop] at this
      omega
    refine ⟨by simp only [List.length_take]; omega, fun r hr => ?_⟩
    exact (List.pairwise_append.mp hsorted).2.2 r hr _ h

/-! ## Fuzzy search of the FST dictionary

`fst` and `levenshtein_automata` are not modelled. `zipMerge` is the code around them — the
positional `zip` of the two result streams, sort by word + `dedup_by_key`, sort by distance,
`truncate` — and the first two theorems hold for *arbitrary* streams `us` (automaton of the query)
and `ls` (automaton of the lower-cased query) of (word index, distance) pairs. The last two
instantiate the streams with their specification `fstStream` (every word of the sorted word list
within the bound, in order, with its exact distance). -/

/-- Whatever the two streams are: every result is an entry of one of the streams, results are
ordered by distance, at most `cap`, and no word is returned twice. -/
theorem zipMerge_sound (cap : Nat) (us ls : List (Nat × Nat)) :
    (∀ r ∈ zipMerge cap us ls, r ∈ us ∨ r ∈ ls) ∧
    (zipMerge cap us ls).Pairwise (fun a b => a.2 ≤ b.2) ∧
    (zipMerge cap us ls).length ≤ cap ∧
    ((zipMerge cap us ls).map (·.1)).Nodup := by
  refine ⟨?_, ?_, ?_, ?_⟩
  · intro r hr
    have h1 := (sortByDist_perm _).mem_iff.mp (List.mem_of_mem_take hr)
    have h2 := (dedupIdx_sub _).subset h1
    have h3 := (sortByIdx_perm _).mem_iff.mp h2
    exact zipPick_mem us ls r h3
  · exact (sortByDist_sorted _).sublist (List.take_sublist _ _)
  · simp only [zipMerge, List.length_take]; omega
  · exact (zipMergeAll_nodup us ls).sublist ((List.take_sublist cap _).map _)

/-- When the two streams are the same (the query is already lower-case) and list each word once
in index order, the merge is the identity: the result is the stream sorted by distance, capped. -/
theorem zipMerge_complete (cap : Nat) (us : List (Nat × Nat))
    (h : us.Pairwise (fun a b => a.1 < b.1)) :
    zipMerge cap us us = (sortByDist us).take cap := by
  unfold zipMerge zipMergeAll
  rw [zipPick_self, sortByIdx_of_sorted us (h.imp (fun h => by omega)), dedupIdx_of_strict us h]

/-- With the specified streams: every result is a word of the dictionary within the bound whose
reported distance is its true distance to the query *or* to the lower-cased query (not
necessarily the smaller: the zip pairs stream positions, not words — see the example below). -/
theorem fst_fuzzy_sound (bound cap : Nat) (q sql : List Char) (ws : List (Nat × List Char)) :
    ∀ r ∈ fstFuzzy bound cap q sql ws,
      ∃ w, (r.1, w) ∈ ws ∧ (r.2 = lev q w ∨ r.2 = lev sql w) ∧ r.2 ≤ bound := by
  intro r hr
  rcases (zipMerge_sound cap _ _).1 r hr with h | h
  · obtain ⟨w, hw, hd, hb⟩ := (mem_fstStream bound q ws r).mp h
    exact ⟨w, hw, .inl hd, hb⟩
  · obtain ⟨w, hw, hd, hb⟩ := (mem_fstStream bound sql ws r).mp h
    exact ⟨w, hw, .inr hd, hb⟩

/-- With the specified streams and a lower-case query: if the cap is not smaller than the number
of words within the bound, every such word (the empty word included — this back-end has no
length window) is returned with its true distance. `ws` lists the words with increasing indices,
as `FstDictionary::new` builds them (sorted, deduplicated). -/
theorem fst_fuzzy_complete_lower (bound cap : Nat) (q : List Char) (ws : List (Nat × List Char))
    (hidx : (ws.map (·.1)).Pairwise (· < ·))
    (hcap : (ws.filter (fun iw => decide (lev q iw.2 ≤ bound))).length ≤ cap) :
    ∀ i w, (i, w) ∈ ws → lev q w ≤ bound → (i, lev q w) ∈ fstFuzzy bound cap q q ws := by
  intro i w hiw hd
  have hstrict : (fstStream bound q ws).Pairwise (fun a b => a.1 < b.1) := by
    have := hidx.sublist (fstStream_fst_sublist bound q ws)
    rwa [List.pairwise_map] at this
  unfold fstFuzzy
  rw [zipMerge_complete cap _ hstrict]
  have hlen : (fstStream bound q ws).length ≤ cap := by
    rw [fstStream_eq]; simpa using hcap
  rw [List.take_of_length_le (by rw [(sortByDist_perm _).length_eq]; exact hlen)]
  apply (sortByDist_perm _).mem_iff.mpr
  exact (mem_fstStream bound q ws (i, lev q w)).mpr ⟨w, hiw, rfl, hd⟩

/-! ## Word map and merged dictionary -/

/-- `WordMap::insert` then lookup: the inserted entry is found under its key (replacing an
earlier entry with the same lower-cased spelling), every other key is unaffected. -/
theorem insert_lookup (e : DictEntry) (d : Dict) (k : List Char) :
    (Dict.insert e d).lookup k = if e.key = k then some e else d.lookup k :=
  Dict.lookup_insert e d k

/-- A merged dictionary is the union of its parts, first child first:
* membership: some child contains the word;
* exact capitalisation: some child contains exactly that spelling;
* canonical spelling and metadata: those of the first child that knows the word — the same as
  looking the key up in the concatenation of the children's word lists;
* nothing is found iff no child knows the word. -/
theorem merged_is_union (ds : Merged) (nq kq : List Char) :
    (Merged.containsWord ds kq = true ↔ ∃ d ∈ ds, d.containsWord kq = true) ∧
    (Merged.containsExact ds nq kq = true ↔ ∃ d ∈ ds, d.containsExact nq kq = true) ∧
    Merged.canonical ds kq = Dict.canonical ds.flatten kq ∧
    Merged.metadata ds kq = Dict.metadata ds.flatten kq ∧
    (Merged.containsWord ds kq = (Merged.lookup ds kq).isSome) ∧
    (∀ pre d post, ds = pre ++ d :: post → (∀ p ∈ pre, p.containsWord kq = false) →
        d.containsWord kq = true →
        Merged.canonical ds kq = d.canonical kq ∧ Merged.metadata ds kq = d.metadata kq) := by
  refine ⟨by simp [Merged.containsWord], by simp [Merged.containsExact], ?_, ?_, ?_, ?_⟩
  · simp [Merged.canonical, Dict.canonical, Merged.lookup_eq_flatten]
  · simp [Merged.metadata, Dict.metadata, Merged.lookup_eq_flatten]
  · induction ds with
    | nil => simp [Merged.containsWord, Merged.lookup]
    | cons d ds ih =>
      simp only [Merged.containsWord, Merged.lookup, List.any_cons, List.findSome?_cons,
        Dict.containsWord] at ih ⊢
      cases h : d.lookup kq with
      | none => simpa using ih
      | some e => simp
  · rintro pre d post rfl hpre hd
    have hpre' : ∀ p ∈ pre, p.lookup kq = none := by
      intro p hp
      have := hpre p hp
      simpa [Dict.containsWord] using this
    have := Merged.lookup_first pre d post kq hpre' (by simpa [Dict.containsWord] using hd)
    simp [Merged.canonical, Merged.metadata, Dict.canonical, Dict.metadata, this]

/-- **Back-ends agree (merged over one dictionary).** A merged dictionary with a single child answers
membership, exact-capitalisation, canonical-spelling and metadata queries exactly as that child,
for every query. (`FstDictionary` answers these four queries by delegating to the
`MutableDictionary` it is built around — `fst_dictionary.rs:115–210` — so there is nothing to model
for the FST back-end beyond `fstFuzzy`; the agreement FST = mutable is a correspondence-run check.) -/
theorem merged_singleton_agrees (d : Dict) (nq kq : List Char) :
    Merged.containsWord [d] kq = d.containsWord kq ∧
    Merged.containsExact [d] nq kq = d.containsExact nq kq ∧
    Merged.canonical [d] kq = d.canonical kq ∧
    Merged.metadata [d] kq = d.metadata kq := by
  have h := merged_is_union [d] nq kq
  refine ⟨by simp [Merged.containsWord], by simp [Merged.containsExact], ?_, ?_⟩
  · rw [h.2.2.1]; simp
  · rw [h.2.2.2.1]; simp

/-- A merged dictionary's fuzzy search (children searched with the same bound and cap, results
concatenated, stably sorted, capped): every result is a word of some child with the smaller of
its two true distances, within the bound; results are ordered by distance; at most `cap`.
(A word listed by two children can be returned twice — see the example below.) -/
theorem merged_fuzzy_sound (m : Arith) (bound cap : Nat) (q ql : List Char) (ds : Merged)
    (hq : m = .nat ∨ (q.length + bound ≤ 254 ∧ ql.length ≤ 254)) :
    ∃ res, Merged.fuzzyMatch m bound cap q ql ds = .ok res ∧
      (∀ r ∈ res, ∃ d ∈ ds, ∃ e ∈ d, e.word = r.1 ∧
        r.2 = min (lev q r.1) (lev ql r.1) ∧ r.2 ≤ bound) ∧
      res.Pairwise (fun a b => a.2 ≤ b.2) ∧
      res.length ≤ cap := by
  refine ⟨_, Merged.fuzzyMatch_eq m bound cap q ql ds hq, fun r hr => ?_, ?_, ?_⟩
  · have hr' := (sortByDist_perm _).mem_iff.mp (List.mem_of_mem_take hr)
    obtain ⟨d, hd, hrd⟩ := List.mem_flatMap.mp hr'
    obtain ⟨w, hw, hdist, hb⟩ := mem_fuzzy r hrd
    obtain ⟨e, he, hee⟩ := List.mem_map.mp hw
    obtain ⟨h1, h2⟩ := Prod.mk.inj hee
    exact ⟨d, hd, e, he, h1, (h2.symm.trans h1) ▸ hdist, hb⟩
  · exact (sortByDist_sorted _).sublist (List.take_sublist _ _)
  · exact List.length_take_le _ _

/-! ### Completeness of the merged fuzzy search

As for `fuzzy_complete`, the cap must cover the candidates: with the cap at least the number of words within the
bound over ALL children (counted once per child), neither a child's cap nor the final `take` cuts anything. -/

/-- the candidates of a merged dictionary within the bound, children concatenated -/
def mergedNear (bound : Nat) (q ql : List Char) (ds : Merged) : List (List Char × List Char) :=
  ds.flatMap fun d => d.tagged.filter (fun xw => decide (min (lev q xw.2) (lev ql xw.2) ≤ bound))

theorem mergedNear_cons (bound : Nat) (q ql : List Char) (d : Dict) (ds : Merged) :
    mergedNear bound q ql (d :: ds)
      = d.tagged.filter (fun xw => decide (min (lev q xw.2) (lev ql xw.2) ≤ bound))
        ++ mergedNear bound q ql ds :=
  rfl

/-- Completeness of `MergedDictionary::fuzzy_match`: when the cap is not smaller than the number of words within the
bound in all children together, every non-empty word of every child within the bound of the query (or of the
lower-cased query, if lower-casing kept its length) is returned with its true (smaller) distance. -/
theorem merged_fuzzy_complete (m : Arith) (bound cap : Nat) (q ql : List Char) (ds : Merged)
    (hq : m = .nat ∨ (q.length + bound ≤ 254 ∧ ql.length ≤ 254))
    (hcap : (mergedNear bound q ql ds).length ≤ cap) :
    ∃ res, Merged.fuzzyMatch m bound cap q ql ds = .ok res ∧
      ∀ d ∈ ds, ∀ e ∈ d, e.word ≠ [] →
        (lev q e.word ≤ bound ∨ (ql.length = q.length ∧ lev ql e.word ≤ bound)) →
        (e.word, min (lev q e.word) (lev ql e.word)) ∈ res := by
  have hflat : ∀ ds : List Dict, (mergedNear bound q ql ds).length ≤ cap →
      (ds.flatMap fun d => (sortByDist (fuzzyPool bound q ql d.tagged)).take cap).length
          ≤ (mergedNear bound q ql ds).length ∧
        ∀ d ∈ ds, ∀ e ∈ d, e.word ≠ [] →
          (lev q e.word ≤ bound ∨ (ql.length = q.length ∧ lev ql e.word ≤ bound)) →
          (e.word, min (lev q e.word) (lev ql e.word)) ∈ ds.flatMap fun d =>
            (sortByDist (fuzzyPool bound q ql d.tagged)).take cap := by
    intro ds
    induction ds with
    | nil => exact fun _ => ⟨Nat.le_refl _, nofun⟩
    | cons d ds ih =>
      intro hc
      rw [mergedNear_cons, List.length_append] at hc ⊢
      obtain ⟨hlen, hmem⟩ := ih (by omega)
      rw [List.flatMap_cons, take_fuzzy_of_cap (Nat.le_trans (Nat.le_add_right _ _) hc)]
      refine ⟨?_, fun d' hd' e he hne hnear => ?_⟩
      · have := length_fuzzyPool_le bound q ql d.tagged
        rw [List.length_append, (sortByDist_perm _).length_eq]
        omega
      · rcases List.mem_cons.mp hd' with rfl | hd'
        · exact List.mem_append_left _
            (near_mem_fuzzy (List.mem_map.mpr ⟨e, he, rfl⟩) hne hnear)
        · exact List.mem_append_right _ (hmem d' hd' e he hne hnear)
  obtain ⟨hlen, hmem⟩ := hflat ds hcap
  refine ⟨_, Merged.fuzzyMatch_eq m bound cap q ql ds hq, fun d hd e he hne hnear => ?_⟩
  rw [List.take_of_length_le (by rw [(sortByDist_perm _).length_eq]; omega)]
  exact (sortByDist_perm _).mem_iff.mpr (hmem d hd e he hne hnear)

/-- a cap of at least the total number of entries always satisfies `hcap` -/
theorem mergedNear_length_le (bound : Nat) (q ql : List Char) (ds : Merged) :
    (mergedNear bound q ql ds).length ≤ (ds.map List.length).sum := by
  induction ds with
  | nil => simp [mergedNear]
  | cons d ds ih =>
    have h1 := List.length_filter_le (fun xw : List Char × List Char =>
      decide (min (lev q xw.2) (lev ql xw.2) ≤ bound)) d.tagged
    rw [Dict.tagged, List.length_map] at h1
    rw [mergedNear_cons, List.length_append, List.map_cons, List.sum_cons]
    exact Nat.add_le_add h1 ih

/-! ## Non-vacuity and witnesses (concrete values, kernel-evaluated; theorems applied to them) -/

/-- the model on the repository's own test vectors -/
theorem kitten_sitting : editDistance .checked "kitten".toList "sitting".toList = .ok 3 := by
  decide +kernel
example : editDistance .checked "kitten".toList "sitting".toList = .ok 3 := kitten_sitting
example : editDistance .checked "saturday".toList "sunday".toList = .ok 3 := by decide +kernel

/-- `lev` itself on that pair, through `u8_checked_value` -/
example : lev "kitten".toList "sitting".toList = 3 := (u8_checked_value _ _ 3 kitten_sitting).symm

-- the hypotheses of `u8_rows_exact` are satisfiable at the boundary, and the bound is sharp:
-- 255 characters against one character overflows a cell in the dev profile, …
set_option maxRecDepth 20000 in
example : editDistance .checked (List.replicate 254 0) [1] = .ok 254 :=
  (u8_rows_exact .checked _ _ (Nat.le_of_eq List.length_replicate) (by decide)).trans
    (congrArg _ ((lev_singleton_of_not_mem 1 _ (by decide) fun h =>
      absurd (List.eq_of_mem_replicate h) (by decide)).trans List.length_replicate))
set_option maxRecDepth 20000 in
example : editDistance .checked (List.replicate 255 0) [1] = .error .overflow :=
  editDistance_overflow_source _ _ List.length_replicate (List.cons_ne_nil _ _) (by decide)
-- … is fine against the empty string, …
set_option maxRecDepth 20000 in
example : editDistance .checked (List.replicate 255 0) ([] : List Nat) = .ok 255 :=
  (editDistance_nil_right .checked _ (.inr (Nat.le_of_eq List.length_replicate))).trans
    (congrArg _ List.length_replicate)
-- … 256 characters fail the dev profile's assertion and index out of bounds in the release
-- profile (`previous_row` has `256 as u8 + 1 = 1` cell), and in the release profile 255 characters
-- silently give a wrong distance.
set_option maxRecDepth 20000 in
example : editDistance .checked (List.replicate 256 0) ([] : List Nat) = .error .assertFail :=
  editDistance_assert _ _ (.inl (by rw [List.length_replicate]; omega))
set_option maxRecDepth 20000 in
example : editDistance .wrapping (List.replicate 256 0) ([] : List Nat) = .error .sliceOOB := by decide +kernel
set_option maxRecDepth 20000 in
example : editDistance .wrapping (List.replicate 255 0) [1] = .ok 0 := by decide +kernel

/-- a non-trivial search: window, both distances, ties in input order, cap -/
example : fuzzyMatch .checked 1 3 "Ab".toList "ab".toList
    [(0, "ab".toList), (1, "b".toList), (2, "abc".toList), (3, "".toList), (4, "ba".toList),
     (5, "Ab".toList), (6, "abcd".toList)]
    = .ok [(0, 0), (5, 0), (1, 1)] := by decide +kernel

/-- the length hypothesis `hq` of `fuzzy_sound` / `fuzzy_complete` holds for that query (bound 1) -/
example : ("Ab".toList.length + 1 ≤ 254 ∧ "ab".toList.length ≤ 254) := by decide +kernel

/-- the empty word is never returned (the window starts at length 1) although it is within the
bound: why `fuzzy_complete` speaks of non-empty words -/
example : fuzzyMatch .checked 1 5 "a".toList "a".toList [(0, "".toList), (1, "a".toList)]
    = .ok [(1, 0)] := by decide +kernel
example : lev "a".toList "".toList = 1 := lev_of_editDistance (by decide +kernel)

/-- a query whose lower-case form is longer (`İ` → `i̇`): a word equal to the lower-cased query is
outside the window of the original query and is missed — why the second disjunct of
`fuzzy_complete` needs equal lengths -/
example : fuzzyMatch .checked 0 5 [Char.ofNat 304] [Char.ofNat 105, Char.ofNat 775]
    [(0, [Char.ofNat 105, Char.ofNat 775])] = .ok [] := by decide +kernel

/-- the FST back-end with a query that is not lower-case: the streams for `Ba` and `ba` over
`Ba, a, b, ba` have different lengths and are paired by position, so `b` (at distance 1 of the
lower-cased query) is missed and `ba` is reported at distance 1 although it *is* the lower-cased
query — sound in the sense of `fst_fuzzy_sound`, neither complete nor minimal -/
example : fstFuzzy 1 5 "Ba".toList "ba".toList
    [(0, "Ba".toList), (1, "a".toList), (2, "b".toList), (3, "ba".toList)]
    = [(0, 0), (1, 1), (3, 1)] := by decide +kernel

/-- the hypotheses of `fst_fuzzy_complete_lower` are satisfiable, and then nothing is missed -/
example : fstFuzzy 1 5 "ba".toList "ba".toList
    [(0, "Ba".toList), (1, "a".toList), (2, "b".toList), (3, "ba".toList)]
    = [(3, 0), (0, 1), (1, 1), (2, 1)] := by decide +kernel
example : ([(0, "Ba".toList), (1, "a".toList), (2, "b".toList), (3, "ba".toList)].map
    (·.1)).Pairwise (· < ·) := by decide +kernel

/-- merged dictionary: first child wins for canonical spelling / metadata, any child for the
exact spelling -/
example :
    let c1 : Dict := [⟨"Hello".toList, "hello".toList, 1⟩]
    let c2 : Dict := [⟨"hello".toList, "hello".toList, 2⟩, ⟨"b".toList, "b".toList, 3⟩]
    Merged.canonical [c1, c2] "hello".toList = some "Hello".toList ∧
    Merged.metadata [c1, c2] "hello".toList = some 1 ∧
    Merged.containsExact [c1, c2] "hello".toList "hello".toList = true ∧
    Merged.containsExact [c1, c2] "HELLO".toList "hello".toList = false ∧
    Merged.containsWord [c1, c2] "hello".toList = true ∧
    Merged.metadata [c1, c2] "b".toList = some 3 ∧
    Merged.containsWord [c1, c2] "c".toList = false := by decide +kernel

/-- a word known to two children is listed twice, and can push a different word out of the cap -/
example :
    Merged.fuzzyMatch .checked 1 2 "ab".toList "ab".toList
      [[⟨"ab".toList, "ab".toList, 0⟩], [⟨"ab".toList, "ab".toList, 1⟩, ⟨"abc".toList, "abc".toList, 2⟩]]
    = .ok [("ab".toList, 0), ("ab".toList, 0)] := by decide +kernel

/-- `a` then `A`: one entry, the later spelling -/
example : (Dict.ofList [⟨['a'], ['a'], 0⟩, ⟨['A'], ['a'], 1⟩]).words = [['A']] := by decide +kernel

/-- non-vacuity of `u8_rows_exact`: two 200-character strings (inside the bound), both profiles,
and two 254-character strings (at the bound) -/
example : editDistance .checked (List.replicate 200 'a') (List.replicate 200 'b')
      = .ok (lev (List.replicate 200 'a') (List.replicate 200 'b')) ∧
    editDistance .wrapping (List.replicate 254 'a') (List.replicate 254 'b')
      = .ok (lev (List.replicate 254 'a') (List.replicate 254 'b')) :=
  ⟨u8_rows_exact .checked _ _ (by rw [List.length_replicate]; omega) (by rw [List.length_replicate]; omega),
   u8_rows_exact .wrapping _ _ (by rw [List.length_replicate]; omega) (by rw [List.length_replicate]; omega)⟩

/-- … and outside: two 256-character strings have no value in the dev profile, two 255-character
strings neither (`u8_checked_ok_iff`, left to right) -/
example : (¬ ∃ n, editDistance .checked (List.replicate 256 'a') (List.replicate 256 'b') = .ok n) ∧
    (¬ ∃ n, editDistance .checked (List.replicate 255 'a') (List.replicate 255 'b') = .ok n) := by
  constructor <;> intro h <;>
    rcases (u8_checked_ok_iff _ _).mp h with ⟨h1, _⟩ | ⟨h1, _⟩ | ⟨h1, _⟩ <;>
    first
    | (rw [List.length_replicate] at h1; omega)
    | (have := congrArg List.length h1; rw [List.length_replicate] at this; cases this)

/-- non-vacuity of `u8_checked_value` (hypothesis `… = .ok n` on the repository's test vector) -/
example : (3 : Nat) = lev "kitten".toList "sitting".toList :=
  u8_checked_value "kitten".toList "sitting".toList 3 kitten_sitting

/-- non-vacuity of `fuzzy_sound`: the theorem applied to the seven-word search above -/
example : ∃ res, fuzzyMatch .checked 1 3 "Ab".toList "ab".toList
      [(0, "ab".toList), (1, "b".toList), (2, "abc".toList), (3, "".toList), (4, "ba".toList),
       (5, "Ab".toList), (6, "abcd".toList)] = .ok res ∧ res.length ≤ 3 :=
  let ⟨res, h, _, _, hl, _⟩ := fuzzy_sound .checked 1 3 "Ab".toList "ab".toList
    [(0, "ab".toList), (1, "b".toList), (2, "abc".toList), (3, "".toList), (4, "ba".toList),
     (5, "Ab".toList), (6, "abcd".toList)] (.inr (by decide +kernel))
  ⟨res, h, hl⟩

/-- non-vacuity of `fuzzy_complete`: both hypotheses together, with a cap (2) SMALLER than the
dictionary (3 words): `abcd` is outside the bound, so two matches fit -/
example : ∃ res, fuzzyMatch .checked 1 2 ['A', 'b'] ['a', 'b']
      [(0, ['a', 'b', 'c', 'd']), (1, ['b']), (2, ['A', 'b'])] = .ok res ∧
      (1, 1) ∈ res ∧ (2, 0) ∈ res := by
  obtain ⟨res, h, hc⟩ := fuzzy_complete .checked 1 2 ['A', 'b'] ['a', 'b']
    [(0, ['a', 'b', 'c', 'd']), (1, ['b']), (2, ['A', 'b'])] (.inr (by decide +kernel))
    (by simp only [lev_eq_run]; decide +kernel)
  have h1 := hc 1 ['b'] (by decide +kernel) (by decide +kernel)
    (.inl (by rw [lev_eq_run]; decide +kernel))
  have h2 := hc 2 ['A', 'b'] (by decide +kernel) (by decide +kernel)
    (.inl (by rw [lev_eq_run]; decide +kernel))
  rw [show min (lev ['A', 'b'] ['b']) (lev ['a', 'b'] ['b']) = 1 by
    simp only [lev_eq_run]; decide +kernel] at h1
  rw [show min (lev ['A', 'b'] ['A', 'b']) (lev ['a', 'b'] ['A', 'b']) = 0 by
    simp only [lev_eq_run]; decide +kernel] at h2
  exact ⟨res, h, h1, h2⟩

/-- non-vacuity of `fuzzy_complete_lower`: lower-case query, cap 2 < 3 words -/
example : ∃ res, fuzzyMatch .checked 1 2 ['a', 'b'] ['a', 'b']
      [(0, ['a', 'b', 'c', 'd']), (1, ['b']), (2, ['A', 'b'])] = .ok res ∧
      (1, 1) ∈ res ∧ (2, 1) ∈ res := by
  obtain ⟨res, h, hc⟩ := fuzzy_complete_lower .checked 1 2 ['a', 'b']
    [(0, ['a', 'b', 'c', 'd']), (1, ['b']), (2, ['A', 'b'])] (.inr (by decide +kernel))
    (by simp only [lev_eq_run]; decide +kernel)
  have h1 := hc 1 ['b'] (by decide +kernel) (by decide +kernel) (by rw [lev_eq_run]; decide +kernel)
  have h2 := hc 2 ['A', 'b'] (by decide +kernel) (by decide +kernel)
    (by rw [lev_eq_run]; decide +kernel)
  rw [show lev ['a', 'b'] ['b'] = 1 by rw [lev_eq_run]; decide +kernel] at h1
  rw [show lev ['a', 'b'] ['A', 'b'] = 1 by rw [lev_eq_run]; decide +kernel] at h2
  exact ⟨res, h, h1, h2⟩

/-- non-vacuity of `zipMerge_complete`: a strictly increasing stream -/
example : zipMerge 2 [(0, 1), (2, 0), (5, 1)] [(0, 1), (2, 0), (5, 1)] = [(2, 0), (0, 1)] := by
  rw [zipMerge_complete 2 _ (by decide +kernel)]; decide +kernel

/-- non-vacuity of `fst_fuzzy_complete_lower`: both hypotheses, cap 3 < 4 words (`ccc` is outside
the bound) -/
example : (0, 1) ∈ fstFuzzy 1 3 ['b', 'a'] ['b', 'a']
      [(0, ['B', 'a']), (1, ['a']), (2, ['b', 'a']), (3, ['c', 'c', 'c'])] := by
  have := fst_fuzzy_complete_lower 1 3 ['b', 'a']
    [(0, ['B', 'a']), (1, ['a']), (2, ['b', 'a']), (3, ['c', 'c', 'c'])] (by decide +kernel)
    (by simp only [lev_eq_run]; decide +kernel) 0 ['B', 'a'] (by decide +kernel)
    (by rw [lev_eq_run]; decide +kernel)
  rwa [show lev ['b', 'a'] ['B', 'a'] = 1 by rw [lev_eq_run]; decide +kernel] at this

/-- non-vacuity of the last clause of `merged_is_union` (first child that knows the word): `b` is
unknown to the first child and answered by the second -/
example :
    let c1 : Dict := [⟨"Hello".toList, "hello".toList, 1⟩]
    let c2 : Dict := [⟨"hello".toList, "hello".toList, 2⟩, ⟨"b".toList, "b".toList, 3⟩]
    Merged.canonical [c1, c2] "b".toList = c2.canonical "b".toList ∧
      Merged.metadata [c1, c2] "b".toList = c2.metadata "b".toList := by
  intro c1 c2
  exact (merged_is_union [c1, c2] [] "b".toList).2.2.2.2.2 [c1] c2 [] rfl (by decide +kernel) (by decide +kernel)

/-- non-vacuity of `merged_fuzzy_sound`: applied to the two-child search above -/
example : ∃ res, Merged.fuzzyMatch .checked 1 2 "ab".toList "ab".toList
      [[⟨"ab".toList, "ab".toList, 0⟩], [⟨"ab".toList, "ab".toList, 1⟩, ⟨"abc".toList, "abc".toList, 2⟩]]
      = .ok res ∧ res.length ≤ 2 :=
  let ⟨res, h, _, _, hl⟩ := merged_fuzzy_sound .checked 1 2 "ab".toList "ab".toList
    [[⟨"ab".toList, "ab".toList, 0⟩], [⟨"ab".toList, "ab".toList, 1⟩, ⟨"abc".toList, "abc".toList, 2⟩]]
    (.inr (by decide +kernel))
  ⟨res, h, hl⟩

/-- … whereas a merged dictionary and ONE mutable dictionary holding the same words need not agree on
the canonical spelling when two children list case variants: merged = first child wins,
`extend_words` = last insert wins (membership agrees). -/
example :
    Merged.canonical [[⟨['A'], ['a'], 0⟩], [⟨['a'], ['a'], 1⟩]] ['a'] = some ['A'] ∧
    Dict.canonical (Dict.ofList [⟨['A'], ['a'], 0⟩, ⟨['a'], ['a'], 1⟩]) ['a'] = some ['a'] ∧
    Merged.containsWord [[⟨['A'], ['a'], 0⟩], [⟨['a'], ['a'], 1⟩]] ['a']
      = Dict.containsWord (Dict.ofList [⟨['A'], ['a'], 0⟩, ⟨['a'], ['a'], 1⟩]) ['a'] := by decide +kernel

/-- non-vacuity of `fuzzy_complete_capped`, second alternative: cap 1, two words within the bound —
`b` (distance 1) is missed, the result is full and its only entry is closer (distance 0) -/
example : fuzzyMatch .checked 1 1 ['a', 'b'] ['a', 'b'] [(0, ['b']), (1, ['a', 'b'])]
    = .ok [(1, 0)] := by decide +kernel

/-! non-vacuity of `merged_fuzzy_complete`: three of the four entries of `twoDicts` are within distance 1 of `cat`;
the theorem applied with cap 4, and the result computed -/

/-- two children, four entries; `cat` in both -/
def twoDicts : Merged :=
  [[⟨['c','a','t'], ['c','a','t'], 0⟩, ⟨['d','o','g'], ['d','o','g'], 0⟩],
   [⟨['c','a','r'], ['c','a','r'], 0⟩, ⟨['c','a','t'], ['c','a','t'], 0⟩]]

example : ∃ res, Merged.fuzzyMatch .checked 1 4 ['c','a','t'] ['c','a','t'] twoDicts = .ok res ∧
    ∀ d ∈ twoDicts, ∀ e ∈ d, e.word ≠ [] →
      (lev ['c','a','t'] e.word ≤ 1 ∨ ((['c','a','t'] : List Char).length = (['c','a','t'] : List Char).length ∧
        lev ['c','a','t'] e.word ≤ 1)) →
      (e.word, min (lev ['c','a','t'] e.word) (lev ['c','a','t'] e.word)) ∈ res :=
  merged_fuzzy_complete .checked 1 4 _ _ twoDicts (Or.inr (by decide +kernel))
    (Nat.le_trans (mergedNear_length_le _ _ _ _) (by decide +kernel))

example : Merged.fuzzyMatch .checked 1 4 ['c','a','t'] ['c','a','t'] twoDicts
    = .ok [(['c','a','t'], 0), (['c','a','t'], 0), (['c','a','r'], 1)] := by decide +kernel

/-- the cap hypothesis counts a word once PER CHILD listing it: with cap 2 (the number of DIFFERENT words within the
bound) the duplicate `cat` of the second child pushes `car` out — `MergedDictionary::fuzzy_match` does not deduplicate -/
example : Merged.fuzzyMatch .checked 1 2 ['c','a','t'] ['c','a','t'] twoDicts
    = .ok [(['c','a','t'], 0), (['c','a','t'], 0)] := by decide +kernel

end Harper.C15
