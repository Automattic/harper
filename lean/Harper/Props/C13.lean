import Harper.Lemmas.Overlaps
/-!
# C13 — overlap resolution returns a conflict-free subset of the lints

Property theorems only; helper lemmas are in `Harper/Lemmas/Overlaps.lean` (the code's index queue) and
`Harper/Lemmas/SortSweep.lean` (sort and sweep over any element type).
The model (`Harper/Model/Overlaps.lean`) is the code: stable sort by `(start, MAX - end)`,
index-collecting sweep with running `cur`, queue-driven `retain`.
-/
namespace Harper.C13
open Harper

/-- Nothing invented, nothing altered, nothing reordered beyond the sort: the output is a
sub-list of the stably sorted input. -/
theorem removeOverlaps_sublist_isort (l : List Lint) : (removeOverlaps l).Sublist (isort l) := by
  rw [removeOverlaps_eq_sweep]; exact sweep_sublist _ _

theorem removeOverlaps_sublist_of_perm (l : List Lint) :
    ∃ s, s.Perm l ∧ (removeOverlaps l).Sublist s :=
  ⟨isort l, isort_perm l, removeOverlaps_sublist_isort l⟩

/-- every element of the output is an element of the input -/
theorem removeOverlaps_subset (l : List Lint) : ∀ x ∈ removeOverlaps l, x ∈ l :=
  fun _ hx => (isort_perm l).mem_iff.mp ((removeOverlaps_sublist_isort l).subset hx)

/-- No two kept lints cover a common character: in output order each ends before the next
starts — for EVERY list of lints (the property's quantifier): `start ≤ end` is not needed, the sort
order does its work. -/
theorem removeOverlaps_disjoint_any (l : List Lint) :
    (removeOverlaps l).Pairwise (fun a b => a.e ≤ b.s) := by
  rw [removeOverlaps_eq]; exact removeOverlapsBy_disjoint l

/-- the same with the hypothesis the property is worded with (`start ≤ end`); it is not used -/
theorem removeOverlaps_disjoint (l : List Lint) (hwf : ∀ x ∈ l, x.s ≤ x.e) :
    (removeOverlaps l).Pairwise (fun a b => a.e ≤ b.s) :=
  removeOverlaps_disjoint_any l

/-- kept and dropped partition the input, and every dropped lint starts inside (or at the start
of) a kept lint. -/
theorem dropped_inside_kept (l : List Lint) :
    (removeOverlaps l ++ droppedBy l).Perm l ∧
    ∀ d ∈ droppedBy l, ∃ k ∈ removeOverlaps l, k.s ≤ d.s ∧ d.s < k.e := by
  rw [removeOverlaps_eq, droppedBy_eq_sweep, sweep_eq, isort_eq]
  exact removeOverlapsBy_dropped l

/-- The drop clause without `droppedBy`: every lint of the input is kept, or starts inside (or at
the start of) a lint that is kept. -/
theorem kept_or_starts_inside_kept (l : List Lint) :
    ∀ d ∈ l, d ∈ removeOverlaps l ∨ ∃ k ∈ removeOverlaps l, k.s ≤ d.s ∧ d.s < k.e := by
  rw [removeOverlaps_eq]; exact removeOverlapsBy_kept_or_covered l

/-- `remove_indices` with strictly increasing indices (all at or after the running index)
removes exactly the elements at those positions. -/
theorem removeIndices_spec {α} (xs : List α) (i : Nat) (q : List Nat)
    (hq : q.Pairwise (· < ·)) (hi : ∀ r ∈ q, i ≤ r) :
    removeIndices i q xs = ((xs.zipIdx i).filter (fun p => !q.contains p.2)).map (·.1) :=
  _root_.Harper.removeIndices_spec xs i q hq hi

/-- the sweep's index queue IS strictly increasing from the running index, so `removeIndices_spec`
applies to what `remove_overlaps` hands to `remove_indices` -/
theorem sweepIdx_increasing (cur i : Nat) (ls : List Lint) :
    (sweepIdx cur i ls).Pairwise (· < ·) ∧ ∀ r ∈ sweepIdx cur i ls, i ≤ r := by
  refine ⟨?_, sweepIdx_ge cur i ls⟩
  induction ls generalizing cur i with
  | nil => exact List.Pairwise.nil
  | cons l ls ih =>
    unfold sweepIdx
    by_cases h : l.s < cur
    · rw [if_pos h]
      exact List.pairwise_cons.mpr ⟨fun r hr => sweepIdx_ge cur (i + 1) ls r hr, ih cur (i + 1)⟩
    · rw [if_neg h]; exact ih l.e (i + 1)

/-! ### Which permutation: the stable sort by the code's key -/

/-- the sorted list is in non-decreasing KEY order (start ascending, then end DESCENDING), not
only start order -/
theorem isort_key_sorted (l : List Lint) :
    (isort l).Pairwise (fun a b => a.s < b.s ∨ (a.s = b.s ∧ b.e ≤ a.e)) :=
  (isort_le_sorted l).imp (leBy_iff Lint.s Lint.e).mp

/-- **the sort is stable**: lints with the same key (same span) keep their input order. Together
with `isort_perm` and `isort_key_sorted` this determines `isort l` uniquely: it is THE stable
sort of `l` by `(start, MAX - end)`, what `sort_by_key` computes. -/
theorem isort_stable (l : List Lint) (s e : Nat) :
    (isort l).filter (fun y => y.s == s && y.e == e) = l.filter (fun y => y.s == s && y.e == e) := by
  rw [isort_eq]
  refine isortBy_filter _ _ (fun a b ha hb => ?_) l
  simp only [Bool.and_eq_true, beq_iff_eq] at ha hb
  rw [leBy_iff]; omega

/-! ### Non-vacuity and witnesses (concrete, kernel-evaluated) -/

/-- a non-trivial instance: nested, touching, equal and zero-width spans -/
example :
    removeOverlaps [⟨0,5,1⟩, ⟨3,6,2⟩, ⟨5,5,3⟩, ⟨5,9,4⟩, ⟨2,2,5⟩] = [⟨0,5,1⟩, ⟨5,9,4⟩] := by
  decide +kernel

example : droppedBy [⟨0,5,1⟩, ⟨3,6,2⟩, ⟨5,5,3⟩, ⟨5,9,4⟩, ⟨2,2,5⟩] =
    [⟨2,2,5⟩, ⟨3,6,2⟩, ⟨5,5,3⟩] := by decide +kernel

/-- the hypothesis of `removeOverlaps_disjoint` is satisfiable by that instance -/
example : ∀ x ∈ [(⟨0,5,1⟩ : Lint), ⟨3,6,2⟩, ⟨5,5,3⟩, ⟨5,9,4⟩, ⟨2,2,5⟩], x.s ≤ x.e := by decide +kernel

/-- unsorted indices make `remove_indices` silently skip (why the sweep's order matters) -/
example : removeIndices 0 [2, 0] [10, 11, 12] = [10, 11] := by decide +kernel

/-- a malformed lint (`start > end`, which `Span`'s public fields allow) among well-formed ones -/
example : removeOverlaps [⟨4,6,1⟩, ⟨5,3,2⟩, ⟨6,2,3⟩, ⟨6,9,4⟩] = [⟨4,6,1⟩, ⟨6,9,4⟩] := by decide +kernel

/-- of two lints with the same span the FIRST in input order survives (`isort_stable`) -/
example : removeOverlaps [⟨2,4,7⟩, ⟨2,4,8⟩, ⟨0,1,9⟩] = [⟨0,1,9⟩, ⟨2,4,7⟩] := by decide +kernel
example : removeOverlaps [⟨2,4,8⟩, ⟨2,4,7⟩, ⟨0,1,9⟩] = [⟨0,1,9⟩, ⟨2,4,8⟩] := by decide +kernel

/-- zero-width lints: two at the same place are BOTH kept (they share no character; `a.e ≤ b.s`
holds with equality), one at the END of a kept lint is kept, one at its START or inside is dropped -/
example : removeOverlaps [⟨2,2,1⟩, ⟨2,2,2⟩] = [⟨2,2,1⟩, ⟨2,2,2⟩] := by decide +kernel
example : removeOverlaps [⟨2,5,1⟩, ⟨5,5,2⟩, ⟨2,2,3⟩, ⟨3,3,4⟩] = [⟨2,5,1⟩, ⟨5,5,2⟩] := by decide +kernel

/-- non-vacuity of `removeIndices_spec`: strictly increasing indices at or after the running index
(the test of `vec_ext.rs`) -/
example : removeIndices 0 [1, 4, 6] [0, 1, 2, 3, 4, 5, 6, 7, 8, 9] = [0, 2, 3, 5, 7, 8, 9] := by decide +kernel
example : [1, 4, 6].Pairwise (· < ·) ∧ ∀ r ∈ [1, 4, 6], 0 ≤ r := by decide +kernel
example : removeIndices 0 [1, 4, 6] [0, 1, 2, 3, 4, 5, 6, 7, 8, 9]
    = (([0, 1, 2, 3, 4, 5, 6, 7, 8, 9].zipIdx 0).filter (fun p => ![1, 4, 6].contains p.2)).map (·.1) :=
  removeIndices_spec _ 0 [1, 4, 6] (by decide +kernel) (by decide +kernel)

end Harper.C13
