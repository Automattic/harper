import Harper.Lemmas.Condense
/-!
# C02 — tokens are in bounds, ordered, disjoint (plain-English parser part)

`PlainEnglish::parse` is total and its tokens tile the text, for every text, every Unicode
class table (`cls`) and every behaviour of the three external lexers (`lex_url`,
`lex_email_address`, `lex_hostname_token`) that stays inside the text (`ExtOK`, monitored on
every run). The lexer order is regenerated from `lexing/mod.rs` on every run.
-/
namespace Harper.C02
open Harper

/-- `lex_token` always finds a token, of at least one and at most the remaining characters -/
theorem lexToken_progress (cls : Cls) (ext : Ext) (pos : Nat) (src : List Char) (len : Nat)
    (hext : ExtOK ext len) (hlen : pos + src.length = len) (hne : src ≠ []) :
    ∃ k n, lexToken cls ext pos src = some (k, n) ∧ 1 ≤ n ∧ n ≤ src.length :=
  Harper.lexToken_progress cls ext pos src len hext hlen hne

/-- the parser never panics, never runs out of fuel, and its tokens tile `[0, len)`:
contiguous, non-empty, in order, nothing lost or duplicated; at most one token per character. -/
theorem parsePlain_tiles (cls : Cls) (ext : Ext) (src : List Char) (hext : ExtOK ext src.length) :
    ∃ toks, parsePlain cls ext src = .ok toks ∧ Tiles toks 0 src.length ∧
      toks.length ≤ src.length := by
  unfold parsePlain
  exact parseLoop_tiles cls ext src.length hext _ 0 src (by omega) (by omega)

/-- tiling implies: in bounds, increasing, pairwise disjoint -/
theorem tiles_inbounds_sorted (toks : List Tok) (a b : Nat) (h : Tiles toks a b) :
    a ≤ b ∧ (∀ t ∈ toks, a ≤ t.span.start ∧ t.span.start < t.span.stop ∧ t.span.stop ≤ b) ∧
    toks.Pairwise (fun x y => x.span.stop ≤ y.span.start) :=
  ⟨h.gap.le, fun t ht => ⟨(h.gap.mem t ht).1, h.pos t ht, (h.gap.mem t ht).2.2⟩, h.gap.sortedIn.1⟩

/-! ### non-vacuity: a concrete class table and text (kernel-evaluated) -/

def asciiCls : Cls where
  lingual := isAsciiAlpha
  numeric := isAsciiDigit
  alnum := isAsciiAlnum

/-- `ExtOK` is satisfiable: no external tokens -/
example : ExtOK (fun _ => none) 5 := by intro _ _ _ h; cases h

example : (parsePlain asciiCls (fun _ => none) ['a', ' ', '1', 's', 't', '.']).toOption =
    some [⟨⟨0,1⟩,.word⟩, ⟨⟨1,2⟩,.space 1⟩, ⟨⟨2,3⟩,.number 10 none⟩, ⟨⟨3,5⟩,.word⟩,
         ⟨⟨5,6⟩,.punct .Period⟩] := by decide +kernel

/-! ### non-vacuity, continued: every hypothesis of every theorem above met together at a non-trivial value -/

/-- a table that is not empty satisfies `ExtOK`: a hostname of length 3 reported at position 2 of a text
of length 7 -/
example : ExtOK (fun pos => if pos = 2 then some (.hostname, 3) else none) 7 := by
  intro pos k n h
  dsimp only at h
  split at h
  · cases h; omega
  · cases h

/-- non-vacuity of `lexToken_progress`: its three hypotheses together, in the middle of a text (`pos = 2` of
`a 1st.`), the theorem applied -/
example : ∃ k n, lexToken asciiCls (fun _ => none) 2 ['1', 's', 't', '.'] = some (k, n) ∧ 1 ≤ n ∧ n ≤ 4 :=
  lexToken_progress asciiCls (fun _ => none) 2 ['1', 's', 't', '.'] 6
    (by intro _ _ _ h; cases h) (by decide +kernel) (by decide +kernel)

/-- … and what it finds there -/
example : lexToken asciiCls (fun _ => none) 2 ['1', 's', 't', '.'] = some (.number 10 none, 1) := by decide +kernel

/-- non-vacuity of `parsePlain_tiles` with a table that is not empty (`a a.b c`, hostname `a.b` at 2): the
theorem applied … -/
example : ∃ toks, parsePlain asciiCls (fun pos => if pos = 2 then some (.hostname, 3) else none)
      ['a', ' ', 'a', '.', 'b', ' ', 'c'] = .ok toks ∧ Tiles toks 0 7 ∧ toks.length ≤ 7 :=
  parsePlain_tiles asciiCls _ ['a', ' ', 'a', '.', 'b', ' ', 'c'] (by
    intro pos k n h
    dsimp only at h
    split at h
    · cases h; simp only [List.length_cons, List.length_nil]; omega
    · cases h)

/-- … and the tokens it speaks about -/
example : (parsePlain asciiCls (fun pos => if pos = 2 then some (.hostname, 3) else none)
      ['a', ' ', 'a', '.', 'b', ' ', 'c']).toOption =
    some [⟨⟨0,1⟩,.word⟩, ⟨⟨1,2⟩,.space 1⟩, ⟨⟨2,5⟩,.hostname⟩, ⟨⟨5,6⟩,.space 1⟩, ⟨⟨6,7⟩,.word⟩] := by decide +kernel

/-- the hypothesis `ExtOK` of `parsePlain_tiles` is needed: a table entry that leaves the text becomes a
token that leaves the text -/
example : (parsePlain asciiCls (fun pos => if pos = 0 then some (.url, 9) else none) ['a', 'b']).toOption =
    some [⟨⟨0, 9⟩, .url⟩] := by decide +kernel

/-- non-vacuity of `tiles_inbounds_sorted`: three tokens tiling `[2, 7)`, the theorem applied -/
example : (∀ t ∈ [(⟨⟨2,3⟩,.word⟩ : Tok), ⟨⟨3,5⟩,.space 2⟩, ⟨⟨5,7⟩,.word⟩],
      2 ≤ t.span.start ∧ t.span.start < t.span.stop ∧ t.span.stop ≤ 7) ∧
    [(⟨⟨2,3⟩,.word⟩ : Tok), ⟨⟨3,5⟩,.space 2⟩, ⟨⟨5,7⟩,.word⟩].Pairwise (fun x y => x.span.stop ≤ y.span.start) :=
  (tiles_inbounds_sorted _ 2 7 (by decide +kernel)).2

end Harper.C02
