import Harper.Lemmas.Rules2
import Harper.Lemmas.Rules2Walk
import Harper.Lemmas.Rules2Pat
import Harper.Props.C12b
import Harper.Props.C03e
/-!
# C12 (hand-written rules, batch 2) — paragraph locality of thirteen more rules, as theorems

* Per token (SpelledNumbers, CapitalizePersonalPronouns, AvoidCurses, WordPressDotcom), per chunk (LinkingVerbs,
  WidelyAccepted, TheHowWhy) and per sentence (OxfordComma — its start cursor depends on the sentence's first two
  known words and first comma — and NoOxfordComma): `XLocalE` of the piece function (`<rule>_xlocal`: per token here, per
  chunk and per sentence in `Lemmas/Rules2.lean` and `Lemmas/Rules2Pat.lean`), hence `Appends` and
  `<rule>_paragraphs_separately` exactly as in `Props/C12b.lean`.
* **CommaFixes, MergeWords, AdjectiveOfA and InflectedVerbAfterTo loop over the WHOLE document** (`get_token(ci ± 2)`,
  `tokens().tuple_windows()`, `get_token(i + 1 … i + 4)`, `get_token(pi + 1, pi + 2)`): they are not `overPieces` of anything, and their
  windows do straddle sentence, chunk and paragraph boundaries. They are paragraph-local nevertheless, because
  every window that straddles the break contains the `ParagraphBreak` token, which is neither a word, a blank
  nor unlintable — the only things the windows ask for: `<rule>_winLocal : WinLocal …` (`blindAfter`,
  `blindBefore`) and `walkE_append`, both in `Lemmas/Rules2Walk.lean`, give `Appends`.
  The premise of C12 (`2 ≤ k` newlines, so that the separator IS a `ParagraphBreak`) is needed: with ONE
  newline between the two texts MergeWords merges `note⏎` + `book` (kernel-checked), and CommaFixes looks from
  one line into the next.
* `…_r2`: WidelyAccepted and TheHowWhy are also modelled as `Spec`s (`Props/C12d.lean`, same theorem names); the `_r2`
  theorems are about the rules as coded in `Model/Rules2.lean`.
-/
namespace Harper.C12
open Harper Harper.Chunks Harper.Rules Harper.Leaves Harper.Rules2
open Harper.C02 (asciiCls)

/-! ## locality of the per-token functions (the piece and window functions: `Lemmas/Rules2{,Pat,Walk}.lean`) -/

theorem spelledNumbers_xlocal (env : Env) : XLocalE (perTok (spelledNumbersTok env)) := perTok_xlocal (spelledNumbers_tokLocal env)
theorem capitalizePersonalPronouns_xlocal : XLocalE (perTok capitalizePronounTok) := perTok_xlocal capitalizePronoun_tokLocal
theorem avoidCurses_xlocal (env : Env) : XLocalE (perTok (avoidCursesTok env)) := perTok_xlocal (avoidCurses_tokLocal env)
theorem wordPressDotcom_xlocal (env : Env) : XLocalE (perTok (wordPressTok env)) := perTok_xlocal (wordPress_tokLocal env)

/-! ## two documents joined at a paragraph break -/

theorem spelledNumbers_appends (env : Env) : Appends (ruleSpelledNumbers env) := appends_perTok _ (spelledNumbers_tokLocal env)
theorem capitalizePersonalPronouns_appends (env : Env) : Appends (ruleCapitalizePersonalPronouns env) :=
  appends_perTok _ capitalizePronoun_tokLocal
theorem avoidCurses_appends (env : Env) : Appends (ruleAvoidCurses env) := appends_perTok _ (avoidCurses_tokLocal env)
theorem wordPressDotcom_appends (env : Env) : Appends (ruleWordPressDotcom env) := appends_perTok _ (wordPress_tokLocal env)
theorem linkingVerbs_appends (env : Env) : Appends (ruleLinkingVerbs env) := appends_chunks _ (Rules2.linkingVerbs_xlocal env)
theorem oxfordComma_appends (env : Env) : Appends (ruleOxfordComma env) := appends_sentences _ (oxford_xlocal env)
theorem noOxfordComma_appends (env : Env) : Appends (ruleNoOxfordComma env) := appends_sentences _ (noOxford_xlocal env)
theorem widelyAccepted_appends (env : Env) : Appends (ruleWidelyAccepted env) := appends_chunks _ (widely_xlocal env)
theorem theHowWhy_appends (env : Env) : Appends (ruleTheHowWhy env) := appends_chunks _ (Rules2.theHowWhy_xlocal env)

/-- **a rule that walks the whole document with a `WinLocal` window `Appends`** -/
theorem appends_walk (f : WinFn) (hf : WinLocal f) : Appends (fun src toks => walkE (f src) [] toks) :=
  fun P D A0 brk td hb hin hd => walkE_append f hf P D A0 brk hb td hin hd

theorem commaFixes_appends (env : Env) : Appends (ruleCommaFixes env) := appends_walk _ Rules2.commaFixes_winLocal
theorem mergeWords_appends (env : Env) : Appends (ruleMergeWords env) := appends_walk _ (Rules2.mergeWords_winLocal env)
theorem adjectiveOfA_appends (env : Env) : Appends (ruleAdjectiveOfA env) := appends_walk _ (Rules2.adjectiveOfA_winLocal env)

theorem inflectedVerbAfterTo_appends (env : Env) : Appends (ruleInflectedVerbAfterTo env) :=
  appends_walk _ (Rules2.inflectedVerbAfterTo_winLocal env)

/-! ## end to end: from the characters of `P` and `D` -/

/-- `ParagraphPair` for the ASCII class table and no url / e-mail / hostname lexer: three decidable conditions on the two
texts are left (the hypothesis of the thirteen theorems below does not mention the rule) -/
theorem paragraphPair_ascii_noExt_r2 (P0 D : List Char) (h1 : NoNlEnd P0) (h2 : D.head? ≠ some '\n')
    (h3 : NoQuoteChars (P0 ++ List.replicate 2 '\n')) : ParagraphPair asciiCls P0 D 2 noExt noExt noExt :=
  paragraphPair_noExt asciiCls asciiCls_clsOK P0 D 2 (Nat.le_refl 2) h1 h2 h3

/-- non-vacuity of the thirteen `<rule>_paragraphs_separately`: pairs of texts that are `ParagraphPair`s (the lints of each
rule on such pairs, in both paragraphs: after each theorem, on the tokens; from the characters, for `big of a` with
`big of an x` (one blank, where the second pair here has two): the end of this file) -/
example : ParagraphPair asciiCls ['i', ' ', 'a', 't', 'e', ' ', '9', '.'] ['i', ' ', 'a', 't', 'e', ' ', '9', '.'] 2 noExt noExt noExt ∧
    ParagraphPair asciiCls ['b', 'i', 'g', ' ', 'o', 'f', ' ', 'a'] ['b', 'i', 'g', ' ', ' ', 'o', 'f', ' ', 'a', 'n', ' ', 'x'] 2 noExt noExt noExt :=
  ⟨paragraphPair_ascii_noExt_r2 _ _ (by decide +kernel) (by decide +kernel) (by decide +kernel), paragraphPair_ascii_noExt_r2 _ _ (by decide +kernel) (by decide +kernel) (by decide +kernel)⟩

theorem spelledNumbers_paragraphs_separately (env : Env) (cls : Cls) (P0 D : List Char) (k : Nat)
    (extP extD extPD : Ext) (h : ParagraphPair cls P0 D k extP extD extPD) :
    docRule cls extPD (ruleSpelledNumbers env) ((P0 ++ List.replicate k '\n') ++ D) =
      joinE (P0 ++ List.replicate k '\n').length (docRule cls extP (ruleSpelledNumbers env) (P0 ++ List.replicate k '\n'))
        (docRule cls extD (ruleSpelledNumbers env) D) :=
  separately_of_appends _ (spelledNumbers_appends env) cls P0 D k extP extD extPD h
/-- `SpelledNumbers` fires in both paragraphs: tokens tiling `i ate 9.¶¶` (the last one the `ParagraphBreak`) and `i ate 9.`, the second list moved by 10 — the premises of `Appends` hold -/
example : (∀ t ∈ [⟨⟨0, 1⟩, .word⟩, ⟨⟨1, 2⟩, .space 1⟩, ⟨⟨2, 5⟩, .word⟩, ⟨⟨5, 6⟩, .space 1⟩, ⟨⟨6, 7⟩, .number 10 none⟩, ⟨⟨7, 8⟩, .punct .Period⟩, ⟨⟨8, 10⟩, .paragraphBreak⟩], tokOK t = true ∧ t.span.stop ≤ 10) ∧
    (∀ t ∈ [⟨⟨0, 1⟩, .word⟩, ⟨⟨1, 2⟩, .space 1⟩, ⟨⟨2, 5⟩, .word⟩, ⟨⟨5, 6⟩, .space 1⟩, ⟨⟨6, 7⟩, .number 10 none⟩, ⟨⟨7, 8⟩, .punct .Period⟩], tokOK t = true) ∧
    ruleSpelledNumbers ({ env0 with numVal := fun _ => .int 9 }) ((['i', ' ', 'a', 't', 'e', ' ', '9', '.'] ++ ['\n', '\n']) ++ ['i', ' ', 'a', 't', 'e', ' ', '9', '.'])
      ([⟨⟨0, 1⟩, .word⟩, ⟨⟨1, 2⟩, .space 1⟩, ⟨⟨2, 5⟩, .word⟩, ⟨⟨5, 6⟩, .space 1⟩, ⟨⟨6, 7⟩, .number 10 none⟩, ⟨⟨7, 8⟩, .punct .Period⟩, ⟨⟨8, 10⟩, .paragraphBreak⟩] ++ shiftDoc 10 7 [⟨⟨0, 1⟩, .word⟩, ⟨⟨1, 2⟩, .space 1⟩, ⟨⟨2, 5⟩, .word⟩, ⟨⟨5, 6⟩, .space 1⟩, ⟨⟨6, 7⟩, .number 10 none⟩, ⟨⟨7, 8⟩, .punct .Period⟩]) =
      .ok [⟨⟨6, 7⟩, [.replaceWith ['n', 'i', 'n', 'e']], 21, 0⟩, ⟨⟨16, 17⟩, [.replaceWith ['n', 'i', 'n', 'e']], 21, 0⟩] := by decide +kernel

theorem capitalizePersonalPronouns_paragraphs_separately (env : Env) (cls : Cls) (P0 D : List Char) (k : Nat)
    (extP extD extPD : Ext) (h : ParagraphPair cls P0 D k extP extD extPD) :
    docRule cls extPD (ruleCapitalizePersonalPronouns env) ((P0 ++ List.replicate k '\n') ++ D) =
      joinE (P0 ++ List.replicate k '\n').length (docRule cls extP (ruleCapitalizePersonalPronouns env) (P0 ++ List.replicate k '\n'))
        (docRule cls extD (ruleCapitalizePersonalPronouns env) D) :=
  separately_of_appends _ (capitalizePersonalPronouns_appends env) cls P0 D k extP extD extPD h
/-- `CapitalizePersonalPronouns` fires in both paragraphs: tokens tiling `i ate 9.¶¶` (the last one the `ParagraphBreak`) and `i ate 9.`, the second list moved by 10 — the premises of `Appends` hold -/
example : (∀ t ∈ [⟨⟨0, 1⟩, .word⟩, ⟨⟨1, 2⟩, .space 1⟩, ⟨⟨2, 5⟩, .word⟩, ⟨⟨5, 6⟩, .space 1⟩, ⟨⟨6, 7⟩, .number 10 none⟩, ⟨⟨7, 8⟩, .punct .Period⟩, ⟨⟨8, 10⟩, .paragraphBreak⟩], tokOK t = true ∧ t.span.stop ≤ 10) ∧
    (∀ t ∈ [⟨⟨0, 1⟩, .word⟩, ⟨⟨1, 2⟩, .space 1⟩, ⟨⟨2, 5⟩, .word⟩, ⟨⟨5, 6⟩, .space 1⟩, ⟨⟨6, 7⟩, .number 10 none⟩, ⟨⟨7, 8⟩, .punct .Period⟩], tokOK t = true) ∧
    ruleCapitalizePersonalPronouns (env0) ((['i', ' ', 'a', 't', 'e', ' ', '9', '.'] ++ ['\n', '\n']) ++ ['i', ' ', 'a', 't', 'e', ' ', '9', '.'])
      ([⟨⟨0, 1⟩, .word⟩, ⟨⟨1, 2⟩, .space 1⟩, ⟨⟨2, 5⟩, .word⟩, ⟨⟨5, 6⟩, .space 1⟩, ⟨⟨6, 7⟩, .number 10 none⟩, ⟨⟨7, 8⟩, .punct .Period⟩, ⟨⟨8, 10⟩, .paragraphBreak⟩] ++ shiftDoc 10 7 [⟨⟨0, 1⟩, .word⟩, ⟨⟨1, 2⟩, .space 1⟩, ⟨⟨2, 5⟩, .word⟩, ⟨⟨5, 6⟩, .space 1⟩, ⟨⟨6, 7⟩, .number 10 none⟩, ⟨⟨7, 8⟩, .punct .Period⟩]) =
      .ok [⟨⟨0, 1⟩, [.replaceWith ['I']], 22, 0⟩, ⟨⟨10, 11⟩, [.replaceWith ['I']], 22, 0⟩] := by decide +kernel

theorem avoidCurses_paragraphs_separately (env : Env) (cls : Cls) (P0 D : List Char) (k : Nat)
    (extP extD extPD : Ext) (h : ParagraphPair cls P0 D k extP extD extPD) :
    docRule cls extPD (ruleAvoidCurses env) ((P0 ++ List.replicate k '\n') ++ D) =
      joinE (P0 ++ List.replicate k '\n').length (docRule cls extP (ruleAvoidCurses env) (P0 ++ List.replicate k '\n'))
        (docRule cls extD (ruleAvoidCurses env) D) :=
  separately_of_appends _ (avoidCurses_appends env) cls P0 D k extP extD extPD h
/-- `AvoidCurses` fires in both paragraphs: tokens tiling `damn it.¶¶` (the last one the `ParagraphBreak`) and `damn it`, the second list moved by 10 — the premises of `Appends` hold -/
example : (∀ t ∈ [⟨⟨0, 4⟩, .word⟩, ⟨⟨4, 5⟩, .space 1⟩, ⟨⟨5, 7⟩, .word⟩, ⟨⟨7, 8⟩, .punct .Period⟩, ⟨⟨8, 10⟩, .paragraphBreak⟩], tokOK t = true ∧ t.span.stop ≤ 10) ∧
    (∀ t ∈ [⟨⟨0, 4⟩, .word⟩, ⟨⟨4, 5⟩, .space 1⟩, ⟨⟨5, 7⟩, .word⟩], tokOK t = true) ∧
    ruleAvoidCurses ({ env0 with wordFlags := fun w => if w == ['d', 'a', 'm', 'n'] then 262144 else 0 }) ((['d', 'a', 'm', 'n', ' ', 'i', 't', '.'] ++ ['\n', '\n']) ++ ['d', 'a', 'm', 'n', ' ', 'i', 't'])
      ([⟨⟨0, 4⟩, .word⟩, ⟨⟨4, 5⟩, .space 1⟩, ⟨⟨5, 7⟩, .word⟩, ⟨⟨7, 8⟩, .punct .Period⟩, ⟨⟨8, 10⟩, .paragraphBreak⟩] ++ shiftDoc 10 5 [⟨⟨0, 4⟩, .word⟩, ⟨⟨4, 5⟩, .space 1⟩, ⟨⟨5, 7⟩, .word⟩]) =
      .ok [⟨⟨0, 4⟩, [], 23, 0⟩, ⟨⟨10, 14⟩, [], 23, 0⟩] := by decide +kernel

theorem wordPressDotcom_paragraphs_separately (env : Env) (cls : Cls) (P0 D : List Char) (k : Nat)
    (extP extD extPD : Ext) (h : ParagraphPair cls P0 D k extP extD extPD) :
    docRule cls extPD (ruleWordPressDotcom env) ((P0 ++ List.replicate k '\n') ++ D) =
      joinE (P0 ++ List.replicate k '\n').length (docRule cls extP (ruleWordPressDotcom env) (P0 ++ List.replicate k '\n'))
        (docRule cls extD (ruleWordPressDotcom env) D) :=
  separately_of_appends _ (wordPressDotcom_appends env) cls P0 D k extP extD extPD h
/-- `WordPressDotcom` fires in both paragraphs: tokens tiling `wordpress.com.¶¶` (the last one the `ParagraphBreak`) and `wordpress.com`, the second list moved by 16 — the premises of `Appends` hold -/
example : (∀ t ∈ [⟨⟨0, 13⟩, .hostname⟩, ⟨⟨13, 14⟩, .punct .Period⟩, ⟨⟨14, 16⟩, .paragraphBreak⟩], tokOK t = true ∧ t.span.stop ≤ 16) ∧
    (∀ t ∈ [⟨⟨0, 13⟩, .hostname⟩], tokOK t = true) ∧
    ruleWordPressDotcom (env0) ((['w', 'o', 'r', 'd', 'p', 'r', 'e', 's', 's', '.', 'c', 'o', 'm', '.'] ++ ['\n', '\n']) ++ ['w', 'o', 'r', 'd', 'p', 'r', 'e', 's', 's', '.', 'c', 'o', 'm'])
      ([⟨⟨0, 13⟩, .hostname⟩, ⟨⟨13, 14⟩, .punct .Period⟩, ⟨⟨14, 16⟩, .paragraphBreak⟩] ++ shiftDoc 16 3 [⟨⟨0, 13⟩, .hostname⟩]) =
      .ok [⟨⟨0, 13⟩, [.replaceWith ['W', 'o', 'r', 'd', 'P', 'r', 'e', 's', 's', '.', 'c', 'o', 'm']], 24, 0⟩, ⟨⟨16, 29⟩, [.replaceWith ['W', 'o', 'r', 'd', 'P', 'r', 'e', 's', 's', '.', 'c', 'o', 'm']], 24, 0⟩] := by decide +kernel

theorem linkingVerbs_paragraphs_separately (env : Env) (cls : Cls) (P0 D : List Char) (k : Nat)
    (extP extD extPD : Ext) (h : ParagraphPair cls P0 D k extP extD extPD) :
    docRule cls extPD (ruleLinkingVerbs env) ((P0 ++ List.replicate k '\n') ++ D) =
      joinE (P0 ++ List.replicate k '\n').length (docRule cls extP (ruleLinkingVerbs env) (P0 ++ List.replicate k '\n'))
        (docRule cls extD (ruleLinkingVerbs env) D) :=
  separately_of_appends _ (linkingVerbs_appends env) cls P0 D k extP extD extPD h
/-- `LinkingVerbs` fires in both paragraphs: tokens tiling `quick is.¶¶` (the last one the `ParagraphBreak`) and `quick is`, the second list moved by 11 — the premises of `Appends` hold -/
example : (∀ t ∈ [⟨⟨0, 5⟩, .word⟩, ⟨⟨5, 6⟩, .space 1⟩, ⟨⟨6, 8⟩, .word⟩, ⟨⟨8, 9⟩, .punct .Period⟩, ⟨⟨9, 11⟩, .paragraphBreak⟩], tokOK t = true ∧ t.span.stop ≤ 11) ∧
    (∀ t ∈ [⟨⟨0, 5⟩, .word⟩, ⟨⟨5, 6⟩, .space 1⟩, ⟨⟨6, 8⟩, .word⟩], tokOK t = true) ∧
    ruleLinkingVerbs ({ env0 with wordFlags := fun w => if w == ['q', 'u', 'i', 'c', 'k'] then 32768 else if w == ['i', 's'] then 2048 else 0 }) ((['q', 'u', 'i', 'c', 'k', ' ', 'i', 's', '.'] ++ ['\n', '\n']) ++ ['q', 'u', 'i', 'c', 'k', ' ', 'i', 's'])
      ([⟨⟨0, 5⟩, .word⟩, ⟨⟨5, 6⟩, .space 1⟩, ⟨⟨6, 8⟩, .word⟩, ⟨⟨8, 9⟩, .punct .Period⟩, ⟨⟨9, 11⟩, .paragraphBreak⟩] ++ shiftDoc 11 5 [⟨⟨0, 5⟩, .word⟩, ⟨⟨5, 6⟩, .space 1⟩, ⟨⟨6, 8⟩, .word⟩]) =
      .ok [⟨⟨6, 8⟩, [], 25, 0⟩, ⟨⟨17, 19⟩, [], 25, 0⟩] := by decide +kernel

/-- **CommaFixes, although it indexes the whole document** -/
theorem commaFixes_paragraphs_separately (env : Env) (cls : Cls) (P0 D : List Char) (k : Nat)
    (extP extD extPD : Ext) (h : ParagraphPair cls P0 D k extP extD extPD) :
    docRule cls extPD (ruleCommaFixes env) ((P0 ++ List.replicate k '\n') ++ D) =
      joinE (P0 ++ List.replicate k '\n').length (docRule cls extP (ruleCommaFixes env) (P0 ++ List.replicate k '\n'))
        (docRule cls extD (ruleCommaFixes env) D) :=
  separately_of_appends _ (commaFixes_appends env) cls P0 D k extP extD extPD h
/-- `CommaFixes` fires in both paragraphs: tokens tiling `foo ,bar.¶¶` (the last one the `ParagraphBreak`) and `foo ,bar`, the second list moved by 11 — the premises of `Appends` hold -/
example : (∀ t ∈ [⟨⟨0, 3⟩, .word⟩, ⟨⟨3, 4⟩, .space 1⟩, ⟨⟨4, 5⟩, .punct .Comma⟩, ⟨⟨5, 8⟩, .word⟩, ⟨⟨8, 9⟩, .punct .Period⟩, ⟨⟨9, 11⟩, .paragraphBreak⟩], tokOK t = true ∧ t.span.stop ≤ 11) ∧
    (∀ t ∈ [⟨⟨0, 3⟩, .word⟩, ⟨⟨3, 4⟩, .space 1⟩, ⟨⟨4, 5⟩, .punct .Comma⟩, ⟨⟨5, 8⟩, .word⟩], tokOK t = true) ∧
    ruleCommaFixes (env0) ((['f', 'o', 'o', ' ', ',', 'b', 'a', 'r', '.'] ++ ['\n', '\n']) ++ ['f', 'o', 'o', ' ', ',', 'b', 'a', 'r'])
      ([⟨⟨0, 3⟩, .word⟩, ⟨⟨3, 4⟩, .space 1⟩, ⟨⟨4, 5⟩, .punct .Comma⟩, ⟨⟨5, 8⟩, .word⟩, ⟨⟨8, 9⟩, .punct .Period⟩, ⟨⟨9, 11⟩, .paragraphBreak⟩] ++ shiftDoc 11 6 [⟨⟨0, 3⟩, .word⟩, ⟨⟨3, 4⟩, .space 1⟩, ⟨⟨4, 5⟩, .punct .Comma⟩, ⟨⟨5, 8⟩, .word⟩]) =
      .ok [⟨⟨3, 5⟩, [.replaceWith [',', ' ']], 26, 5⟩, ⟨⟨14, 16⟩, [.replaceWith [',', ' ']], 26, 5⟩] := by decide +kernel

theorem mergeWords_paragraphs_separately (env : Env) (cls : Cls) (P0 D : List Char) (k : Nat)
    (extP extD extPD : Ext) (h : ParagraphPair cls P0 D k extP extD extPD) :
    docRule cls extPD (ruleMergeWords env) ((P0 ++ List.replicate k '\n') ++ D) =
      joinE (P0 ++ List.replicate k '\n').length (docRule cls extP (ruleMergeWords env) (P0 ++ List.replicate k '\n'))
        (docRule cls extD (ruleMergeWords env) D) :=
  separately_of_appends _ (mergeWords_appends env) cls P0 D k extP extD extPD h
/-- `MergeWords` fires in both paragraphs: tokens tiling `The refore.¶¶` (the last one the `ParagraphBreak`) and `The refore`, the second list moved by 13 — the premises of `Appends` hold -/
example : (∀ t ∈ [⟨⟨0, 3⟩, .word⟩, ⟨⟨3, 4⟩, .space 1⟩, ⟨⟨4, 10⟩, .word⟩, ⟨⟨10, 11⟩, .punct .Period⟩, ⟨⟨11, 13⟩, .paragraphBreak⟩], tokOK t = true ∧ t.span.stop ≤ 13) ∧
    (∀ t ∈ [⟨⟨0, 3⟩, .word⟩, ⟨⟨3, 4⟩, .space 1⟩, ⟨⟨4, 10⟩, .word⟩], tokOK t = true) ∧
    ruleMergeWords ({ env0 with wordFlags := fun w => if w == ['T', 'h', 'e', 'r', 'e', 'f', 'o', 'r', 'e'] then 524288 else 0 }) ((['T', 'h', 'e', ' ', 'r', 'e', 'f', 'o', 'r', 'e', '.'] ++ ['\n', '\n']) ++ ['T', 'h', 'e', ' ', 'r', 'e', 'f', 'o', 'r', 'e'])
      ([⟨⟨0, 3⟩, .word⟩, ⟨⟨3, 4⟩, .space 1⟩, ⟨⟨4, 10⟩, .word⟩, ⟨⟨10, 11⟩, .punct .Period⟩, ⟨⟨11, 13⟩, .paragraphBreak⟩] ++ shiftDoc 13 5 [⟨⟨0, 3⟩, .word⟩, ⟨⟨3, 4⟩, .space 1⟩, ⟨⟨4, 10⟩, .word⟩]) =
      .ok [⟨⟨0, 10⟩, [.replaceWith ['T', 'h', 'e', 'r', 'e', 'f', 'o', 'r', 'e']], 27, 0⟩, ⟨⟨13, 23⟩, [.replaceWith ['T', 'h', 'e', 'r', 'e', 'f', 'o', 'r', 'e']], 27, 0⟩] := by decide +kernel

theorem adjectiveOfA_paragraphs_separately (env : Env) (cls : Cls) (P0 D : List Char) (k : Nat)
    (extP extD extPD : Ext) (h : ParagraphPair cls P0 D k extP extD extPD) :
    docRule cls extPD (ruleAdjectiveOfA env) ((P0 ++ List.replicate k '\n') ++ D) =
      joinE (P0 ++ List.replicate k '\n').length (docRule cls extP (ruleAdjectiveOfA env) (P0 ++ List.replicate k '\n'))
        (docRule cls extD (ruleAdjectiveOfA env) D) :=
  separately_of_appends _ (adjectiveOfA_appends env) cls P0 D k extP extD extPD h
/-- `AdjectiveOfA` fires in both paragraphs: tokens tiling `big  of a x.¶¶` (the last one the `ParagraphBreak`) and `big  of a`, the second list moved by 14 — the premises of `Appends` hold -/
example : (∀ t ∈ [⟨⟨0, 3⟩, .word⟩, ⟨⟨3, 5⟩, .space 2⟩, ⟨⟨5, 7⟩, .word⟩, ⟨⟨7, 8⟩, .space 1⟩, ⟨⟨8, 9⟩, .word⟩, ⟨⟨9, 10⟩, .space 1⟩, ⟨⟨10, 12⟩, .word⟩, ⟨⟨12, 14⟩, .paragraphBreak⟩], tokOK t = true ∧ t.span.stop ≤ 14) ∧
    (∀ t ∈ [⟨⟨0, 3⟩, .word⟩, ⟨⟨3, 5⟩, .space 2⟩, ⟨⟨5, 7⟩, .word⟩, ⟨⟨7, 8⟩, .space 1⟩, ⟨⟨8, 9⟩, .word⟩], tokOK t = true) ∧
    ruleAdjectiveOfA ({ env0 with wordFlags := fun w => if w == ['b', 'i', 'g'] then 32776 else 0 }) ((['b', 'i', 'g', ' ', ' ', 'o', 'f', ' ', 'a', ' ', 'x', '.'] ++ ['\n', '\n']) ++ ['b', 'i', 'g', ' ', ' ', 'o', 'f', ' ', 'a'])
      ([⟨⟨0, 3⟩, .word⟩, ⟨⟨3, 5⟩, .space 2⟩, ⟨⟨5, 7⟩, .word⟩, ⟨⟨7, 8⟩, .space 1⟩, ⟨⟨8, 9⟩, .word⟩, ⟨⟨9, 10⟩, .space 1⟩, ⟨⟨10, 12⟩, .word⟩, ⟨⟨12, 14⟩, .paragraphBreak⟩] ++ shiftDoc 14 8 [⟨⟨0, 3⟩, .word⟩, ⟨⟨3, 5⟩, .space 2⟩, ⟨⟨5, 7⟩, .word⟩, ⟨⟨7, 8⟩, .space 1⟩, ⟨⟨8, 9⟩, .word⟩]) =
      .ok [⟨⟨0, 9⟩, [.replaceWith ['b', 'i', 'g', ' ', ' ', 'a'], .replaceWith ['b', 'i', 'g', ' ', 'a']], 31, 0⟩, ⟨⟨14, 23⟩, [.replaceWith ['b', 'i', 'g', ' ', ' ', 'a'], .replaceWith ['b', 'i', 'g', ' ', 'a']], 31, 0⟩] := by decide +kernel

theorem inflectedVerbAfterTo_paragraphs_separately (env : Env) (cls : Cls) (P0 D : List Char) (k : Nat)
    (extP extD extPD : Ext) (h : ParagraphPair cls P0 D k extP extD extPD) :
    docRule cls extPD (ruleInflectedVerbAfterTo env) ((P0 ++ List.replicate k '\n') ++ D) =
      joinE (P0 ++ List.replicate k '\n').length (docRule cls extP (ruleInflectedVerbAfterTo env) (P0 ++ List.replicate k '\n'))
        (docRule cls extD (ruleInflectedVerbAfterTo env) D) :=
  separately_of_appends _ (inflectedVerbAfterTo_appends env) cls P0 D k extP extD extPD h
/-- `InflectedVerbAfterTo` fires in both paragraphs: tokens tiling `to agreed.¶¶` (the last one the `ParagraphBreak`) and `to agreed`, the second list moved by 12 — the premises of `Appends` hold -/
example : (∀ t ∈ [⟨⟨0, 2⟩, .word⟩, ⟨⟨2, 3⟩, .space 1⟩, ⟨⟨3, 9⟩, .word⟩, ⟨⟨9, 10⟩, .punct .Period⟩, ⟨⟨10, 12⟩, .paragraphBreak⟩], tokOK t = true ∧ t.span.stop ≤ 12) ∧
    (∀ t ∈ [⟨⟨0, 2⟩, .word⟩, ⟨⟨2, 3⟩, .space 1⟩, ⟨⟨3, 9⟩, .word⟩], tokOK t = true) ∧
    ruleInflectedVerbAfterTo ({ env0 with wordFlags := fun w => if w == ['t', 'o'] then 32769 else if w == ['a', 'g', 'r', 'e', 'e'] then 32896 else if w == ['a', 'g', 'r', 'e'] then 32896 else 0 }) ((['t', 'o', ' ', 'a', 'g', 'r', 'e', 'e', 'd', '.'] ++ ['\n', '\n']) ++ ['t', 'o', ' ', 'a', 'g', 'r', 'e', 'e', 'd'])
      ([⟨⟨0, 2⟩, .word⟩, ⟨⟨2, 3⟩, .space 1⟩, ⟨⟨3, 9⟩, .word⟩, ⟨⟨9, 10⟩, .punct .Period⟩, ⟨⟨10, 12⟩, .paragraphBreak⟩] ++ shiftDoc 12 5 [⟨⟨0, 2⟩, .word⟩, ⟨⟨2, 3⟩, .space 1⟩, ⟨⟨3, 9⟩, .word⟩]) =
      .ok [⟨⟨0, 9⟩, [.replaceWith ['t', 'o', ' ', 'a', 'g', 'r', 'e']], 34, 0⟩, ⟨⟨0, 9⟩, [.replaceWith ['t', 'o', ' ', 'a', 'g', 'r', 'e', 'e']], 34, 0⟩, ⟨⟨12, 21⟩, [.replaceWith ['t', 'o', ' ', 'a', 'g', 'r', 'e']], 34, 0⟩, ⟨⟨12, 21⟩, [.replaceWith ['t', 'o', ' ', 'a', 'g', 'r', 'e', 'e']], 34, 0⟩] := by decide +kernel

theorem oxfordComma_paragraphs_separately (env : Env) (cls : Cls) (P0 D : List Char) (k : Nat)
    (extP extD extPD : Ext) (h : ParagraphPair cls P0 D k extP extD extPD) :
    docRule cls extPD (ruleOxfordComma env) ((P0 ++ List.replicate k '\n') ++ D) =
      joinE (P0 ++ List.replicate k '\n').length (docRule cls extP (ruleOxfordComma env) (P0 ++ List.replicate k '\n'))
        (docRule cls extD (ruleOxfordComma env) D) :=
  separately_of_appends _ (oxfordComma_appends env) cls P0 D k extP extD extPD h
/-- `OxfordComma` fires in both paragraphs: tokens tiling `so, cat and dog.¶¶` (the last one the `ParagraphBreak`) and `so, cat and dog`, the second list moved by 18 — the premises of `Appends` hold -/
example : (∀ t ∈ [⟨⟨0, 2⟩, .word⟩, ⟨⟨2, 3⟩, .punct .Comma⟩, ⟨⟨3, 4⟩, .space 1⟩, ⟨⟨4, 7⟩, .word⟩, ⟨⟨7, 8⟩, .space 1⟩, ⟨⟨8, 11⟩, .word⟩, ⟨⟨11, 12⟩, .space 1⟩, ⟨⟨12, 15⟩, .word⟩, ⟨⟨15, 16⟩, .punct .Period⟩, ⟨⟨16, 18⟩, .paragraphBreak⟩], tokOK t = true ∧ t.span.stop ≤ 18) ∧
    (∀ t ∈ [⟨⟨0, 2⟩, .word⟩, ⟨⟨2, 3⟩, .punct .Comma⟩, ⟨⟨3, 4⟩, .space 1⟩, ⟨⟨4, 7⟩, .word⟩, ⟨⟨7, 8⟩, .space 1⟩, ⟨⟨8, 11⟩, .word⟩, ⟨⟨11, 12⟩, .space 1⟩, ⟨⟨12, 15⟩, .word⟩], tokOK t = true) ∧
    ruleOxfordComma ({ env0 with wordFlags := fun w => if w == ['s', 'o'] then 32834 else if w == ['c', 'a', 't'] then 32832 else if w == ['d', 'o', 'g'] then 32832 else if w == ['a', 'n', 'd'] then 32770 else 0 }) ((['s', 'o', ',', ' ', 'c', 'a', 't', ' ', 'a', 'n', 'd', ' ', 'd', 'o', 'g', '.'] ++ ['\n', '\n']) ++ ['s', 'o', ',', ' ', 'c', 'a', 't', ' ', 'a', 'n', 'd', ' ', 'd', 'o', 'g'])
      ([⟨⟨0, 2⟩, .word⟩, ⟨⟨2, 3⟩, .punct .Comma⟩, ⟨⟨3, 4⟩, .space 1⟩, ⟨⟨4, 7⟩, .word⟩, ⟨⟨7, 8⟩, .space 1⟩, ⟨⟨8, 11⟩, .word⟩, ⟨⟨11, 12⟩, .space 1⟩, ⟨⟨12, 15⟩, .word⟩, ⟨⟨15, 16⟩, .punct .Period⟩, ⟨⟨16, 18⟩, .paragraphBreak⟩] ++ shiftDoc 18 10 [⟨⟨0, 2⟩, .word⟩, ⟨⟨2, 3⟩, .punct .Comma⟩, ⟨⟨3, 4⟩, .space 1⟩, ⟨⟨4, 7⟩, .word⟩, ⟨⟨7, 8⟩, .space 1⟩, ⟨⟨8, 11⟩, .word⟩, ⟨⟨11, 12⟩, .space 1⟩, ⟨⟨12, 15⟩, .word⟩]) =
      .ok [⟨⟨4, 7⟩, [.insertAfter [',']], 29, 0⟩, ⟨⟨22, 25⟩, [.insertAfter [',']], 29, 0⟩] := by decide +kernel

theorem noOxfordComma_paragraphs_separately (env : Env) (cls : Cls) (P0 D : List Char) (k : Nat)
    (extP extD extPD : Ext) (h : ParagraphPair cls P0 D k extP extD extPD) :
    docRule cls extPD (ruleNoOxfordComma env) ((P0 ++ List.replicate k '\n') ++ D) =
      joinE (P0 ++ List.replicate k '\n').length (docRule cls extP (ruleNoOxfordComma env) (P0 ++ List.replicate k '\n'))
        (docRule cls extD (ruleNoOxfordComma env) D) :=
  separately_of_appends _ (noOxfordComma_appends env) cls P0 D k extP extD extPD h
/-- `NoOxfordComma` fires in both paragraphs: tokens tiling `cat, dog, and x.¶¶` (the last one the `ParagraphBreak`) and `cat, dog, and x`, the second list moved by 18 — the premises of `Appends` hold -/
example : (∀ t ∈ [⟨⟨0, 3⟩, .word⟩, ⟨⟨3, 4⟩, .punct .Comma⟩, ⟨⟨4, 5⟩, .space 1⟩, ⟨⟨5, 8⟩, .word⟩, ⟨⟨8, 9⟩, .punct .Comma⟩, ⟨⟨9, 10⟩, .space 1⟩, ⟨⟨10, 13⟩, .word⟩, ⟨⟨13, 14⟩, .space 1⟩, ⟨⟨14, 16⟩, .word⟩, ⟨⟨16, 18⟩, .paragraphBreak⟩], tokOK t = true ∧ t.span.stop ≤ 18) ∧
    (∀ t ∈ [⟨⟨0, 3⟩, .word⟩, ⟨⟨3, 4⟩, .punct .Comma⟩, ⟨⟨4, 5⟩, .space 1⟩, ⟨⟨5, 8⟩, .word⟩, ⟨⟨8, 9⟩, .punct .Comma⟩, ⟨⟨9, 10⟩, .space 1⟩, ⟨⟨10, 13⟩, .word⟩, ⟨⟨13, 14⟩, .space 1⟩, ⟨⟨14, 15⟩, .word⟩], tokOK t = true) ∧
    ruleNoOxfordComma ({ env0 with wordFlags := fun w => if w == ['c', 'a', 't'] then 32832 else if w == ['d', 'o', 'g'] then 32832 else 0 }) ((['c', 'a', 't', ',', ' ', 'd', 'o', 'g', ',', ' ', 'a', 'n', 'd', ' ', 'x', '.'] ++ ['\n', '\n']) ++ ['c', 'a', 't', ',', ' ', 'd', 'o', 'g', ',', ' ', 'a', 'n', 'd', ' ', 'x'])
      ([⟨⟨0, 3⟩, .word⟩, ⟨⟨3, 4⟩, .punct .Comma⟩, ⟨⟨4, 5⟩, .space 1⟩, ⟨⟨5, 8⟩, .word⟩, ⟨⟨8, 9⟩, .punct .Comma⟩, ⟨⟨9, 10⟩, .space 1⟩, ⟨⟨10, 13⟩, .word⟩, ⟨⟨13, 14⟩, .space 1⟩, ⟨⟨14, 16⟩, .word⟩, ⟨⟨16, 18⟩, .paragraphBreak⟩] ++ shiftDoc 18 10 [⟨⟨0, 3⟩, .word⟩, ⟨⟨3, 4⟩, .punct .Comma⟩, ⟨⟨4, 5⟩, .space 1⟩, ⟨⟨5, 8⟩, .word⟩, ⟨⟨8, 9⟩, .punct .Comma⟩, ⟨⟨9, 10⟩, .space 1⟩, ⟨⟨10, 13⟩, .word⟩, ⟨⟨13, 14⟩, .space 1⟩, ⟨⟨14, 15⟩, .word⟩]) =
      .ok [⟨⟨8, 9⟩, [.remove], 30, 0⟩, ⟨⟨26, 27⟩, [.remove], 30, 0⟩] := by decide +kernel

theorem widelyAccepted_paragraphs_separately_r2 (env : Env) (cls : Cls) (P0 D : List Char) (k : Nat)
    (extP extD extPD : Ext) (h : ParagraphPair cls P0 D k extP extD extPD) :
    docRule cls extPD (ruleWidelyAccepted env) ((P0 ++ List.replicate k '\n') ++ D) =
      joinE (P0 ++ List.replicate k '\n').length (docRule cls extP (ruleWidelyAccepted env) (P0 ++ List.replicate k '\n'))
        (docRule cls extD (ruleWidelyAccepted env) D) :=
  separately_of_appends _ (widelyAccepted_appends env) cls P0 D k extP extD extPD h
/-- `WidelyAccepted` fires in both paragraphs: tokens tiling `Wide used.¶¶` (the last one the `ParagraphBreak`) and `Wide used`, the second list moved by 12 — the premises of `Appends` hold -/
example : (∀ t ∈ [⟨⟨0, 4⟩, .word⟩, ⟨⟨4, 5⟩, .space 1⟩, ⟨⟨5, 9⟩, .word⟩, ⟨⟨9, 10⟩, .punct .Period⟩, ⟨⟨10, 12⟩, .paragraphBreak⟩], tokOK t = true ∧ t.span.stop ≤ 12) ∧
    (∀ t ∈ [⟨⟨0, 4⟩, .word⟩, ⟨⟨4, 5⟩, .space 1⟩, ⟨⟨5, 9⟩, .word⟩], tokOK t = true) ∧
    ruleWidelyAccepted (env0) ((['W', 'i', 'd', 'e', ' ', 'u', 's', 'e', 'd', '.'] ++ ['\n', '\n']) ++ ['W', 'i', 'd', 'e', ' ', 'u', 's', 'e', 'd'])
      ([⟨⟨0, 4⟩, .word⟩, ⟨⟨4, 5⟩, .space 1⟩, ⟨⟨5, 9⟩, .word⟩, ⟨⟨9, 10⟩, .punct .Period⟩, ⟨⟨10, 12⟩, .paragraphBreak⟩] ++ shiftDoc 12 5 [⟨⟨0, 4⟩, .word⟩, ⟨⟨4, 5⟩, .space 1⟩, ⟨⟨5, 9⟩, .word⟩]) =
      .ok [⟨⟨0, 4⟩, [.replaceWith ['W', 'i', 'd', 'e', 'l', 'y']], 32, 0⟩, ⟨⟨12, 16⟩, [.replaceWith ['W', 'i', 'd', 'e', 'l', 'y']], 32, 0⟩] := by decide +kernel

theorem theHowWhy_paragraphs_separately_r2 (env : Env) (cls : Cls) (P0 D : List Char) (k : Nat)
    (extP extD extPD : Ext) (h : ParagraphPair cls P0 D k extP extD extPD) :
    docRule cls extPD (ruleTheHowWhy env) ((P0 ++ List.replicate k '\n') ++ D) =
      joinE (P0 ++ List.replicate k '\n').length (docRule cls extP (ruleTheHowWhy env) (P0 ++ List.replicate k '\n'))
        (docRule cls extD (ruleTheHowWhy env) D) :=
  separately_of_appends _ (theHowWhy_appends env) cls P0 D k extP extD extPD h
/-- `TheHowWhy` fires in both paragraphs: tokens tiling `the  how it.¶¶` (the last one the `ParagraphBreak`) and `the  how it`, the second list moved by 14 — the premises of `Appends` hold -/
example : (∀ t ∈ [⟨⟨0, 3⟩, .word⟩, ⟨⟨3, 5⟩, .space 2⟩, ⟨⟨5, 8⟩, .word⟩, ⟨⟨8, 9⟩, .space 1⟩, ⟨⟨9, 11⟩, .word⟩, ⟨⟨11, 12⟩, .punct .Period⟩, ⟨⟨12, 14⟩, .paragraphBreak⟩], tokOK t = true ∧ t.span.stop ≤ 14) ∧
    (∀ t ∈ [⟨⟨0, 3⟩, .word⟩, ⟨⟨3, 5⟩, .space 2⟩, ⟨⟨5, 8⟩, .word⟩, ⟨⟨8, 9⟩, .space 1⟩, ⟨⟨9, 11⟩, .word⟩], tokOK t = true) ∧
    ruleTheHowWhy (env0) ((['t', 'h', 'e', ' ', ' ', 'h', 'o', 'w', ' ', 'i', 't', '.'] ++ ['\n', '\n']) ++ ['t', 'h', 'e', ' ', ' ', 'h', 'o', 'w', ' ', 'i', 't'])
      ([⟨⟨0, 3⟩, .word⟩, ⟨⟨3, 5⟩, .space 2⟩, ⟨⟨5, 8⟩, .word⟩, ⟨⟨8, 9⟩, .space 1⟩, ⟨⟨9, 11⟩, .word⟩, ⟨⟨11, 12⟩, .punct .Period⟩, ⟨⟨12, 14⟩, .paragraphBreak⟩] ++ shiftDoc 14 7 [⟨⟨0, 3⟩, .word⟩, ⟨⟨3, 5⟩, .space 2⟩, ⟨⟨5, 8⟩, .word⟩, ⟨⟨8, 9⟩, .space 1⟩, ⟨⟨9, 11⟩, .word⟩]) =
      .ok [⟨⟨0, 5⟩, [.remove], 33, 0⟩, ⟨⟨14, 19⟩, [.remove], 33, 0⟩] := by decide +kernel

/-! ## non-vacuity and counter-examples (kernel-evaluated) -/


/-- `ParagraphPair` is satisfiable: `a ,b.¶¶` + `c,d i` -/
example : ParagraphPair asciiCls ['a', ' ', ',', 'b', '.'] ['c', ',', 'd', ' ', 'i'] 2 noExt noExt noExt where
  cls_ok := asciiCls_clsOK
  two := by decide +kernel
  no_nl_end := by decide +kernel
  d_head := by decide +kernel
  no_quotes := by decide +kernel
  ext_local := ⟨fun _ _ => rfl, fun _ => rfl⟩
  ext_ok_p := by intro _ _ _ h; cases h
  ext_ok_d := by intro _ _ _ h; cases h
  ext_no_nl := by intro _ _ _ h; cases h

/-- … and the conclusion computed on it: CommaFixes reports in BOTH paragraphs (`a ,b` → `a, b` at 1..3; `c,d`:
a blank after the comma at 8..9 = 1..2 moved by 7), CapitalizePersonalPronouns in the second -/
example : docRule asciiCls noExt (ruleCommaFixes env0) (['a', ' ', ',', 'b', '.', '\n', '\n'] ++ ['c', ',', 'd', ' ', 'i']) =
      .ok [⟨⟨1, 3⟩, [.replaceWith [',', ' ']], 26, 5⟩, ⟨⟨8, 9⟩, [.insertAfter [' ']], 26, 4⟩] ∧
    docRule asciiCls noExt (ruleCommaFixes env0) ['c', ',', 'd', ' ', 'i'] = .ok [⟨⟨1, 2⟩, [.insertAfter [' ']], 26, 4⟩] ∧
    docRule asciiCls noExt (ruleCapitalizePersonalPronouns env0) (['a', ' ', ',', 'b', '.', '\n', '\n'] ++ ['c', ',', 'd', ' ', 'i']) =
      .ok [⟨⟨11, 12⟩, [.replaceWith ['I']], 22, 0⟩] := by decide +kernel

/-- the tokens of `note¶¶` and of `book`, and a dictionary that knows `notebook` only -/
def noteP : List Tok := [⟨⟨0, 4⟩, .word⟩, ⟨⟨4, 6⟩, .paragraphBreak⟩]
def bookD : List Tok := [⟨⟨0, 4⟩, .word⟩]
def envNotebook : Env :=
  { env0 with wordFlags := fun w => if w == ['n', 'o', 't', 'e', 'b', 'o', 'o', 'k'] then 2 ^ 19 else 0 }

example : (document asciiCls noExt ['n', 'o', 't', 'e', '\n', '\n']).toOption = some noteP ∧
    (document asciiCls noExt ['b', 'o', 'o', 'k']).toOption = some bookD := by decide +kernel

/-- the window `(note, ¶¶, book)` straddles the break and reports nothing: the break is not whitespace -/
example : ruleMergeWords envNotebook (['n', 'o', 't', 'e', '\n', '\n'] ++ ['b', 'o', 'o', 'k']) (noteP ++ shiftDoc 6 2 bookD) = .ok [] := by
  decide +kernel

/-- **the premise `2 ≤ k` is needed**: with ONE newline between the texts the separator is a `Newline` token,
which IS whitespace — MergeWords reports `note⏎book` in the whole, and nothing in either part -/
example : docRule asciiCls noExt (ruleMergeWords envNotebook) (['n', 'o', 't', 'e', '\n'] ++ ['b', 'o', 'o', 'k']) =
      .ok [⟨⟨0, 9⟩, [.replaceWith ['n', 'o', 't', 'e', 'b', 'o', 'o', 'k']], 27, 0⟩] ∧
    docRule asciiCls noExt (ruleMergeWords envNotebook) ['n', 'o', 't', 'e', '\n'] = .ok [] ∧
    docRule asciiCls noExt (ruleMergeWords envNotebook) ['b', 'o', 'o', 'k'] = .ok [] := by decide +kernel

/-- … and MergeWords is not a sentence-, chunk- or line-local rule: `Appends` fails for a separator that is a
`Newline` token (so the hypothesis `isParagraphBreak` of `WinLocal.blindAfter` cannot be dropped) -/
example : ¬ ∀ (P D : List Char) (A0 : List Tok) (brk : Tok) (td : List Tok), brk.kind.isWhitespace = true →
    (∀ t ∈ A0 ++ [brk], tokOK t = true ∧ t.span.stop ≤ P.length) → (∀ t ∈ td, tokOK t = true) →
    ruleMergeWords envNotebook (P ++ D) ((A0 ++ [brk]) ++ shiftDoc P.length (A0 ++ [brk]).length td) =
      joinE P.length (ruleMergeWords envNotebook P (A0 ++ [brk])) (ruleMergeWords envNotebook D td) := by
  intro h
  have := h ['n', 'o', 't', 'e', '\n'] ['b', 'o', 'o', 'k'] [⟨⟨0, 4⟩, .word⟩] ⟨⟨4, 5⟩, .newline 1⟩ bookD rfl (by decide +kernel) (by decide +kernel)
  revert this
  decide +kernel

/-- CommaFixes looks across chunk and sentence boundaries inside a paragraph (a comma IS a chunk terminator:
the word after it belongs to the next chunk): it is not `overPieces iterChunks` of a chunk-local rule -/
example : ¬ ∃ f : PieceRule, XLocalE f ∧ ∀ src toks, ruleCommaFixes env0 src toks = overPieces iterChunks f src toks := by
  rintro ⟨f, hf, heq⟩
  -- `a,` + `b`: joined at the comma (a chunk terminator) the rule reports; separately it does not
  have h := overPieces_append isChunkTerminator (fun j k => isChunkTerminator_shiftTwin j k) f hf ['a', ','] ['b']
    [⟨⟨0, 1⟩, .word⟩] ⟨⟨1, 2⟩, .punct .Comma⟩ rfl [⟨⟨0, 1⟩, .word⟩] (by decide +kernel) (by decide +kernel)
  have h' : overPieces iterChunks f (['a', ','] ++ ['b'])
        (([⟨⟨0, 1⟩, .word⟩] ++ [⟨⟨1, 2⟩, .punct .Comma⟩]) ++ shiftDoc 2 2 [⟨⟨0, 1⟩, .word⟩]) =
      joinE 2 (overPieces iterChunks f ['a', ','] ([⟨⟨0, 1⟩, .word⟩] ++ [⟨⟨1, 2⟩, .punct .Comma⟩]))
        (overPieces iterChunks f ['b'] [⟨⟨0, 1⟩, .word⟩]) := h
  rw [← heq, ← heq, ← heq] at h'
  revert h'
  decide +kernel

/-- `big of a¶¶` + `big  of an x`, `big` an adjective: AdjectiveOfA reports in both paragraphs -/
example : docRule asciiCls noExt (ruleAdjectiveOfA C03.envBig)
      (['b', 'i', 'g', ' ', 'o', 'f', ' ', 'a', '\n', '\n'] ++ ['b', 'i', 'g', ' ', 'o', 'f', ' ', 'a', 'n', ' ', 'x']) =
    .ok [⟨⟨0, 8⟩, [.replaceWith ['b', 'i', 'g', ' ', 'a']], 31, 0⟩, ⟨⟨10, 19⟩, [.replaceWith ['b', 'i', 'g', ' ', 'a', 'n']], 31, 0⟩] := by
  decide +kernel

end Harper.C12
