import Harper.Props.C02
import Harper.Lemmas.CondensePats
import Harper.Lemmas.Shape
import Harper.Lemmas.LexExt
import Harper.Model.DocFull
/-!
# C02 (continued) — `Document::parse`: every condensing pass preserves tiling

`Document::new(text, &PlainEnglish, _)` = `PlainEnglish::parse` followed by `condense_spaces`,
`condense_newlines`, `newlines_to_breaks`, `condense_contractions`, `condense_dotted_initialisms`,
`condense_number_suffixes`, `condense_ellipsis`, `condense_latin`, `match_quotes`
(`Model/Condense.lean`, compared token for token with the real `Document::new` on every run).
One theorem per pass: tokens that tile `[a, b)` still tile `[a, b)` afterwards — contiguous,
non-empty, in order, nothing lost or duplicated — and the passes that index into vectors never
panic. `document_tiles` composes them with `parsePlain_tiles`.

Further sections: kind-shape facts of a `Document` (`Space` counts, number suffixes, quote twins); the lexical shape
of `Word`, `Punctuation` and `Number` tokens; `Document::parse` on NON-tiling input (never panics / endpoints stay in
the text / `start ≤ stop` / order survives, with the witnesses for what does not hold).
-/
namespace Harper.C02
open Harper

/-- `condense_spaces` (adjacency checked) -/
theorem condenseSpaces_tiles (toks : List Tok) (a b : Nat) (h : Tiles toks a b) :
    Tiles (condenseSpaces toks) a b := ((condenseSpaces_rewrites toks).mono fun _ _ => RunW.merge2).keeps Tiles.merge2 a b h

/-- non-vacuity of `condenseSpaces_tiles`: `a␣⇥b` at offset 2, the theorem applied; what the pass returns -/
example : Tiles (condenseSpaces [⟨⟨2,3⟩,.word⟩, ⟨⟨3,4⟩,.space 1⟩, ⟨⟨4,5⟩,.space 2⟩, ⟨⟨5,6⟩,.word⟩]) 2 6 :=
  condenseSpaces_tiles _ 2 6 (by decide +kernel)
example : condenseSpaces [⟨⟨2,3⟩,.word⟩, ⟨⟨3,4⟩,.space 1⟩, ⟨⟨4,5⟩,.space 2⟩, ⟨⟨5,6⟩,.word⟩] =
    [⟨⟨2,3⟩,.word⟩, ⟨⟨3,5⟩,.space 3⟩, ⟨⟨5,6⟩,.word⟩] := by decide +kernel

/-- `condense_newlines` -/
theorem condenseNewlines_tiles (toks : List Tok) (a b : Nat) (h : Tiles toks a b) :
    Tiles (condenseNewlines toks) a b := ((condenseNewlines_rewrites toks).mono fun _ _ => RunW.merge2).keeps Tiles.merge2 a b h

/-- non-vacuity of `condenseNewlines_tiles` -/
example : Tiles (condenseNewlines [⟨⟨2,3⟩,.word⟩, ⟨⟨3,4⟩,.newline 1⟩, ⟨⟨4,6⟩,.newline 2⟩, ⟨⟨6,7⟩,.word⟩]) 2 7 :=
  condenseNewlines_tiles _ 2 7 (by decide +kernel)
example : condenseNewlines [⟨⟨2,3⟩,.word⟩, ⟨⟨3,4⟩,.newline 1⟩, ⟨⟨4,6⟩,.newline 2⟩, ⟨⟨6,7⟩,.word⟩] =
    [⟨⟨2,3⟩,.word⟩, ⟨⟨3,6⟩,.newline 3⟩, ⟨⟨6,7⟩,.word⟩] := by decide +kernel

/-- `newlines_to_breaks` -/
theorem newlinesToBreaks_tiles (toks : List Tok) (a b : Nat) (h : Tiles toks a b) :
    Tiles (newlinesToBreaks toks) a b := (newlinesToBreaks_rewrites toks).keeps Tiles.rekind a b h

/-- non-vacuity of `newlinesToBreaks_tiles` -/
example : Tiles (newlinesToBreaks [⟨⟨2,3⟩,.word⟩, ⟨⟨3,6⟩,.newline 3⟩, ⟨⟨6,7⟩,.newline 1⟩]) 2 7 :=
  newlinesToBreaks_tiles _ 2 7 (by decide +kernel)
example : newlinesToBreaks [⟨⟨2,3⟩,.word⟩, ⟨⟨3,6⟩,.newline 3⟩, ⟨⟨6,7⟩,.newline 1⟩] =
    [⟨⟨2,3⟩,.word⟩, ⟨⟨3,6⟩,.paragraphBreak⟩, ⟨⟨6,7⟩,.newline 1⟩] := by decide +kernel

/-- `condense_dotted_initialisms` (an initialism running up to the end of the text is closed: see the
non-vacuity example) -/
theorem dottedInitialisms_tiles (toks : List Tok) (a b : Nat) (h : Tiles toks a b) :
    Tiles (dottedInitialisms toks) a b := ((dottedInitialisms_rewrites toks).mono fun _ _ => InitW.merge2).keeps Tiles.merge2 a b h

/-- non-vacuity of `dottedInitialisms_tiles`: `a.b.` at offset 1 running up to the end of the vector -/
example : Tiles (dottedInitialisms [⟨⟨1,2⟩,.word⟩, ⟨⟨2,3⟩,.punct .Period⟩, ⟨⟨3,4⟩,.word⟩, ⟨⟨4,5⟩,.punct .Period⟩]) 1 5 :=
  dottedInitialisms_tiles _ 1 5 (by decide +kernel)
example : dottedInitialisms [⟨⟨1,2⟩,.word⟩, ⟨⟨2,3⟩,.punct .Period⟩, ⟨⟨3,4⟩,.word⟩, ⟨⟨4,5⟩,.punct .Period⟩] =
    [⟨⟨1,5⟩,.word⟩] := by decide +kernel

/-- `condense_number_suffixes` incl. `condense_indices`: never panics on tokens that tile a part
of the text, and preserves tiling -/
theorem numberSuffixes_tiles (src : List Char) (toks : List Tok) (a b : Nat) (h : Tiles toks a b)
    (hb : b ≤ src.length) : ∃ out, numberSuffixes src toks = .ok out ∧ Tiles out a b :=
  let ⟨out, e⟩ := numberSuffixes_ok src toks (h.gap.inBounds hb)
  ⟨out, e, ((numberSuffixes_rewrites e).mono fun _ _ => SufW.merge2).keeps Tiles.merge2 a b h⟩

/-- non-vacuity of `numberSuffixes_tiles`: both hypotheses on `x2nd!`, tokens `2` `nd` tiling `[1, 4)` -/
example : ∃ out, numberSuffixes ['x', '2', 'n', 'd', '!'] [⟨⟨1,2⟩,.number 10 none⟩, ⟨⟨2,4⟩,.word⟩] = .ok out ∧
    Tiles out 1 4 := numberSuffixes_tiles _ _ 1 4 (by decide +kernel) (by decide +kernel)
example : (numberSuffixes ['x', '2', 'n', 'd', '!'] [⟨⟨1,2⟩,.number 10 none⟩, ⟨⟨2,4⟩,.word⟩]).toOption =
    some [⟨⟨1,4⟩,.number 10 (some .nd)⟩] := by decide +kernel

/-- the hypothesis `b ≤ src.length` is needed: a token beyond the text makes `get_span_content` panic -/
example : (numberSuffixes ['1'] [⟨⟨0,1⟩,.number 10 none⟩, ⟨⟨1,3⟩,.word⟩]).toOption = none := by decide +kernel

/-- `condense_pattern`, generically: for a pattern that is total and bounded on the token vectors
in `P` and whose match ends are monotone (`PatOK`), `find_all_matches`' adjacent-pair filter leaves
disjoint increasing matches, the contiguity guard holds, and the loop + `remove_indices`
preserve tiling without panicking. -/
theorem condensePattern_tiles (m : Matcher) (edit : Kind → Kind) (src : List Char) (P : List Tok → Prop)
    (hp : PatOK m src P) (toks : List Tok) (a b : Nat) (hP : P toks) (h : Tiles toks a b) :
    ∃ out, condensePattern m edit src toks = .ok out ∧ Tiles out a b :=
  let ⟨out, e, r⟩ := condensePattern_rewrites edit hp (hd := fun _ => True) toks hP fun _ _ _ _ _ _ => trivial
  ⟨out, e, r.keeps Tiles.patW a b h⟩

/-- non-vacuity of `condensePattern_tiles`: `PatOK`, `P toks` and `Tiles` together (`etc.` under the Latin
pattern, `P` = every token non-empty and inside the text) -/
example : ∃ out, condensePattern latinPat id ['e', 't', 'c', '.'] [⟨⟨0,3⟩,.word⟩, ⟨⟨3,4⟩,.punct .Period⟩] = .ok out ∧
    Tiles out 0 4 :=
  condensePattern_tiles latinPat id _ _ (latin_patOK _) _ 0 4
    (by intro t ht; simp at ht; rcases ht with rfl | rfl <;> decide +kernel) (by decide +kernel)

/-- the hypotheses of `condensePattern_tiles` are satisfiable: the three concrete patterns -/
example (src : List Char) : PatOK contractionPat src (fun _ => True) := contraction_patOK src
example (src : List Char) : PatOK ellipsisPat src (fun _ => True) := ellipsis_patOK src
example (src : List Char) : PatOK latinPat src (InB src) := latin_patOK src

/-- `condense_contractions` (`word ' word`), unconditionally on tiling input -/
theorem condenseContractions_tiles (src : List Char) (toks : List Tok) (a b : Nat) (h : Tiles toks a b) :
    ∃ out, condenseContractions src toks = .ok out ∧ Tiles out a b :=
  condensePattern_tiles _ _ src _ (contraction_patOK src) toks a b trivial h

/-- non-vacuity of `condenseContractions_tiles`: `it's` -/
example : ∃ out, condenseContractions ['i', 't', '\'', 's']
      [⟨⟨0,2⟩,.word⟩, ⟨⟨2,3⟩,.punct .Apostrophe⟩, ⟨⟨3,4⟩,.word⟩] = .ok out ∧ Tiles out 0 4 :=
  condenseContractions_tiles _ _ 0 4 (by decide +kernel)
example : (condenseContractions ['i', 't', '\'', 's']
      [⟨⟨0,2⟩,.word⟩, ⟨⟨2,3⟩,.punct .Apostrophe⟩, ⟨⟨3,4⟩,.word⟩]).toOption = some [⟨⟨0,4⟩,.word⟩] := by decide +kernel

/-- `condense_ellipsis` (two or more periods, maximal munch) -/
theorem condenseEllipsis_tiles (src : List Char) (toks : List Tok) (a b : Nat) (h : Tiles toks a b) :
    ∃ out, condenseEllipsis src toks = .ok out ∧ Tiles out a b :=
  condensePattern_tiles _ _ src _ (ellipsis_patOK src) toks a b trivial h

/-- non-vacuity of `condenseEllipsis_tiles`: `a...` -/
example : ∃ out, condenseEllipsis ['a', '.', '.', '.']
      [⟨⟨0,1⟩,.word⟩, ⟨⟨1,2⟩,.punct .Period⟩, ⟨⟨2,3⟩,.punct .Period⟩, ⟨⟨3,4⟩,.punct .Period⟩] = .ok out ∧
    Tiles out 0 4 := condenseEllipsis_tiles _ _ 0 4 (by decide +kernel)
example : (condenseEllipsis ['a', '.', '.', '.']
      [⟨⟨0,1⟩,.word⟩, ⟨⟨1,2⟩,.punct .Period⟩, ⟨⟨2,3⟩,.punct .Period⟩, ⟨⟨3,4⟩,.punct .Period⟩]).toOption =
    some [⟨⟨0,1⟩,.word⟩, ⟨⟨1,4⟩,.punct .Ellipsis⟩] := by decide +kernel

/-- `condense_latin` (`etc.`, `vs.`, `et al.`): `get_content` never panics since the tokens lie
inside the text -/
theorem condenseLatin_tiles (src : List Char) (toks : List Tok) (a b : Nat) (h : Tiles toks a b)
    (hb : b ≤ src.length) : ∃ out, condenseLatin src toks = .ok out ∧ Tiles out a b :=
  condensePattern_tiles _ _ src _ (latin_patOK src) toks a b (h.inB hb) h

/-- non-vacuity of `condenseLatin_tiles`: `Vs.␣`, both hypotheses -/
example : ∃ out, condenseLatin ['V', 's', '.', ' '] [⟨⟨0,2⟩,.word⟩, ⟨⟨2,3⟩,.punct .Period⟩, ⟨⟨3,4⟩,.space 1⟩] = .ok out ∧
    Tiles out 0 4 := condenseLatin_tiles _ _ 0 4 (by decide +kernel) (by decide +kernel)
example : (condenseLatin ['V', 's', '.', ' '] [⟨⟨0,2⟩,.word⟩, ⟨⟨2,3⟩,.punct .Period⟩, ⟨⟨3,4⟩,.space 1⟩]).toOption =
    some [⟨⟨0,3⟩,.word⟩, ⟨⟨3,4⟩,.space 1⟩] := by decide +kernel

/-- `match_quotes` only writes `twin_loc` -/
theorem matchQuotes_tiles (toks : List Tok) (a b : Nat) (h : Tiles toks a b) :
    Tiles (matchQuotes toks) a b := (matchQuotes_rewrites toks).keeps Tiles.rekind a b h

/-- non-vacuity of `matchQuotes_tiles` -/
example : Tiles (matchQuotes [⟨⟨0,1⟩,.quote none⟩, ⟨⟨1,2⟩,.word⟩, ⟨⟨2,3⟩,.quote none⟩]) 0 3 :=
  matchQuotes_tiles _ 0 3 (by decide +kernel)

/-- `Document::new(text, &PlainEnglish, _)` never panics or hangs and its final tokens tile the
text, for every text, every Unicode class table and every in-bounds behaviour of the url / e-mail /
hostname lexers: nothing is lost or duplicated by any condensing step. -/
theorem document_tiles (cls : Cls) (ext : Ext) (src : List Char) (hext : ExtOK ext src.length) :
    ∃ toks, document cls ext src = .ok toks ∧ Tiles toks 0 src.length := by
  obtain ⟨t0, e0, h0, _⟩ := parsePlain_tiles cls ext src hext
  obtain ⟨out, e, r⟩ := condenseAll_rewrites h0.gap (Nat.le_refl _)
  exact ⟨out, by simp only [document, e0, e], r.keeps Tiles.docWrites 0 _ h0⟩

/-- non-vacuity of `document_tiles` with a table that is not empty (`a a.b␣␣"`, the hostname `a.b` reported at
position 2): the theorem applied, and the tokens it speaks about -/
example : ∃ toks, document asciiCls (fun pos => if pos = 2 then some (.hostname, 3) else none)
      ['a', ' ', 'a', '.', 'b', ' ', ' ', '"'] = .ok toks ∧ Tiles toks 0 8 :=
  document_tiles asciiCls _ ['a', ' ', 'a', '.', 'b', ' ', ' ', '"'] (by
    intro pos k n h
    dsimp only at h
    split at h
    · cases h; simp only [List.length_cons, List.length_nil]; omega
    · cases h)
example : (document asciiCls (fun pos => if pos = 2 then some (.hostname, 3) else none)
      ['a', ' ', 'a', '.', 'b', ' ', ' ', '"']).toOption =
    some [⟨⟨0,1⟩,.word⟩, ⟨⟨1,2⟩,.space 1⟩, ⟨⟨2,5⟩,.hostname⟩, ⟨⟨5,7⟩,.space 2⟩, ⟨⟨7,8⟩,.quote none⟩] := by decide +kernel

/-- the property's first sentence for plain English, on the final `Document` tokens: every token covers at
least one character, lies inside the text, and the tokens are in increasing, non-overlapping order (there
are no zero-width tokens at all) -/
theorem document_inbounds_sorted (cls : Cls) (ext : Ext) (src : List Char) (hext : ExtOK ext src.length) :
    ∃ toks, document cls ext src = .ok toks ∧
      (∀ t ∈ toks, t.span.start < t.span.stop ∧ t.span.stop ≤ src.length) ∧
      toks.Pairwise (fun x y => x.span.stop ≤ y.span.start) := by
  obtain ⟨toks, e, h⟩ := document_tiles cls ext src hext
  obtain ⟨_, h2, h3⟩ := tiles_inbounds_sorted toks 0 src.length h
  exact ⟨toks, e, fun t ht => ⟨(h2 t ht).2.1, (h2 t ht).2.2⟩, h3⟩

/-- the two pipelines the driver runs are one: op `docfull` (`documentFull`, nothing handed over) is op `doc`
(`document`) on the table the model's own url / e-mail / hostname lexers compute from the text -/
theorem documentFull_eq (cls : Cls) (src : List Char) :
    documentFull cls src = document cls (extOfSrc src) src := rfl

/-- … and `PlainEnglish::parse` inside it is `parsePlainFull` (op `lexfull`) -/
theorem documentFull_eq_condense (cls : Cls) (src : List Char) :
    documentFull cls src = (parsePlainFull cls src >>= condenseAll src) := by
  unfold documentFull document parsePlainFull
  generalize condenseAll src = f
  cases parsePlain cls (extOfSrc src) src <;> rfl

/-- `Document::new(text, &PlainEnglish, _)` with the url / e-mail / hostname lexers computed by the model
(`extOfSrc`, `Model/LexExt.lean`; `documentFull` is what op `docfull` runs against the real `Document::new`):
no hypothesis left but the text and the Unicode class table -/
theorem documentFull_tiles (cls : Cls) (src : List Char) :
    ∃ toks, documentFull cls src = .ok toks ∧ Tiles toks 0 src.length :=
  document_tiles cls (extOfSrc src) src (Harper.extOfSrc_ok src)

theorem documentFull_inbounds_sorted (cls : Cls) (src : List Char) :
    ∃ toks, documentFull cls src = .ok toks ∧
      (∀ t ∈ toks, t.span.start < t.span.stop ∧ t.span.stop ≤ src.length) ∧
      toks.Pairwise (fun x y => x.span.stop ≤ y.span.start) :=
  document_inbounds_sorted cls (extOfSrc src) src (Harper.extOfSrc_ok src)

/-- never a panic, never out of fuel: the table-free pipeline is total -/
theorem documentFull_total (cls : Cls) (src : List Char) : ∃ toks, documentFull cls src = .ok toks := by
  obtain ⟨toks, h, _⟩ := documentFull_tiles cls src
  exact ⟨toks, h⟩

/-- `x@y.z, it's "1st"` with the computed table: e-mail address, contraction, ordinal suffix, quote twins -/
example : (document asciiCls (extOfSrc ['x', '@', 'y', '.', 'z', ',', ' ', 'i', 't', '\'', 's', ' ', '"', '1', 's', 't', '"'])
      ['x', '@', 'y', '.', 'z', ',', ' ', 'i', 't', '\'', 's', ' ', '"', '1', 's', 't', '"']).toOption =
    some [⟨⟨0,5⟩,.email⟩, ⟨⟨5,6⟩,.punct .Comma⟩, ⟨⟨6,7⟩,.space 1⟩, ⟨⟨7,11⟩,.word⟩, ⟨⟨11,12⟩,.space 1⟩,
      ⟨⟨12,13⟩,.quote (some 7)⟩, ⟨⟨13,16⟩,.number 10 (some .st)⟩, ⟨⟨16,17⟩,.quote (some 5)⟩] := by decide +kernel

/-- the driven definition on a text with an e-mail address, a URL and a hostname inside (`it's x@y.z, http://a.b/c or
a.b 2nd`): what op `docfull` prints, kernel-evaluated — contraction and ordinal condensed around the three tokens the
model's own lexers found -/
example : (documentFull asciiCls ['i', 't', '\'', 's', ' ', 'x', '@', 'y', '.', 'z', ',', ' ', 'h', 't', 't', 'p', ':', '/', '/', 'a', '.', 'b', '/', 'c', ' ',
      'o', 'r', ' ', 'a', '.', 'b', ' ', '2', 'n', 'd']).toOption =
    some [⟨⟨0,4⟩,.word⟩, ⟨⟨4,5⟩,.space 1⟩, ⟨⟨5,10⟩,.email⟩, ⟨⟨10,11⟩,.punct .Comma⟩, ⟨⟨11,12⟩,.space 1⟩, ⟨⟨12,24⟩,.url⟩,
      ⟨⟨24,25⟩,.space 1⟩, ⟨⟨25,27⟩,.word⟩, ⟨⟨27,28⟩,.space 1⟩, ⟨⟨28,31⟩,.hostname⟩, ⟨⟨31,32⟩,.space 1⟩,
      ⟨⟨32,35⟩,.number 10 (some .nd)⟩] := by decide +kernel

/-- non-vacuity of `documentFull_tiles` / `documentFull_inbounds_sorted` on that text: the theorem applied (its
conclusion is about the 12 tokens above, which tile `[0, 35)`) -/
example : ∃ toks, documentFull asciiCls ['i', 't', '\'', 's', ' ', 'x', '@', 'y', '.', 'z', ',', ' ', 'h', 't', 't', 'p', ':', '/', '/', 'a', '.', 'b', '/', 'c', ' ',
      'o', 'r', ' ', 'a', '.', 'b', ' ', '2', 'n', 'd'] = .ok toks ∧ Tiles toks 0 35 :=
  documentFull_tiles asciiCls _
example : Tiles [⟨⟨0,4⟩,.word⟩, ⟨⟨4,5⟩,.space 1⟩, ⟨⟨5,10⟩,.email⟩, ⟨⟨10,11⟩,.punct .Comma⟩, ⟨⟨11,12⟩,.space 1⟩, ⟨⟨12,24⟩,.url⟩,
      ⟨⟨24,25⟩,.space 1⟩, ⟨⟨25,27⟩,.word⟩, ⟨⟨27,28⟩,.space 1⟩, ⟨⟨28,31⟩,.hostname⟩, ⟨⟨31,32⟩,.space 1⟩,
      ⟨⟨32,35⟩,.number 10 (some .nd)⟩] 0 35 := by decide +kernel

/-- a quirk of the real lexers kept inside the pipeline: `lex_login` looks for the first `@` in the whole rest of the
text, so an address LATER in the sentence cuts the URL down to `http://` and the host and path are lexed separately
(`see http://a.b/c, x@y.z`; the same text without the address keeps `http://a.b/c` whole, see above) -/
example : (documentFull asciiCls ['s', 'e', 'e', ' ', 'h', 't', 't', 'p', ':', '/', '/', 'a', '.', 'b', '/', 'c', ',', ' ', 'x', '@', 'y', '.', 'z']).toOption =
    some [⟨⟨0,3⟩,.word⟩, ⟨⟨3,4⟩,.space 1⟩, ⟨⟨4,11⟩,.url⟩, ⟨⟨11,14⟩,.hostname⟩, ⟨⟨14,15⟩,.punct .ForwardSlash⟩,
      ⟨⟨15,16⟩,.word⟩, ⟨⟨16,17⟩,.punct .Comma⟩, ⟨⟨17,18⟩,.space 1⟩, ⟨⟨18,23⟩,.email⟩] := by decide +kernel

/-- the computed table matters: with the empty table (op `doc` with nothing handed over) the same text has no
e-mail token — `docfull` and `doc | … |` differ exactly by what the three lexers find -/
example : (documentFull asciiCls ['x', '@', 'y', '.', 'z']).toOption = some [⟨⟨0,5⟩,.email⟩] ∧
    (document asciiCls (fun _ => none) ['x', '@', 'y', '.', 'z']).toOption =
      some [⟨⟨0,1⟩,.word⟩, ⟨⟨1,2⟩,.punct .At⟩, ⟨⟨2,4⟩,.word⟩, ⟨⟨4,5⟩,.word⟩] := by
  decide +kernel

/-! ### witnesses (kernel-evaluated): the quirks the model keeps -/

def chars (s : List Nat) : List Char := s.map Char.ofNat

/-- `" \t "`: three adjacent blank tokens become one -/
example : (document asciiCls (fun _ => none) [' ', '\t', ' ']).toOption =
    some [⟨⟨0, 3⟩, .space 4⟩] := by decide +kernel

/-- `a'b'c'd`: the overlap filter of `find_all_matches` compares neighbours in the ORIGINAL list, so
both later matches are dropped and only `a'b` is condensed -/
example : (document asciiCls (fun _ => none) ['a', '\'', 'b', '\'', 'c', '\'', 'd']).toOption =
    some [⟨⟨0, 3⟩, .word⟩, ⟨⟨3, 4⟩, .punct .Apostrophe⟩, ⟨⟨4, 5⟩, .word⟩, ⟨⟨5, 6⟩, .punct .Apostrophe⟩,
      ⟨⟨6, 7⟩, .word⟩] := by decide +kernel

/-- `et al.` becomes ONE `Word` token whose text contains a blank (recorded finding `c02-et-al`) -/
example : (document asciiCls (fun _ => none) ['e', 't', ' ', 'a', 'l', '.']).toOption =
    some [⟨⟨0, 6⟩, .word⟩] := by decide +kernel

/-- initialism at the end of the text, ordinal suffix, ellipsis, quote twins, paragraph break -/
example : (document asciiCls (fun _ => none)
      ['"', 'e', '.', 'g', '.', '"', ' ', '1', 's', 't', '.', '.', '.', '\n', '\n', 'a', '.', 'b', '.']).toOption =
    some [⟨⟨0, 1⟩, .quote (some 2)⟩, ⟨⟨1, 5⟩, .word⟩, ⟨⟨5, 6⟩, .quote (some 0)⟩, ⟨⟨6, 7⟩, .space 1⟩,
      ⟨⟨7, 10⟩, .number 10 (some .st)⟩, ⟨⟨10, 13⟩, .punct .Ellipsis⟩, ⟨⟨13, 15⟩, .paragraphBreak⟩,
      ⟨⟨15, 19⟩, .word⟩] := by decide +kernel

/-- for an arbitrary pattern the adjacent-pair filter does NOT give disjoint matches: with matches
`[0,3) [1,2) [2,4)` the second is dropped (overlaps the first) and the third is kept although it
overlaps the first — `remove_indices` then loses a token -/
example : removeIndices 0 (overlapNext 1 [⟨0, 3⟩, ⟨1, 2⟩, ⟨2, 4⟩]) [(⟨0, 3⟩ : Span), ⟨1, 2⟩, ⟨2, 4⟩] =
    [⟨0, 3⟩, ⟨2, 4⟩] := by decide +kernel

/-! ## kind-shape facts of a `Document` -/

/-- A `Space(n)` token of a document covers only blanks and tabs, and `n` = #blanks + 2·#tabs:
true of what `lex_spaces` / `lex_tabs` produce, kept by `condense_spaces` (it adds the counts of
adjacent tokens), and no later pass rewrites a `Space` token (the pattern passes rewrite the first
token of a match only, a `Word` or a `Period`). -/
theorem space_shape (cls : Cls) (ext : Ext) (src : List Char) (hext : ExtOK ext src.length) (out : List Tok)
    (h : document cls ext src = .ok out) (t : Tok) (ht : t ∈ out) (n : Nat) (hk : t.kind = .space n) :
    (∀ c ∈ (src.drop t.span.start).take (t.span.stop - t.span.start), c = ' ' ∨ c = '\t') ∧
      n = ((src.drop t.span.start).take (t.span.stop - t.span.start)).count ' ' +
        2 * ((src.drop t.span.start).take (t.span.stop - t.span.start)).count '\t' :=
  (document_shape cls ext src hext out h t ht).1 n hk

/-- the document of `2nd␣⇥"x"`, used as the witness below -/
theorem shapeWitness_doc : document asciiCls (fun _ => none) ['2', 'n', 'd', ' ', '\t', '"', 'x', '"'] =
    .ok [⟨⟨0,3⟩,.number 10 (some .nd)⟩, ⟨⟨3,5⟩,.space 3⟩, ⟨⟨5,6⟩,.quote (some 4)⟩, ⟨⟨6,7⟩,.word⟩, ⟨⟨7,8⟩,.quote (some 2)⟩] :=
  ok_of_toOption_eq_some _ _ (by decide +kernel)

/-- non-vacuity of `space_shape`: all hypotheses on the `Space(3)` token of `2nd␣⇥"x"`, the theorem applied -/
example : (∀ c ∈ [' ', '\t'], c = ' ' ∨ c = '\t') ∧ 3 = [' ', '\t'].count ' ' + 2 * [' ', '\t'].count '\t' :=
  space_shape asciiCls (fun _ => none) _ (by intro _ _ _ h; cases h) _ shapeWitness_doc
    ⟨⟨3,5⟩,.space 3⟩ (by decide +kernel) 3 rfl

/-- A `Number` token with suffix `s` ends in two characters that `NumberSuffix::from_chars` reads as
`s` (a row of the table regenerated from `number.rs`). -/
theorem number_suffix_shape (cls : Cls) (ext : Ext) (src : List Char) (hext : ExtOK ext src.length)
    (out : List Tok) (h : document cls ext src = .ok out) (t : Tok) (ht : t ∈ out) (r : Nat) (s : Suffix)
    (hk : t.kind = .number r (some s)) :
    ∃ pre c1 c2, (src.drop t.span.start).take (t.span.stop - t.span.start) = pre ++ [c1, c2] ∧
      fromCharsRow c1 c2 = some s :=
  (document_shape cls ext src hext out h t ht).2 r s hk

/-- non-vacuity of `number_suffix_shape`: the `Number` token `2nd` of the same document -/
example : ∃ pre c1 c2, ['2', 'n', 'd'] = pre ++ [c1, c2] ∧ fromCharsRow c1 c2 = some .nd :=
  number_suffix_shape asciiCls (fun _ => none) _ (by intro _ _ _ h; cases h) _ shapeWitness_doc
    ⟨⟨0,3⟩,.number 10 (some .nd)⟩ (by decide +kernel) 10 .nd rfl

/-- `match_quotes`: the twin of a quote token is a (different) quote token whose twin is the first;
stated for any token vector whose quote tokens carry no twin yet … -/
theorem matchQuotes_involutive (toks : List Tok) (hf : Fresh toks) (i j : Nat) (t : Tok)
    (h : (matchQuotes toks)[i]? = some t) (hk : t.kind = .quote (some j)) :
    ∃ u, (matchQuotes toks)[j]? = some u ∧ u.kind = .quote (some i) ∧ i ≠ j :=
  matchQuotes_twin toks hf i j t h hk

/-- non-vacuity of `matchQuotes_involutive`: `Fresh`, `h` and `hk` together (`i = 0`, `j = 2`), theorem applied -/
example : ∃ u, (matchQuotes [⟨⟨0,1⟩,.quote none⟩, ⟨⟨1,2⟩,.word⟩, ⟨⟨2,3⟩,.quote none⟩])[2]? = some u ∧
    u.kind = .quote (some 0) ∧ 0 ≠ 2 :=
  matchQuotes_involutive [⟨⟨0,1⟩,.quote none⟩, ⟨⟨1,2⟩,.word⟩, ⟨⟨2,3⟩,.quote none⟩]
    (by intro t ht x hx
        simp only [List.mem_cons, List.mem_nil_iff, or_false] at ht
        rcases ht with rfl | rfl | rfl <;> cases hx)
    0 2 ⟨⟨0,1⟩,.quote (some 2)⟩ (by decide +kernel) rfl

/-- `Fresh` is needed: a stale twin index is left alone when the quote has no partner -/
example : (matchQuotes [⟨⟨0,1⟩,.quote (some 7)⟩])[0]? = some ⟨⟨0,1⟩,.quote (some 7)⟩ := by decide +kernel

/-- … and for the tokens of a document -/
theorem document_twins_involutive (cls : Cls) (ext : Ext) (src : List Char) (out : List Tok)
    (h : document cls ext src = .ok out) (i j : Nat) (t : Tok) (hi : out[i]? = some t)
    (hk : t.kind = .quote (some j)) : ∃ u, out[j]? = some u ∧ u.kind = .quote (some i) ∧ i ≠ j := by
  obtain ⟨t8, hf, rfl⟩ := document_prequotes cls ext src out h
  exact matchQuotes_twin t8 hf i j t hi hk

/-- non-vacuity of `document_twins_involutive`: the quotation marks of `2nd␣⇥"x"` (tokens 2 and 4) -/
example : ∃ u, ([⟨⟨0,3⟩,.number 10 (some .nd)⟩, ⟨⟨3,5⟩,.space 3⟩, ⟨⟨5,6⟩,.quote (some 4)⟩, ⟨⟨6,7⟩,.word⟩,
      ⟨⟨7,8⟩,.quote (some 2)⟩] : List Tok)[4]? = some u ∧ u.kind = .quote (some 2) ∧ 2 ≠ 4 :=
  document_twins_involutive asciiCls (fun _ => none) _ _ shapeWitness_doc 2 4 _ rfl rfl

/-- of an odd number of quotation marks the last one has no twin -/
theorem matchQuotes_unpaired_last (toks : List Tok) (hf : Fresh toks) (q : Nat)
    (hodd : (quoteIdx 0 toks).length % 2 = 1) (hq : (quoteIdx 0 toks).getLast? = some q) :
    ∃ t, (matchQuotes toks)[q]? = some t ∧ t.kind = .quote none :=
  matchQuotes_unpaired toks hf q hodd hq

/-- non-vacuity of `matchQuotes_unpaired_last`: three quotation marks, the third (index 3) stays alone -/
example : ∃ t, (matchQuotes [⟨⟨0,1⟩,.quote none⟩, ⟨⟨1,2⟩,.quote none⟩, ⟨⟨2,3⟩,.word⟩, ⟨⟨3,4⟩,.quote none⟩])[3]? = some t ∧
    t.kind = .quote none :=
  matchQuotes_unpaired_last _
    (by intro t ht x hx
        simp only [List.mem_cons, List.mem_nil_iff, or_false] at ht
        rcases ht with rfl | rfl | rfl | rfl <;> cases hx)
    3 (by decide +kernel) (by decide +kernel)

/-- `match_quotes` leaves every other token as it is -/
theorem matchQuotes_only_quotes (toks : List Tok) (i : Nat) (t : Tok) (h : toks[i]? = some t)
    (hq : t.kind.isQuote = false) : (matchQuotes toks)[i]? = some t := matchQuotes_other toks i t h hq

/-- non-vacuity of `matchQuotes_only_quotes` -/
example : (matchQuotes [⟨⟨0,1⟩,.quote none⟩, ⟨⟨1,2⟩,.word⟩, ⟨⟨2,3⟩,.quote none⟩])[1]? = some ⟨⟨1,2⟩,.word⟩ :=
  matchQuotes_only_quotes _ 1 _ (by decide +kernel) rfl

/-- witnesses: `" \t  "` is one `Space(5)` token = 3 blanks + 2·1 tab; three quotation marks: the
first two are twins, the third has none -/
example : (document asciiCls (fun _ => none) [' ', '\t', ' ', ' ']).toOption = some [⟨⟨0, 4⟩, .space 5⟩] := by
  decide +kernel
example : (document asciiCls (fun _ => none) ['"', 'a', '"', '"']).toOption =
    some [⟨⟨0, 1⟩, .quote (some 2)⟩, ⟨⟨1, 2⟩, .word⟩, ⟨⟨2, 3⟩, .quote (some 0)⟩, ⟨⟨3, 4⟩, .quote none⟩] := by decide +kernel
example : Fresh [⟨⟨0, 1⟩, .quote none⟩, ⟨⟨1, 2⟩, .word⟩] := by
  intro t ht x hx
  simp only [List.mem_cons, List.mem_nil_iff, or_false] at ht
  rcases ht with rfl | rfl <;> cases hx

/-! ## the lexical shape of `Word`, `Punctuation` and `Number` tokens

What the property's second sentence says about words, punctuation marks and numbers, as far as it is true of
the code and expressible in the model (`Tok` carries the radix and the suffix of a number, not its value: that
the value is what the text denotes is checked by the oracle `number-value` on the real tokens only).
* lexer level (`PlainEnglish::parse`): `parsePlain_punct_shape`, `parsePlain_word_shape`,
  `parsePlain_number_shape`;
* `Document` level: `punct_shape` for every mark but the ellipsis (a condensed ellipsis covers two or more
  periods: witness below). A `Word` of a `Document` can contain apostrophes, periods (`e.g.`) and — `et al.` —
  white space (witness above); its shape after condensing is not a theorem here. -/
theorem parsePlain_tokens (cls : Cls) (ext : Ext) (src : List Char) (toks : List Tok)
    (h : parsePlain cls ext src = .ok toks) (t : Tok) (ht : t ∈ toks) :
    ∃ l, runLexer cls ext t.span.start (src.drop t.span.start) l = some (t.kind, t.span.stop - t.span.start) :=
  lexToken_from_lexer (parseLoop_tokens cls ext src _ 0 src toks rfl h t ht).1

/-- a `Punctuation(p)` token of `PlainEnglish::parse` is one character, and `p` is that character's mark -/
theorem parsePlain_punct_shape (cls : Cls) (ext : Ext) (src : List Char) (toks : List Tok)
    (h : parsePlain cls ext src = .ok toks) (t : Tok) (ht : t ∈ toks) (q : Punct) (hk : t.kind = .punct q) :
    t.span.stop = t.span.start + 1 ∧ ∃ c, src[t.span.start]? = some c ∧ punctOfChar c = some q := by
  have hs := parsePlain_spec h ht
  rw [hk] at hs
  obtain ⟨hn, c, r, hc, hp⟩ := hs
  refine ⟨by omega, c, ?_, hp⟩
  have := congrArg List.head? hc
  rw [List.head?_drop] at this
  simpa using this

/-- a `Word` token of `PlainEnglish::parse` contains only English-lingual characters, ASCII letters and
digits, and apostrophes … -/
theorem parsePlain_word_shape (cls : Cls) (ext : Ext) (src : List Char) (toks : List Tok)
    (h : parsePlain cls ext src = .ok toks) (t : Tok) (ht : t ∈ toks) (hk : t.kind = .word) :
    ∀ c ∈ (src.drop t.span.start).take (t.span.stop - t.span.start),
      cls.lingual c = true ∨ isAsciiAlnum c = true ∨ c = '\'' := by
  have hs := parsePlain_spec h ht
  rw [hk] at hs
  exact hs

/-- … hence no white space, whatever "white space" is, as long as no such character is English-lingual -/
theorem parsePlain_word_no_whitespace (cls : Cls) (ext : Ext) (src : List Char) (toks : List Tok)
    (ws : Char → Bool) (hws : ∀ c, ws c = true → cls.lingual c = false ∧ isAsciiAlnum c = false ∧ c ≠ '\'')
    (h : parsePlain cls ext src = .ok toks) (t : Tok) (ht : t ∈ toks) (hk : t.kind = .word) :
    ∀ c ∈ (src.drop t.span.start).take (t.span.stop - t.span.start), ws c = false := by
  intro c hc
  cases hw : ws c with
  | false => rfl
  | true =>
    obtain ⟨a1, a2, a3⟩ := hws c hw
    rcases parsePlain_word_shape cls ext src toks h t ht hk c hc with b | b | b
    · rw [a1] at b; cases b
    · rw [a2] at b; cases b
    · exact absurd b a3

/-- a `Number` token of `PlainEnglish::parse`: no suffix, and its text is a decimal literal of the f64 grammar
that does not end in a period, or a `0x` literal that fits `u64` -/
theorem parsePlain_number_shape (cls : Cls) (ext : Ext) (src : List Char) (toks : List Tok)
    (h : parsePlain cls ext src = .ok toks) (t : Tok) (ht : t ∈ toks) (r : Nat) (s : Option Suffix)
    (hk : t.kind = .number r s) :
    s = none ∧
    ((r = 10 ∧ parsesF64 ((src.drop t.span.start).take (t.span.stop - t.span.start)) = true ∧
        ((src.drop t.span.start).take (t.span.stop - t.span.start)).getLast? ≠ some '.') ∨
     (r = 16 ∧ ∃ k, t.span.stop - t.span.start = k + 2 ∧ 1 ≤ k ∧
        (src.drop t.span.start).take 2 = ['0', 'x'] ∧
        (∀ c ∈ ((src.drop t.span.start).drop 2).take k, isAsciiHex c = true) ∧
        hexValue (((src.drop t.span.start).drop 2).take k) < 2 ^ 64)) := by
  have hs := parsePlain_spec h ht
  rw [hk] at hs
  refine ⟨hs.1, hs.2.imp (fun ⟨hr, _, hns, _⟩ => ?_) id⟩
  simp only [Skipped, not_or, Bool.not_eq_false] at hns
  exact ⟨hr, hns.2, hns.1⟩

attribute [local irreducible] condenseSpaces condenseNewlines newlinesToBreaks dottedInitialisms matchQuotes in
/-- Tokens of a kind that no condensing pass produces reach the `Document` untouched from the lexer -/
theorem document_kept (p : Kind → Bool)
    (hw : ∀ k, k.isWord = true → p k = false) (hs : ∀ n, p (.space n) = false) (hn : ∀ n, p (.newline n) = false)
    (hb : p .paragraphBreak = false) (hnum : ∀ r s, p (.number r s) = false) (hq : ∀ tw, p (.quote tw) = false)
    (hell : p (.punct .Ellipsis) = false)
    (cls : Cls) (ext : Ext) (src : List Char) (hext : ExtOK ext src.length) (out : List Tok)
    (h : document cls ext src = .ok out) :
    ∃ t0, parsePlain cls ext src = .ok t0 ∧ ∀ t ∈ out, p t.kind = true → t ∈ t0 := by
  obtain ⟨t0, e0, hT0, _⟩ := parseLoop_tiles cls ext src.length hext (src.length + 1) 0 src (by omega) (by omega)
  have e0' : parsePlain cls ext src = .ok t0 := e0
  refine ⟨t0, e0', fun t ht hp => ?_⟩
  obtain ⟨out', e, r⟩ := condenseAll_rewrites hT0.gap (Nat.le_refl _)
  simp only [document, e0', e, Except.ok.injEq] at h
  subst h
  -- a token of `out'` is a token of `t0` or was written, hence of a kind `p` rejects
  rcases r.forall (Ψ := fun t => t ∈ t0 ∨ p t.kind = false)
    (fun _ _ hW _ => .inr (hW.rejects hw hs hn hb hnum hq hell)) (fun _ h => .inl h) t ht with h' | h'
  · exact h'
  · rw [hp] at h'; cases h'

/-- A `Punctuation(p)` token of a `Document`, `p` not the ellipsis, is ONE character and `p` is the mark the
regenerated table (`Punctuation::from_char`, currency signs included) gives for that character: such tokens
come from `lex_punctuation` and no condensing pass rewrites them (the pattern passes rewrite a `Word`, or a
`Period` into an `Ellipsis`; the initialism pass removes periods but never rewrites one). -/
theorem punct_shape (cls : Cls) (ext : Ext) (src : List Char) (hext : ExtOK ext src.length) (out : List Tok)
    (h : document cls ext src = .ok out) (t : Tok) (ht : t ∈ out) (q : Punct) (hk : t.kind = .punct q)
    (hq : q ≠ .Ellipsis) :
    t.span.stop = t.span.start + 1 ∧ ∃ c, src[t.span.start]? = some c ∧ punctOfChar c = some q := by
  obtain ⟨t0, e0, hkept⟩ := document_kept
    (fun k => match k with | .punct p => p != .Ellipsis | _ => false)
    (by intro k hw; cases k <;> simp_all [Kind.isWord]) (fun _ => rfl) (fun _ => rfl) rfl (fun _ _ => rfl)
    (fun _ => rfl) (by decide) cls ext src hext out h
  have hmem : t ∈ t0 := hkept t ht (by rw [hk]; simpa using hq)
  exact parsePlain_punct_shape cls ext src t0 e0 t hmem q hk

/-- non-vacuity of `punct_shape`: the final `!` of `ab,cd.!` (all hypotheses together, theorem applied) -/
example : (7 : Nat) = 6 + 1 ∧ ∃ c, ['a', 'b', ',', 'c', 'd', '.', '!'][6]? = some c ∧ punctOfChar c = some .Bang :=
  punct_shape asciiCls (fun _ => none) ['a', 'b', ',', 'c', 'd', '.', '!'] (by intro _ _ _ h; cases h)
    [⟨⟨0,2⟩,.word⟩, ⟨⟨2,3⟩,.punct .Comma⟩, ⟨⟨3,5⟩,.word⟩, ⟨⟨5,6⟩,.punct .Period⟩, ⟨⟨6,7⟩,.punct .Bang⟩]
    (ok_of_toOption_eq_some _ _ (by decide +kernel)) ⟨⟨6,7⟩,.punct .Bang⟩ (by decide +kernel) .Bang rfl (by decide +kernel)

/-- the ellipsis is excluded for a reason: a condensed `Ellipsis` token covers several characters -/
example : (document asciiCls (fun _ => none) ['a', 'b', '.', '.']).toOption =
    some [⟨⟨0,2⟩,.word⟩, ⟨⟨2,4⟩,.punct .Ellipsis⟩] := by decide +kernel

/-- (after a ONE-letter word the first period belongs to a dotted initialism instead: `a..` is `a.` `.`) -/
example : (document asciiCls (fun _ => none) ['a', '.', '.']).toOption =
    some [⟨⟨0,2⟩,.word⟩, ⟨⟨2,3⟩,.punct .Period⟩] := by decide +kernel

/-- non-vacuity of the three lexer-level theorems: `a's 0x1F, 1e3.` (`a's` is `lex_plural_digit`'s `Word`) -/
theorem lexWitness_parse : parsePlain asciiCls (fun _ => none)
      ['a', '\'', 's', ' ', '0', 'x', '1', 'F', ',', ' ', '1', 'e', '3', '.'] =
    .ok [⟨⟨0,3⟩,.word⟩, ⟨⟨3,4⟩,.space 1⟩, ⟨⟨4,8⟩,.number 16 none⟩, ⟨⟨8,9⟩,.punct .Comma⟩, ⟨⟨9,10⟩,.space 1⟩,
      ⟨⟨10,13⟩,.number 10 none⟩, ⟨⟨13,14⟩,.punct .Period⟩] :=
  ok_of_toOption_eq_some _ _ (by decide +kernel)

example : (9 : Nat) = 8 + 1 ∧ ∃ c, ['a', '\'', 's', ' ', '0', 'x', '1', 'F', ',', ' ', '1', 'e', '3', '.'][8]? = some c ∧
    punctOfChar c = some .Comma :=
  parsePlain_punct_shape _ _ _ _ lexWitness_parse ⟨⟨8,9⟩,.punct .Comma⟩ (by decide +kernel) .Comma rfl

example : ∀ c ∈ ['a', '\'', 's'], asciiCls.lingual c = true ∨ isAsciiAlnum c = true ∨ c = '\'' :=
  parsePlain_word_shape _ _ _ _ lexWitness_parse ⟨⟨0,3⟩,.word⟩ (by decide +kernel) rfl

/-- the hypothesis of `parsePlain_word_no_whitespace` holds for the ASCII class table and `Char.isWhitespace` -/
example : ∀ c ∈ ['a', '\'', 's'], Char.isWhitespace c = false :=
  parsePlain_word_no_whitespace asciiCls _ _ _ Char.isWhitespace
    (by intro c hc
        simp only [Char.isWhitespace, Bool.or_eq_true, decide_eq_true_eq] at hc
        rcases hc with ((rfl | rfl) | rfl) | rfl <;> decide +kernel)
    lexWitness_parse ⟨⟨0,3⟩,.word⟩ (by decide +kernel) rfl

example : parsesF64 ['1', 'e', '3'] = true :=
  ((parsePlain_number_shape _ _ _ _ lexWitness_parse ⟨⟨10,13⟩,.number 10 none⟩ (by decide +kernel) 10 none rfl).2.resolve_right
    (by rintro ⟨h, _⟩; cases h)).2.1

/-! ## `Document::parse` on NON-tiling input

The Markdown, masked (comment) and Typst front-ends do not hand `Document::parse` a tiling: their tokens lie inside
the text (`InBounds`: `start ≤ stop ≤ src.length`) but leave gaps, may be zero-width (the structural
`ParagraphBreak`s / `Newline`s) and, for Markdown, are not even in order (C02d: only the tokens that cover characters
are). What each condensing pass does with such input, without the hypothesis `Tiles`:

1. never panics? — `*_total`; `Document::parse` as a whole CAN panic on in-bounds input that is out of order
   (`condenseAll_panics_unordered`);
2. every endpoint of every output token stays inside the text, whatever the order — `*_endsInBounds`;
3. `start ≤ stop` survives — for `condense_spaces` (adjacency check), `condense_pattern` (`TokenStringExt::span` takes
   minimum and maximum), `newlines_to_breaks`, `match_quotes` on ANY in-bounds input (`*_inBounds`); NOT for
   `condense_newlines`, `condense_dotted_initialisms`, `condense_number_suffixes` (witnesses below); for every pass and
   for `Document::parse` when the input is in text order, gaps and zero-width tokens allowed (`Gap`, `*_gap`,
   `condenseAll_inbounds_sorted`).

`InBounds`, `EndsInBounds`, `Gap`, `SortedIn` are defined in `Lemmas/Condense.lean`; `InBounds src.length` is `InText src`
of `Lemmas/Leaves.lean` and the in-bounds conclusion of `mdParse_inbounds`; `Gap toks 0 n ↔ SortedIn n toks`
(`gap_iff_sortedIn`), the `Pairwise` of `SortedIn` being `Sorted` of `Lemmas/Typst.lean`. -/

/-- a ten-character text … -/
def gappySrc : List Char := ['I', '\'', 'm', ' ', ' ', '2', 'n', 'd', '.', '.']

/-- … and tokens over it that are in order and in bounds but do not tile it: nothing covers `[3, 4)`, and there is a
zero-width `ParagraphBreak` at 4 -/
def gappy : List Tok :=
  [⟨⟨0,1⟩,.word⟩, ⟨⟨1,2⟩,.punct .Apostrophe⟩, ⟨⟨2,3⟩,.word⟩, ⟨⟨4,4⟩,.paragraphBreak⟩, ⟨⟨4,5⟩,.space 1⟩,
   ⟨⟨5,6⟩,.number 10 none⟩, ⟨⟨6,8⟩,.word⟩, ⟨⟨8,9⟩,.punct .Period⟩, ⟨⟨9,10⟩,.punct .Period⟩]

example : Gap gappy 0 10 ∧ SortedIn 10 gappy ∧ InBounds gappySrc.length gappy ∧ ¬ Tiles gappy 0 10 :=
  ⟨by decide +kernel, gap_iff_sortedIn _ _ |>.mp (by decide +kernel), by decide +kernel, by decide +kernel⟩

/-- what `Document::parse` makes of it: the contraction, the number suffix and the ellipsis are condensed, the gap and
the zero-width token stay -/
example : (condenseAll gappySrc gappy).toOption =
    some [⟨⟨0,3⟩,.word⟩, ⟨⟨4,4⟩,.paragraphBreak⟩, ⟨⟨4,5⟩,.space 1⟩, ⟨⟨5,8⟩,.number 10 (some .nd)⟩,
      ⟨⟨8,10⟩,.punct .Ellipsis⟩] := by decide +kernel

/-! ### 1. never panics -/

/-- `condense_spaces`, `condense_newlines`, `newlines_to_breaks`, `condense_dotted_initialisms` and `match_quotes` are
plain functions in the model: every index they use is guarded by a length test in the Rust loops, so there is no panic
path to model, whatever the token vector. (One Rust expression is outside this statement: `a.span.len()` in
`condense_dotted_initialisms` is `end - start`, which underflows on a word token whose span is reversed; the model
uses truncated subtraction there. On `InBounds` input it cannot underflow.) -/
example : (List Tok → List Tok) × (List Tok → List Tok) × (List Tok → List Tok) × (List Tok → List Tok) ×
    (List Tok → List Tok) := (condenseSpaces, condenseNewlines, newlinesToBreaks, dottedInitialisms, matchQuotes)

/-- `condense_contractions` (`find_all_matches`, `condense_pattern`, `remove_indices`) never panics, on ANY token
vector and text: the pattern looks at token kinds only, its matches are in range, increasing and disjoint -/
theorem condenseContractions_total (src : List Char) (toks : List Tok) :
    ∃ out, condenseContractions src toks = .ok out :=
  let ⟨out, e, _⟩ := condenseContractions_rewrites src toks; ⟨out, e⟩

/-- `condense_ellipsis` never panics, on ANY token vector and text -/
theorem condenseEllipsis_total (src : List Char) (toks : List Tok) :
    ∃ out, condenseEllipsis src toks = .ok out :=
  let ⟨out, e, _⟩ := condenseEllipsis_rewrites src toks; ⟨out, e⟩

/-- neither hypothesis-free theorem is about well-formed input only: reversed, out-of-text, unordered tokens -/
example : (condenseContractions ['a'] [⟨⟨9,2⟩,.word⟩, ⟨⟨2,7⟩,.punct .Apostrophe⟩, ⟨⟨7,50⟩,.word⟩]).toOption =
    some [⟨⟨2,50⟩,.word⟩] := by decide +kernel
example : (condenseEllipsis ['a'] [⟨⟨9,2⟩,.punct .Period⟩, ⟨⟨2,7⟩,.punct .Period⟩, ⟨⟨0,50⟩,.word⟩]).toOption =
    some [⟨⟨2,9⟩,.punct .Ellipsis⟩, ⟨⟨0,50⟩,.word⟩] := by decide +kernel

/-- `condense_latin` never panics on in-bounds tokens, in any order, zero-width tokens included (`WordSet` and
`AnyCapitalization` read the text at the token's span) -/
theorem condenseLatin_total (src : List Char) (toks : List Tok) (hin : InBounds src.length toks) :
    ∃ out, condenseLatin src toks = .ok out :=
  let ⟨out, e, _⟩ := condenseLatin_rewrites src toks hin; ⟨out, e⟩

/-- non-vacuity of `condenseLatin_total`: `vs.` out of order, with a zero-width word token -/
example : ∃ out, condenseLatin ['.', 'v', 's'] [⟨⟨3,3⟩,.word⟩, ⟨⟨1,3⟩,.word⟩, ⟨⟨0,1⟩,.punct .Period⟩] = .ok out :=
  condenseLatin_total _ _ (by decide +kernel)

/-- in-bounds is needed: a word token whose span is reversed makes `Span::get_content` (called by `WordSet::matches`)
panic, and so does one that ends beyond the text -/
example : (condenseLatin ['a', 'b', 'c'] [⟨⟨2,1⟩,.word⟩]).toOption = none := by decide +kernel
example : (condenseLatin ['a', 'b', 'c'] [⟨⟨2,4⟩,.word⟩]).toOption = none := by decide +kernel

/-- `condense_number_suffixes` (with `condense_indices`) never panics on in-bounds tokens, in any order -/
theorem numberSuffixes_total (src : List Char) (toks : List Tok) (hin : InBounds src.length toks) :
    ∃ out, numberSuffixes src toks = .ok out := numberSuffixes_ok src toks hin

/-- non-vacuity of `numberSuffixes_total`: the suffix precedes the number in the text -/
example : ∃ out, numberSuffixes ['n', 'd', '2'] [⟨⟨2,3⟩,.number 10 none⟩, ⟨⟨0,2⟩,.word⟩, ⟨⟨3,3⟩,.word⟩] = .ok out :=
  numberSuffixes_total _ _ (by decide +kernel)

/-- FALSE for `Document::parse` as a whole: in-bounds but OUT-OF-ORDER tokens can make it panic. A one-letter word
followed in the vector by a period that precedes it in the text: `condense_dotted_initialisms` writes the period's end
into the word (`start_tok.span.end = end`), the word's span is reversed (`5..4`), and `condense_latin` →
`WordSet::matches` → `tok.span.get_content(source)` panics on it. -/
theorem condenseAll_panics_unordered :
    InBounds 10 [⟨⟨5,6⟩,.word⟩, ⟨⟨3,4⟩,.punct .Period⟩] ∧
    dottedInitialisms [⟨⟨5,6⟩,.word⟩, ⟨⟨3,4⟩,.punct .Period⟩] = [⟨⟨5,4⟩,.word⟩] ∧
    (condenseAll ['1', 'x', 'x', '.', 'x', 'a', 'x', 'x', 'x', 'x'] [⟨⟨5,6⟩,.word⟩, ⟨⟨3,4⟩,.punct .Period⟩]).toOption =
      none := by decide

/-- … and with a number in front it is `b.span.len()` in `condense_number_suffixes` that underflows -/
example : (numberSuffixes ['1', 'x', 'x', '.', 'x', 'a', 'x', 'x', 'x', 'x']
    (dottedInitialisms [⟨⟨0,1⟩,.number 10 none⟩, ⟨⟨5,6⟩,.word⟩, ⟨⟨3,4⟩,.punct .Period⟩])).toOption = none := by decide +kernel

/-! ### 2. every endpoint stays inside the text (any input: unordered, overlapping, reversed) -/

theorem condenseSpaces_endsInBounds (n : Nat) (toks : List Tok) (h : EndsInBounds n toks) :
    EndsInBounds n (condenseSpaces toks) :=
  (condenseSpaces_rewrites toks).forall (fun _ _ hW => hW.merge2.span (fun sp => sp.start ≤ n ∧ sp.stop ≤ n) fun _ _ hs hc _ => ⟨hs.1, hc.2⟩) h

theorem condenseNewlines_endsInBounds (n : Nat) (toks : List Tok) (h : EndsInBounds n toks) :
    EndsInBounds n (condenseNewlines toks) :=
  (condenseNewlines_rewrites toks).forall (fun _ _ hW => hW.merge2.span (fun sp => sp.start ≤ n ∧ sp.stop ≤ n) fun _ _ hs hc _ => ⟨hs.1, hc.2⟩) h

theorem newlinesToBreaks_endsInBounds (n : Nat) (toks : List Tok) (h : EndsInBounds n toks) :
    EndsInBounds n (newlinesToBreaks toks) :=
  (newlinesToBreaks_rewrites toks).forall (fun _ _ hW => hW.span (fun sp => sp.start ≤ n ∧ sp.stop ≤ n)) h

/-- `condense_pattern` (hence `condense_contractions`, `condense_ellipsis`, `condense_latin`), for every pattern: if it
returns, the endpoints of what it returns are inside the text -/
theorem condensePattern_endsInBounds (m : Matcher) (edit : Kind → Kind) (src : List Char) (n : Nat)
    (toks out : List Tok) (h : condensePattern m edit src toks = .ok out) (hin : EndsInBounds n toks) :
    EndsInBounds n out :=
  condensePattern_forall m edit (fun _ _ hW => hW.span (fun sp => sp.start ≤ n ∧ sp.stop ≤ n) (spanOf_endsInBounds n)) h hin

theorem dottedInitialisms_endsInBounds (n : Nat) (toks : List Tok) (h : EndsInBounds n toks) :
    EndsInBounds n (dottedInitialisms toks) :=
  (dottedInitialisms_rewrites toks).forall (fun _ _ hW => hW.merge2.span (fun sp => sp.start ≤ n ∧ sp.stop ≤ n) fun _ _ hs hc _ => ⟨hs.1, hc.2⟩) h

theorem numberSuffixes_endsInBounds (src : List Char) (n : Nat) (toks out : List Tok)
    (h : numberSuffixes src toks = .ok out) (hin : EndsInBounds n toks) : EndsInBounds n out :=
  (numberSuffixes_rewrites h).forall (fun _ _ hW => hW.merge2.span (fun sp => sp.start ≤ n ∧ sp.stop ≤ n) fun _ _ hs hc _ => ⟨hs.1, hc.2⟩) hin

theorem matchQuotes_endsInBounds (n : Nat) (toks : List Tok) (h : EndsInBounds n toks) :
    EndsInBounds n (matchQuotes toks) :=
  (matchQuotes_rewrites toks).forall (fun _ _ hW => hW.span (fun sp => sp.start ≤ n ∧ sp.stop ≤ n)) h

/-- all passes of `Document::parse`: whatever the token vector handed over — unordered, overlapping, even with
reversed spans — if both endpoints of every token are inside the text and `Document::parse` returns, both endpoints of
every token of the `Document` are inside the text -/
theorem condenseAll_endsInBounds (src : List Char) (n : Nat) (t0 out : List Tok)
    (h : condenseAll src t0 = .ok out) (hin : EndsInBounds n t0) : EndsInBounds n out :=
  condenseAll_forall (fun _ _ hW => hW.span (fun sp => sp.start ≤ n ∧ sp.stop ≤ n) (fun _ _ hs hc => ⟨hs.1, hc.2⟩) (spanOf_endsInBounds n)) h hin

/-- non-vacuity of the `_endsInBounds` theorems: unordered newlines with a reversed token; the
hypotheses hold, `Document::parse` returns, the conclusion is not trivial (there is a merged token, and it is reversed) -/
example : EndsInBounds 10 [⟨⟨5,6⟩,.newline 1⟩, ⟨⟨3,3⟩,.newline 2⟩, ⟨⟨9,8⟩,.space 1⟩] ∧
    (condenseAll gappySrc [⟨⟨5,6⟩,.newline 1⟩, ⟨⟨3,3⟩,.newline 2⟩, ⟨⟨9,8⟩,.space 1⟩]).toOption =
      some [⟨⟨5,3⟩,.paragraphBreak⟩, ⟨⟨9,8⟩,.space 1⟩] := by decide +kernel
example : ∀ out, condenseAll gappySrc [⟨⟨5,6⟩,.newline 1⟩, ⟨⟨3,3⟩,.newline 2⟩, ⟨⟨9,8⟩,.space 1⟩] = .ok out →
    EndsInBounds 10 out := fun out h => condenseAll_endsInBounds gappySrc 10 _ out h (by decide +kernel)

/-! ### 3. `start ≤ stop` -/

/-- `condense_spaces` keeps in-bounds tokens in bounds IN ANY ORDER: it merges only a child that starts where the run
ends ("Only condense adjacent spans"), so the merged span cannot be reversed -/
theorem condenseSpaces_inBounds (n : Nat) (toks : List Tok) (h : InBounds n toks) : InBounds n (condenseSpaces toks) :=
  (condenseSpaces_rewrites toks).forall (fun _ _ hW => hW.merge2.span (fun sp => sp.start ≤ sp.stop ∧ sp.stop ≤ n)
    fun s c hs hc hadj => by have := hadj rfl; exact ⟨by simp only; omega, hc.2⟩) h

/-- non-vacuity of `condenseSpaces_inBounds`: out-of-order spaces, two of them adjacent in the text, one zero-width -/
example : InBounds 10 [⟨⟨5,6⟩,.space 1⟩, ⟨⟨6,6⟩,.space 0⟩, ⟨⟨6,8⟩,.space 2⟩, ⟨⟨2,3⟩,.space 1⟩] ∧
    condenseSpaces [⟨⟨5,6⟩,.space 1⟩, ⟨⟨6,6⟩,.space 0⟩, ⟨⟨6,8⟩,.space 2⟩, ⟨⟨2,3⟩,.space 1⟩] =
      [⟨⟨5,8⟩,.space 3⟩, ⟨⟨2,3⟩,.space 1⟩] := by decide +kernel

/-- (a reversed span out of `condense_spaces` needs a reversed span going in) -/
example : condenseSpaces [⟨⟨5,6⟩,.space 1⟩, ⟨⟨6,2⟩,.space 1⟩] = [⟨⟨5,2⟩,.space 2⟩] := by decide +kernel

/-- FALSE for `Document::condense_newlines`, which has no adjacency check: two in-bounds newline tokens that are out of
order are merged into a REVERSED span (`5..3`). The input has the shape `mdParse_sorted_covering` (C02d) guarantees for
the Markdown front-end — in bounds, the tokens that cover characters in order, the zero-width token a `Newline` — so
that shape is not enough. -/
theorem condenseNewlines_reverses :
    InBounds 10 [⟨⟨5,6⟩,.newline 1⟩, ⟨⟨3,3⟩,.newline 2⟩] ∧
    ([⟨⟨5,6⟩,.newline 1⟩, ⟨⟨3,3⟩,.newline 2⟩].filter (fun t : Tok => decide (t.span.start < t.span.stop))).Pairwise
      (fun a b => a.span.stop ≤ b.span.start) ∧
    condenseNewlines [⟨⟨5,6⟩,.newline 1⟩, ⟨⟨3,3⟩,.newline 2⟩] = [⟨⟨5,3⟩, .newline 3⟩] ∧
    ¬ InBounds 10 (condenseNewlines [⟨⟨5,6⟩,.newline 1⟩, ⟨⟨3,3⟩,.newline 2⟩]) := by
  refine ⟨by decide, by decide, by decide, by decide⟩

/-- `newlines_to_breaks` and `match_quotes` do not touch spans -/
theorem newlinesToBreaks_inBounds (n : Nat) (toks : List Tok) (h : InBounds n toks) :
    InBounds n (newlinesToBreaks toks) :=
  (newlinesToBreaks_rewrites toks).forall (fun _ _ hW => hW.span (fun sp => sp.start ≤ sp.stop ∧ sp.stop ≤ n)) h

theorem matchQuotes_inBounds (n : Nat) (toks : List Tok) (h : InBounds n toks) : InBounds n (matchQuotes toks) :=
  (matchQuotes_rewrites toks).forall (fun _ _ hW => hW.span (fun sp => sp.start ≤ sp.stop ∧ sp.stop ≤ n)) h

/-- `condense_pattern` keeps in-bounds tokens in bounds IN ANY ORDER, for every pattern: the merged span is
`TokenStringExt::span` of the matched slice — minimum and maximum of all endpoints — so it is never reversed (and only
source-contiguous slices are merged at all: `contiguous`) -/
theorem condensePattern_inBounds (m : Matcher) (edit : Kind → Kind) (src : List Char) (n : Nat)
    (toks out : List Tok) (h : condensePattern m edit src toks = .ok out) (hin : InBounds n toks) : InBounds n out :=
  condensePattern_forall m edit (fun _ _ hW => hW.span (fun sp => sp.start ≤ sp.stop ∧ sp.stop ≤ n) (spanOf_inBounds n)) h hin

/-- non-vacuity of `condensePattern_inBounds`: `'mI` — the contraction's tokens contiguous in the vector order but
running backwards in the text are NOT merged (`5..6 4..5` is not contiguous); `I'm` with a zero-width word is -/
example : InBounds 10 [⟨⟨5,6⟩,.word⟩, ⟨⟨4,5⟩,.punct .Apostrophe⟩, ⟨⟨3,4⟩,.word⟩] ∧
    (condenseContractions gappySrc [⟨⟨5,6⟩,.word⟩, ⟨⟨4,5⟩,.punct .Apostrophe⟩, ⟨⟨3,4⟩,.word⟩]).toOption =
      some [⟨⟨5,6⟩,.word⟩, ⟨⟨4,5⟩,.punct .Apostrophe⟩, ⟨⟨3,4⟩,.word⟩] := by decide +kernel
example : InBounds 10 [⟨⟨0,1⟩,.word⟩, ⟨⟨1,2⟩,.punct .Apostrophe⟩, ⟨⟨2,2⟩,.word⟩] ∧
    (condenseContractions gappySrc [⟨⟨0,1⟩,.word⟩, ⟨⟨1,2⟩,.punct .Apostrophe⟩, ⟨⟨2,2⟩,.word⟩]).toOption =
      some [⟨⟨0,2⟩,.word⟩] := by decide +kernel

/-- FALSE for `Document::condense_dotted_initialisms` (`start_tok.span.end = end`, no adjacency or order check) … -/
theorem dottedInitialisms_reverses :
    InBounds 10 [⟨⟨5,6⟩,.word⟩, ⟨⟨3,4⟩,.punct .Period⟩] ∧
    ¬ InBounds 10 (dottedInitialisms [⟨⟨5,6⟩,.word⟩, ⟨⟨3,4⟩,.punct .Period⟩]) := by decide

/-- … and for `Document::condense_number_suffixes` / `condense_indices`
(`tokens[idx].span.end = tokens[idx + stretch_len - 1].span.end`): the suffix `nd` lies before the number in the text, the merged span is `5..4` -/
theorem numberSuffixes_reverses :
    InBounds 10 [⟨⟨5,6⟩,.number 10 none⟩, ⟨⟨2,4⟩,.word⟩] ∧
    (numberSuffixes ['x', 'x', 'n', 'd', 'x', '1', 'x', 'x', 'x', 'x'] [⟨⟨5,6⟩,.number 10 none⟩, ⟨⟨2,4⟩,.word⟩]).toOption =
      some [⟨⟨5,4⟩,.number 10 (some .nd)⟩] := by decide

/-! ### 3'. input in text order, gaps and zero-width tokens allowed: order, `start ≤ stop` and bounds survive -/

theorem condenseSpaces_gap (toks : List Tok) (a b : Nat) (h : Gap toks a b) : Gap (condenseSpaces toks) a b :=
  ((condenseSpaces_rewrites toks).mono fun _ _ => RunW.merge2).keeps Gap.merge2 a b h

/-- `condense_newlines` (merges newline tokens that are neighbours in the VECTOR, across a gap in the text) -/
theorem condenseNewlines_gap (toks : List Tok) (a b : Nat) (h : Gap toks a b) : Gap (condenseNewlines toks) a b :=
  ((condenseNewlines_rewrites toks).mono fun _ _ => RunW.merge2).keeps Gap.merge2 a b h

/-- non-vacuity of `condenseSpaces_gap` / `condenseNewlines_gap`: a gap at `[3, 4)` and a zero-width newline -/
example : Gap [⟨⟨1,2⟩,.space 1⟩, ⟨⟨2,3⟩,.space 1⟩, ⟨⟨4,5⟩,.space 1⟩, ⟨⟨5,5⟩,.newline 1⟩, ⟨⟨7,8⟩,.newline 1⟩] 0 10 ∧
    condenseNewlines (condenseSpaces
      [⟨⟨1,2⟩,.space 1⟩, ⟨⟨2,3⟩,.space 1⟩, ⟨⟨4,5⟩,.space 1⟩, ⟨⟨5,5⟩,.newline 1⟩, ⟨⟨7,8⟩,.newline 1⟩]) =
      [⟨⟨1,3⟩,.space 2⟩, ⟨⟨4,5⟩,.space 1⟩, ⟨⟨5,8⟩,.newline 2⟩] := by decide +kernel

theorem newlinesToBreaks_gap (toks : List Tok) (a b : Nat) (h : Gap toks a b) : Gap (newlinesToBreaks toks) a b :=
  (newlinesToBreaks_rewrites toks).keeps Gap.rekind a b h

/-- `condense_pattern`, generically (as `condensePattern_tiles`): never panics and keeps the order, when the tokens are
in order — a matched slice that is not contiguous in the text is left alone -/
theorem condensePattern_gap (m : Matcher) (edit : Kind → Kind) (src : List Char) (P : List Tok → Prop)
    (hp : PatOK m src P) (toks : List Tok) (a b : Nat) (hP : P toks) (h : Gap toks a b) :
    ∃ out, condensePattern m edit src toks = .ok out ∧ Gap out a b :=
  let ⟨out, e, r⟩ := condensePattern_rewrites edit hp (hd := fun _ => True) toks hP fun _ _ _ _ _ _ => trivial
  ⟨out, e, r.keeps Gap.patW a b h⟩

theorem condenseContractions_gap (src : List Char) (toks : List Tok) (a b : Nat) (h : Gap toks a b) :
    ∃ out, condenseContractions src toks = .ok out ∧ Gap out a b :=
  condensePattern_gap _ _ src _ (contraction_patOK src) toks a b trivial h

theorem condenseEllipsis_gap (src : List Char) (toks : List Tok) (a b : Nat) (h : Gap toks a b) :
    ∃ out, condenseEllipsis src toks = .ok out ∧ Gap out a b :=
  condensePattern_gap _ _ src _ (ellipsis_patOK src) toks a b trivial h

theorem condenseLatin_gap (src : List Char) (toks : List Tok) (a b : Nat) (h : Gap toks a b) (hb : b ≤ src.length) :
    ∃ out, condenseLatin src toks = .ok out ∧ Gap out a b :=
  condensePattern_gap _ _ src _ (latin_patOK_of_inBounds src) toks a b (h.inBounds hb) h

/-- non-vacuity of the three (and of `condensePattern_gap` through them): `I'm` then a gap, a zero-width token and `..` -/
example : ∃ out, condenseContractions gappySrc gappy = .ok out ∧ Gap out 0 10 :=
  condenseContractions_gap _ _ 0 10 (by decide +kernel)
example : ∃ out, condenseEllipsis gappySrc gappy = .ok out ∧ Gap out 0 10 := condenseEllipsis_gap _ _ 0 10 (by decide +kernel)
example : ∃ out, condenseLatin gappySrc gappy = .ok out ∧ Gap out 0 10 :=
  condenseLatin_gap _ _ 0 10 (by decide +kernel) (by decide +kernel)
/-- a period right after `I'm` in the vector but two characters further in the text is not an ellipsis partner -/
example : (condenseEllipsis gappySrc [⟨⟨2,3⟩,.word⟩, ⟨⟨6,7⟩,.punct .Period⟩, ⟨⟨8,9⟩,.punct .Period⟩]).toOption =
    some [⟨⟨2,3⟩,.word⟩, ⟨⟨6,7⟩,.punct .Period⟩, ⟨⟨8,9⟩,.punct .Period⟩] := by decide +kernel

theorem dottedInitialisms_gap (toks : List Tok) (a b : Nat) (h : Gap toks a b) : Gap (dottedInitialisms toks) a b :=
  ((dottedInitialisms_rewrites toks).mono fun _ _ => InitW.merge2).keeps Gap.merge2 a b h

/-- non-vacuity of `dottedInitialisms_gap`: `a. b.` — the space is missing from the vector, and is swallowed -/
example : Gap [⟨⟨1,2⟩,.word⟩, ⟨⟨2,3⟩,.punct .Period⟩, ⟨⟨4,5⟩,.word⟩, ⟨⟨5,6⟩,.punct .Period⟩, ⟨⟨6,6⟩,.paragraphBreak⟩] 0 10 ∧
    dottedInitialisms [⟨⟨1,2⟩,.word⟩, ⟨⟨2,3⟩,.punct .Period⟩, ⟨⟨4,5⟩,.word⟩, ⟨⟨5,6⟩,.punct .Period⟩, ⟨⟨6,6⟩,.paragraphBreak⟩] =
      [⟨⟨1,6⟩,.word⟩, ⟨⟨6,6⟩,.paragraphBreak⟩] := by decide +kernel

/-- `condense_number_suffixes` / `condense_indices`: never panics on in-bounds tokens and keeps ordered tokens ordered -/
theorem numberSuffixes_gap (src : List Char) (toks : List Tok) (a b : Nat) (h : Gap toks a b) (hb : b ≤ src.length) :
    ∃ out, numberSuffixes src toks = .ok out ∧ Gap out a b :=
  let ⟨out, e⟩ := numberSuffixes_ok src toks (h.inBounds hb)
  ⟨out, e, ((numberSuffixes_rewrites e).mono fun _ _ => SufW.merge2).keeps Gap.merge2 a b h⟩

/-- non-vacuity of `numberSuffixes_gap` -/
example : ∃ out, numberSuffixes gappySrc gappy = .ok out ∧ Gap out 0 10 :=
  numberSuffixes_gap _ _ 0 10 (by decide +kernel) (by decide +kernel)

theorem matchQuotes_gap (toks : List Tok) (a b : Nat) (h : Gap toks a b) : Gap (matchQuotes toks) a b :=
  (matchQuotes_rewrites toks).keeps Gap.rekind a b h

/-- all passes of `Document::parse` on tokens in text order inside `[a, b]` of the text, gaps and zero-width tokens
allowed: it never panics and the tokens of the `Document` are again in order inside `[a, b]` -/
theorem condenseAll_gap (src : List Char) (t0 : List Tok) (a b : Nat) (h : Gap t0 a b) (hb : b ≤ src.length) :
    ∃ out, condenseAll src t0 = .ok out ∧ Gap out a b :=
  let ⟨out, e, r⟩ := condenseAll_rewrites h hb
  ⟨out, e, r.keeps Gap.docWrites a b h⟩

/-- the same in the words of the property: if the tokens handed to `Document::parse` are pairwise ordered
(`stop ≤ start` of every later token — the `Sorted` of `Lemmas/Typst.lean`), each with `start ≤ stop ≤ src.length`,
then `Document::parse` returns, and so are the tokens of the `Document`: in bounds, ordered, disjoint -/
theorem condenseAll_inbounds_sorted (src : List Char) (t0 : List Tok)
    (hs : t0.Pairwise (fun x y => x.span.stop ≤ y.span.start))
    (hin : ∀ t ∈ t0, t.span.start ≤ t.span.stop ∧ t.span.stop ≤ src.length) :
    ∃ out, condenseAll src t0 = .ok out ∧
      (∀ t ∈ out, t.span.start ≤ t.span.stop ∧ t.span.stop ≤ src.length) ∧
      out.Pairwise (fun x y => x.span.stop ≤ y.span.start) := by
  obtain ⟨out, e, h⟩ := condenseAll_gap src t0 0 src.length (SortedIn.gap ⟨hs, hin⟩) (Nat.le_refl _)
  exact ⟨out, e, h.sortedIn.2, h.sortedIn.1⟩

/-- non-vacuity of `condenseAll_gap` / `condenseAll_inbounds_sorted`: `gappy` (a gap, a zero-width token) -/
example : ∃ out, condenseAll gappySrc gappy = .ok out ∧
    (∀ t ∈ out, t.span.start ≤ t.span.stop ∧ t.span.stop ≤ gappySrc.length) ∧
    out.Pairwise (fun x y => x.span.stop ≤ y.span.start) :=
  condenseAll_inbounds_sorted gappySrc gappy (gap_iff_sortedIn 10 gappy |>.mp (by decide +kernel)).1 (by decide +kernel)

end Harper.C02
