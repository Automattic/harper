import Harper.Lemmas.Wasm
import Harper.Props.C13
import Harper.Props.C13b
import Harper.Props.C03
import Harper.Props.C14
/-!
# C16 — the JavaScript-facing linter API is self-consistent

Property theorems (helper lemmas: `Harper/Lemmas/Wasm.lean`). The model
(`Harper/Model/Wasm.lean`) is `harper-wasm/src/lib.rs:Linter` as a state machine that *composes*
the models of C13 (`remove_overlaps`), C14 (`IgnoredLints`) and C03 (`Suggestion::apply`); every
theorem here is a corollary of those properties' theorems, stated for ALL states and hence — by
`run_forall₂` / `final_invariant` — over all sequences of calls. What `LintGroup::lint` returns
(the raw lints) and the document's tokens are data carried by the ops (one alternative per
candidate user dictionary); a theorem that needs the raw lints to point into the text says so
(`RawOK`, explored on the real rules by C03's and this property's harness, not proved).

Order of the real pipeline: `remove_overlaps` runs BEFORE `remove_ignored`. Hence ignoring a lint
can never bring back a lint that had been dropped as overlapping it
(`ignore_removes_exactly_context_partial` is an exact equation, and `no_resurrection` spells the corner out on a concrete history); the price
is that a lint masked by an ignored lint is never shown (`masked_stays_masked`).

JSON round trips of `Lint`/`Span`/`Suggestion` are serde derives: monitored by the harness only.
-/
namespace Harper.C16
open Harper Harper.Ignore Harper.Wasm

/-! ### lifting per-call facts to all sequences of calls -/

theorem final_induction (I : State → Prop) (ops : List Op)
    (hI : ∀ s, ∀ op ∈ ops, I s → I (step s op).1) : ∀ s, I s → I (final s ops) := by
  induction ops with
  | nil => exact fun _ h => h
  | cons o ops ih =>
    exact fun s hs => ih (fun s op hop => hI s op (List.mem_cons_of_mem _ hop)) _
      (hI s o List.mem_cons_self hs)

theorem run_forall₂_inv (I : State → Prop) (hI : ∀ s op, I s → I (step s op).1)
    (P : Op → Out → Prop) (h : ∀ s op, I s → P op (step s op).2) :
    ∀ (s : State) (ops : List Op), I s → AllCalls P s ops := by
  intro s ops
  induction ops generalizing s with
  | nil => intro _ op out hm; cases hm
  | cons o ops ih =>
    intro hs op out hm
    rw [run, List.zip_cons_cons, List.mem_cons] at hm
    rcases hm with hm | hm
    · cases hm; exact h s o hs
    · exact ih _ (hI s o hs) op out hm

theorem run_forall₂ (P : Op → Out → Prop) (h : ∀ s op, P op (step s op).2) :
    ∀ (s : State) (ops : List Op), AllCalls P s ops :=
  fun s ops => run_forall₂_inv (fun _ => True) (fun _ _ _ => trivial) P (fun s op _ => h s op) s ops
    trivial

/-- nothing is lost: there is one result per call -/
theorem run_length (s : State) (ops : List Op) : (run s ops).length = ops.length := by
  induction ops generalizing s with
  | nil => rfl
  | cons o ops ih => rw [run, List.length_cons, List.length_cons, ih]

/-! ### the composition: what `lint` returns -/

/-- The composition theorem. For raw lints that point into the text, `remove_overlaps` →
`remove_ignored` → `problem_text` never panics and returns lints that (C13) are raw lints, in range,
pairwise disjoint in output order, (C14) are exactly the survivors of `remove_overlaps` whose
context is not ignored, and carry the characters at their span. -/
theorem lintCore_spec (ig : IgnoreSet) (text : List Nat) (lang : Nat) (raw : List RawLint)
    (toks : List Tok) (hok : ∀ l ∈ raw, l.start ≤ l.stop ∧ l.stop ≤ text.length) :
    ∃ ls, lintCore ig text lang raw toks = .ok ls ∧
      ls.map (·.lint) = (dedup raw).filter (fun l => decide (contextOf l toks ∉ ig)) ∧
      (∀ w ∈ ls, w.lint ∈ raw ∧ w.lint.start ≤ w.lint.stop ∧ w.lint.stop ≤ text.length) ∧
      ls.Pairwise (fun a b => a.lint.stop ≤ b.lint.start) ∧
      (∀ w ∈ ls, w.lang = lang ∧
        w.problemText = (text.drop w.lint.start).take (w.lint.stop - w.lint.start)) := by
  have hsub : (removeIgnored ig (dedup raw) toks).Sublist (dedup raw) :=
    (C14.different_context_kept ig (dedup raw) toks).1
  have hraw : ∀ l ∈ removeIgnored ig (dedup raw) toks, l ∈ raw :=
    fun l hl => dedup_mem (hsub.subset hl)
  obtain ⟨ls, hls⟩ := attachAll_inrange text lang _ (fun l hl => hok l (hraw l hl))
  obtain ⟨hmap, hpt⟩ := attachAll_spec text lang _ ls hls
  refine ⟨ls, hls, lintCore_ok hls, fun w hw => ?_, ?_, hpt⟩
  · have := hraw w.lint (hmap ▸ List.mem_map_of_mem hw)
    exact ⟨this, hok _ this⟩
  · have hd := (dedup_disjoint_any raw).sublist hsub
    rwa [← hmap, List.pairwise_map] at hd

/-- the positional look-up inside `dedup` (`raw[o.id]?` under `filterMap`, which would silently
skip a position out of range) never drops anything: `dedup raw` has exactly the spans
`remove_overlaps` keeps, in its order -/
theorem dedup_spans (raw : List RawLint) :
    (dedup raw).map (fun l => (l.start, l.stop))
      = (removeOverlaps (toOv raw)).map (fun o => (o.s, o.e)) :=
  lookup_spans raw _ (C13.removeOverlaps_subset _)

/-! ### the clauses of the property, over all sequences of calls -/

/-- Every `lint` call of every sequence of calls, from every state: if the rule set's raw lints
point into the text, the call does not panic, every returned lint is in range and the returned
list is pairwise disjoint (`a.end ≤ b.start` for `a` before `b`; zero-width lints included). -/
theorem lints_inbounds_disjoint (s : State) (ops : List Op) :
    AllCalls InboundsDisjoint s ops := by
  apply run_forall₂
  intro s op
  cases op with
  | lint text lang alts =>
    intro hok
    rw [step_lint]
    cases hp : pickAlt s.synced alts with
    | none => exact Or.inl rfl
    | some a =>
      obtain ⟨ls, hls, _, hin, hdis, _⟩ :=
        lintCore_spec s.ignored text lang a.raw a.toks (hok a (pickAlt_mem hp))
      exact Or.inr ⟨ls, by simp only [hls], fun w hw => (hin w hw).2, hdis⟩
  | _ => trivial

theorem problem_text_is_span (s : State) (ops : List Op) :
    AllCalls ProblemTextIsSpan s ops := by
  apply run_forall₂
  intro s op
  cases op with
  | lint text lang alts =>
    cases hout : (step s (.lint text lang alts)).2 with
    | lints ls =>
      obtain ⟨a, _, hl⟩ := step_lint_lints hout
      exact (attachAll_spec text lang _ ls hl).2
    | _ => trivial
  | _ => trivial

/-- one call: the returned lints are a sub-list of a permutation of the raw lints of the alternative
in force, none of them ignored in `s` -/
theorem returned_sublist_of_raw_step (s : State) (op : Op) :
    SublistOfRaw s.ignored op (step s op).2 := by
  cases op with
  | lint text lang alts =>
    cases hout : (step s (.lint text lang alts)).2 with
    | lints ls =>
      obtain ⟨a, hp, hl⟩ := step_lint_lints hout
      have hmap := lintCore_ok hl
      refine ⟨a, pickAlt_mem hp, ⟨sortedRaw a.raw, sortedRaw_perm a.raw, ?_⟩, fun w hw => ?_⟩
      · rw [hmap]; exact List.filter_sublist.trans (dedup_sublist_sortedRaw a.raw)
      · exact lintCore_not_ignored hl hw
    | _ => trivial
  | _ => trivial

/-- Every `lint` call of every sequence returns a sub-list of a permutation of the raw lints. -/
theorem returned_sublist_of_raw (s : State) (ops : List Op) :
    AllCalls (fun op out => ∃ ig, SublistOfRaw ig op out) s ops :=
  run_forall₂ _ (fun s op => ⟨s.ignored, returned_sublist_of_raw_step s op⟩) s ops

/-- the `i`-th result of a sequence is the step taken from the state after the first `i` calls -/
theorem run_getElem? (s : State) (ops : List Op) (i : Nat) (h : i < ops.length) :
    (run s ops)[i]? = some (step (final s (ops.take i)) ops[i]).2 := by
  induction ops generalizing s i with
  | nil => simp at h
  | cons o ops ih =>
    cases i with
    | zero => simp [run, final]
    | succ i =>
      simp only [run, List.getElem?_cons_succ, List.take_succ_cons, final, List.getElem_cons_succ]
      exact ih _ i (by simpa using h)

/-- `returned_sublist_of_raw` with the ignore set NAMED (there `∃ ig` can be met by the empty set,
which makes "none of them ignored" say nothing): the `i`-th call of every sequence returns a
sub-list of a permutation of the raw lints none of which is ignored in the state that call sees,
i.e. after the first `i` calls. -/
theorem returned_not_ignored_all_calls (s : State) (ops : List Op) (i : Nat) (h : i < ops.length) :
    ∃ out, (run s ops)[i]? = some out ∧ SublistOfRaw (final s (ops.take i)).ignored ops[i] out :=
  ⟨_, run_getElem? s ops i h, returned_sublist_of_raw_step _ _⟩

/-- Every `apply_suggestion` call of every sequence, for a span that points into the text: no
panic, the result is the splice, the text before and after the span is preserved (C03). -/
theorem apply_is_local (s : State) (ops : List Op) :
    AllCalls ApplyIsLocal s ops := by
  apply run_forall₂
  intro s op
  cases op with
  | apply text sp sugg =>
    intro h1 h2
    have hs := C03.apply_spec sugg text sp h1 h2
    simp only [step, hs]
    exact ⟨_, rfl, rfl, C03.apply_prefix_preserved sugg text _ sp h1 h2 hs,
      C03.apply_suffix_preserved sugg text _ sp h1 h2 hs⟩
  | _ => trivial

theorem step_lint_spec {s : State} {text : List Nat} {lang : Nat} {alts : List Alt}
    (hok : ∀ a ∈ alts, RawOK text a) {ls : List WLint}
    (hl : (step s (.lint text lang alts)).2 = .lints ls) :
    (∀ w ∈ ls, w.lint.start ≤ w.lint.stop ∧ w.lint.stop ≤ text.length) ∧
    ls.Pairwise (fun a b => a.lint.stop ≤ b.lint.start) ∧
    ∀ w ∈ ls, w.problemText = (text.drop w.lint.start).take (w.lint.stop - w.lint.start) := by
  obtain ⟨a, hp, hl'⟩ := step_lint_lints hl
  obtain ⟨ls0, hls, _, hin, hdis, hpt⟩ :=
    lintCore_spec s.ignored text lang a.raw a.toks (hok a (pickAlt_mem hp))
  rw [hl'] at hls; cases hls
  exact ⟨fun w hw => (hin w hw).2, hdis, fun w hw => (hpt w hw).2⟩

/-- `lint` then `apply_suggestion`: a lint RETURNED by `lint(text)` can be applied to `text` in any later state;
the result replaces exactly the lint's `problem_text` by the suggestion's new text. -/
theorem apply_returned_lint (s s' : State) (text : List Nat) (lang : Nat) (alts : List Alt)
    (hok : ∀ a ∈ alts, RawOK text a) (ls : List WLint)
    (hl : (step s (.lint text lang alts)).2 = .lints ls) (w : WLint) (hw : w ∈ ls)
    (sugg : Suggestion Nat) :
    (step s' (.apply text ⟨w.lint.start, w.lint.stop⟩ sugg)).2
      = .text (text.take w.lint.start ++ sugg.newText w.problemText ++ text.drop w.lint.stop) := by
  obtain ⟨hin, _, hpt⟩ := step_lint_spec hok hl
  have := C03.apply_spec sugg text ⟨w.lint.start, w.lint.stop⟩ (hin w hw).1 (hin w hw).2
  simp only [step, this, hpt w hw]

/-- "Fix all" through the API (C13b): one suggestion per returned lint, applied from the last lint
to the first, never panics and equals the simultaneous substitution. -/
theorem fix_all_returned (s : State) (text : List Nat) (lang : Nat) (alts : List Alt)
    (hok : ∀ a ∈ alts, RawOK text a) (ls : List WLint)
    (hl : (step s (.lint text lang alts)).2 = .lints ls) (σ : WLint → Suggestion Nat) :
    fixAllBackToFront (ls.map (fun w => (⟨w.lint.start, w.lint.stop⟩, σ w))) text
      = .ok (substAll (ls.map (fun w => (⟨w.lint.start, w.lint.stop⟩, σ w))) text) := by
  obtain ⟨hin, hdis, _⟩ := step_lint_spec hok hl
  apply C13.fix_all_back_to_front
  · intro e he
    obtain ⟨w, hw, rfl⟩ := List.mem_map.mp he
    exact hin w hw
  · exact List.pairwise_map.mpr hdis

/-- `lint` sees the state only through the dictionary in force and WHICH contexts are ignored -/
theorem lint_depends_only_on (s s' : State) (hd : s'.synced = s.synced)
    (hi : ∀ c, c ∈ s'.ignored ↔ c ∈ s.ignored) (text : List Nat) (lang : Nat) (alts : List Alt) :
    (step s' (.lint text lang alts)).2 = (step s (.lint text lang alts)).2 := by
  rw [step_lint, step_lint, hd]
  simp only [lintCore_congr hi]

/-- non-vacuity of lint_depends_only_on: two different states (ignore list in the other order,
other config, other record count) with two ignored contexts answer alike -/
example :
    let s : State := (final init [.ignore Wit.C Wit.altsC, .ignore Wit.A' Wit.altsC])
    let s' : State := ⟨s.ignored.reverse, [], [], [(5, true)], 7⟩
    s' ≠ s ∧ s'.synced = s.synced ∧ (∀ c, c ∈ s'.ignored ↔ c ∈ s.ignored) ∧ s.ignored.length = 2 ∧
    (step s' (.lint Wit.textC 0 Wit.altsC)).2 = .lints [] := by
  intro s s'
  have h1 : s'.synced = s.synced := by decide +kernel
  have h2 : ∀ c, c ∈ s'.ignored ↔ c ∈ s.ignored := fun c => List.mem_reverse
  refine ⟨by decide +kernel, h1, h2, by decide +kernel, ?_⟩
  rw [lint_depends_only_on s s' h1 h2]
  decide +kernel

/-! ### ignoring -/

theorem final_quiet (s : State) (ops : List Op) (h : ∀ op ∈ ops, quiet op = true) :
    (final s ops).ignored = s.ignored ∧ (final s ops).synced = s.synced ∧
    (final s ops).userWords = s.userWords := by
  refine final_induction (fun s' => s'.ignored = s.ignored ∧ s'.synced = s.synced ∧
    s'.userWords = s.userWords) ops (fun s' op hop hs' => ?_) s ⟨rfl, rfl, rfl⟩
  obtain ⟨h1, h2, h3⟩ := step_quiet s' (h op hop)
  exact ⟨h1.trans hs'.1, h2.trans hs'.2.1, h3.trans hs'.2.2⟩

/-- non-vacuity of final_quiet (and of `hmid` in the two theorems below): a list of five quiet
calls of four kinds; `import_words` is not quiet -/
example : (∀ op ∈ [Op.getConfig, .exportWords, .lint Wit.textC 0 Wit.altsC,
      .apply Wit.textC ⟨0, 5⟩ (.replaceWith [88]), .setConfig [(5, some true)]], quiet op = true) ∧
    quiet (.importWords [Wit.wN]) = false := by decide +kernel

/-- Clause "ignoring a lint removes it and nothing else from later results", exactly:
`lint(text)` returned `r₁`; the user ignores `l` (in the same document: the same alternatives,
i.e. the same tokens); after any further calls that do not touch the ignore list or the words,
`lint(text)` returns `r₁` minus the lints whose context equals `l`'s — same order, nothing added,
nothing else removed. Because `remove_overlaps` runs before `remove_ignored`, no lint that had
been dropped as overlapping comes back.
**Partial**: "further calls" excludes `import_words`. With an `import_words` in between the clause
is false of the code (`ignored_returns_after_import_words`). -/
theorem ignore_removes_exactly_context_partial (s : State) (text : List Nat) (lang : Nat) (alts : List Alt)
    (a : Alt) (l : RawLint) (mid : List Op) (r₁ : List WLint)
    (hpick : pickAlt s.synced alts = some a)
    (h₁ : (step s (.lint text lang alts)).2 = .lints r₁)
    (hmid : ∀ op ∈ mid, quiet op = true) :
    (step (final (step s (.ignore l alts)).1 mid) (.lint text lang alts)).2
      = .lints (r₁.filter (fun w => contextOf w.lint a.toks != contextOf l a.toks)) := by
  obtain ⟨hig, hsy, _⟩ := final_quiet (step s (.ignore l alts)).1 mid hmid
  have hs2 : (step s (.ignore l alts)).1 = { s with ignored := ignoreLint s.ignored l a.toks } := by
    simp only [step, hpick]
  rw [hs2] at hig hsy ⊢
  obtain ⟨a', ha', hc⟩ := step_lint_lints h₁
  cases hpick.symm.trans ha'
  rw [step_lint, hsy, hig, hpick]
  unfold lintCore at hc ⊢
  simp only [ignoreLint, removeIgnored_insert, attachAll_filter text lang _ _ _ hc]

/-- The clause without that restriction is **false of the code**: the context hashes the
neighbouring tokens WITH their dictionary metadata (`TokenKind::Word(Option<WordMetadata>)`), so
adding a neighbouring word to the user dictionary changes the context of a lint that is still
raised on the same text at the same place — the ignored lint is reported again. History (real
tokens as encoded by the harness; reproduced on the real `Linter`): `lint("an zqxw")`, ignore the
a/an lint on `an`, `import_words(["zqxw"])`, `lint("an zqxw")`.
Recorded finding `c16-ignored-lint-returns-after-import-words`. -/
theorem ignored_returns_after_import_words :
    run init [.lint Wit.textN 0 Wit.altsN, .ignore Wit.N Wit.altsN, .lint Wit.textN 0 Wit.altsN,
        .importWords [Wit.wN], .lint Wit.textN 0 Wit.altsN]
      = [.lints [⟨Wit.N, [97, 110], 0⟩, ⟨Wit.S, [122, 113, 120, 119], 0⟩], .unit,
         .lints [⟨Wit.S, [122, 113, 120, 119], 0⟩], .unit, .lints [⟨Wit.N, [97, 110], 0⟩]] := by
  decide +kernel

/-- … in particular the ignored lint itself is gone, everything with another context stays, and
nothing is returned that was not returned before -/
theorem ignore_removes_it_and_nothing_else (s : State) (text : List Nat) (lang : Nat)
    (alts : List Alt) (a : Alt) (l : RawLint) (mid : List Op) (r₁ : List WLint)
    (hpick : pickAlt s.synced alts = some a)
    (h₁ : (step s (.lint text lang alts)).2 = .lints r₁)
    (hmid : ∀ op ∈ mid, quiet op = true) :
    ∃ r₂, (step (final (step s (.ignore l alts)).1 mid) (.lint text lang alts)).2 = .lints r₂ ∧
      r₂.Sublist r₁ ∧
      (∀ w ∈ r₂, contextOf w.lint a.toks ≠ contextOf l a.toks) ∧
      (∀ w ∈ r₁, contextOf w.lint a.toks ≠ contextOf l a.toks → w ∈ r₂) := by
  refine ⟨_, ignore_removes_exactly_context_partial s text lang alts a l mid r₁ hpick h₁ hmid,
    List.filter_sublist, ?_, ?_⟩
  · intro w hw
    simpa using (List.mem_filter.mp hw).2
  · intro w hw hne
    exact List.mem_filter.mpr ⟨hw, by simpa using hne⟩

/-- The corner the order of the pipeline decides. Raw lints A = [0,5) and B = [3,6) overlap, so
`lint` shows A only. After the user ignores A the real order (overlaps first) shows NOTHING:
B is not resurrected — "nothing else changes" holds … -/
theorem no_resurrection :
    run init [.lint Wit.textAB 0 Wit.altsAB, .ignore Wit.A Wit.altsAB, .lint Wit.textAB 0 Wit.altsAB]
      = [.lints [⟨Wit.A, [97, 98, 99, 100, 101], 0⟩], .unit, .lints []] := by
  decide +kernel

/-- … whereas the swapped order (`lintCoreSwapped`) shows B once A is ignored -/
example :
    lintCoreSwapped [] Wit.textAB 0 [Wit.A, Wit.B] Wit.toksAB
      = .ok [⟨Wit.A, [97, 98, 99, 100, 101], 0⟩] ∧
    lintCoreSwapped (ignoreLint [] Wit.A Wit.toksAB) Wit.textAB 0 [Wit.A, Wit.B] Wit.toksAB
      = .ok [⟨Wit.B, [100, 101, 102], 0⟩] ∧
    lintCore (ignoreLint [] Wit.A Wit.toksAB) Wit.textAB 0 [Wit.A, Wit.B] Wit.toksAB = .ok [] :=
  ⟨rfl, rfl, rfl⟩

/-- The price of the real order: a lint masked by an overlapping lint stays masked for ever, also
after the masking lint is ignored — whatever is ignored, `lint` never returns a lint that
`remove_overlaps` drops from the raw list. -/
theorem masked_stays_masked (ig : IgnoreSet) (text : List Nat) (lang : Nat) (raw : List RawLint)
    (toks : List Tok) (ls : List WLint) (h : lintCore ig text lang raw toks = .ok ls) :
    (ls.map (·.lint)).Sublist (dedup raw) := by
  rw [lintCore_ok h]; exact List.filter_sublist

/-- non-vacuity of masked_stays_masked: A' ignored, B (masked by A') does not come back -/
example :
    lintCore (ignoreLint [] Wit.A' Wit.toksC) Wit.textC 0 [Wit.C, Wit.B, Wit.A'] Wit.toksC
      = .ok [⟨Wit.C, [103, 104], 0⟩] ∧ dedup [Wit.C, Wit.B, Wit.A'] = [Wit.A', Wit.C] := ⟨rfl, rfl⟩

/-- "Keeps hiding it", over ALL later calls but `clear_ignored_lints` (further ignores, imports of
ignore lists and of words, config changes, …): an ignored context stays in the list. -/
theorem ignored_monotone (s : State) (ops : List Op) (h : ∀ op ∈ ops, op ≠ .clearIgnored)
    (c : Context) (hc : c ∈ s.ignored) : c ∈ (final s ops).ignored := by
  refine final_induction (fun s' => c ∈ s'.ignored) ops (fun s op hop hc => ?_) s hc
  cases op with
  | lint text lang alts => rw [step_lint_fst]; exact hc
  | apply text sp sugg => rw [step_apply_fst]; exact hc
  | ignore l alts =>
    rw [step]
    cases pickAlt s.synced alts with
    | none => exact hc
    | some a => exact mem_insertCtx.mpr (Or.inl hc)
  | importIgnored p => exact (mem_append_importL _ _ _).mpr (Or.inl hc)
  | clearIgnored => exact absurd rfl (h _ hop)
  | importWords ws =>
    rw [step]
    by_cases hlen : (ws.foldl insertWord s.userWords).length > s.userWords.length
    · rw [importWords_of_grow hlen]; exact hc
    · rw [importWords_of_not_grow hlen]; exact hc
  | exportIgnored | exportWords | setConfig _ | getConfig | statsCount => exact hc

/-- … hence after `ignore_lint(l)` EVERY later `lint` call — of any text, after any calls other than
`clear_ignored_lints` — returns no lint whose context (in the document that call parses) is `l`'s.
(After an `import_words` the same characters can have another context: finding
`c16-ignored-lint-returns-after-import-words`.) -/
theorem ignored_keeps_hidden (s : State) (l : RawLint) (altsI : List Alt) (aI : Alt)
    (hpick : pickAlt s.synced altsI = some aI) (mid : List Op)
    (hmid : ∀ op ∈ mid, op ≠ .clearIgnored) (text : List Nat) (lang : Nat) (alts : List Alt)
    (ls : List WLint)
    (h : (step (final (step s (.ignore l altsI)).1 mid) (.lint text lang alts)).2 = .lints ls) :
    ∃ a, pickAlt (final (step s (.ignore l altsI)).1 mid).synced alts = some a ∧
      ∀ w ∈ ls, contextOf w.lint a.toks ≠ contextOf l aI.toks := by
  have hin : contextOf l aI.toks ∈ (final (step s (.ignore l altsI)).1 mid).ignored := by
    apply ignored_monotone _ _ hmid
    simp only [step, hpick]
    exact mem_insertCtx.mpr (Or.inr rfl)
  generalize final (step s (.ignore l altsI)).1 mid = s' at h hin
  obtain ⟨a, ha, hl'⟩ := step_lint_lints h
  exact ⟨a, ha, fun w hw hc => lintCore_not_ignored hl' hw (hc ▸ hin)⟩

/-- non-vacuity of ignored_monotone / ignored_keeps_hidden: ignore P in `ab ab ab ab ac`; then
another ignore (other document), an import of an ignore list, a config change, an export — none
is `clear_ignored_lints`; the list holds three contexts and the later `lint` still returns R only -/
example :
    let mid : List Op := [.ignore Wit.C Wit.altsC, .importIgnored [contextOf Wit.A' Wit.toksC],
      .setConfig [(5, some true)], .exportIgnored]
    (∀ op ∈ mid, op ≠ .clearIgnored) ∧
    pickAlt init.synced Wit.altsP = some ⟨[], [Wit.P, Wit.Q, Wit.R], Wit.toksP⟩ ∧
    (final (step init (.ignore Wit.P Wit.altsP)).1 mid).ignored.length = 3 ∧
    (step (final (step init (.ignore Wit.P Wit.altsP)).1 mid) (.lint Wit.textP 0 Wit.altsP)).2
      = .lints [⟨Wit.R, [97, 98], 0⟩] := by
  refine ⟨?_, ?_, ?_, ?_⟩
  · intro op h
    simp only [List.mem_cons, List.not_mem_nil, or_false] at h
    rcases h with rfl | rfl | rfl | rfl <;> exact fun h => Op.noConfusion h
  all_goals decide +kernel

/-! ### export → import -/

/-- Clause "exporting then importing the ignore list restores the same behaviour": a linter with an
empty ignore list and the same dictionary in force, after importing what `s` exports (in any
order, with or without repetitions), answers every `lint` call as `s` does. -/
theorem export_import_ignored_restores (s s₀ : State) (payload : List Context)
    (h₀ : s₀.ignored = []) (hd : s₀.synced = s.synced)
    (hp : ∀ c, c ∈ payload ↔ c ∈ exportL s.ignored)
    (text : List Nat) (lang : Nat) (alts : List Alt) :
    (step s .exportIgnored).2 = .ignoredList (exportL s.ignored) ∧
    (step (step s₀ (.importIgnored payload)).1 (.lint text lang alts)).2
      = (step s (.lint text lang alts)).2 := by
  refine ⟨rfl, ?_⟩
  apply lint_depends_only_on
  · exact hd
  · intro c
    show c ∈ Ignore.append s₀.ignored (importL payload) ↔ c ∈ s.ignored
    rw [h₀, mem_append_importL, hp]
    simp [exportL]

/-- … and the imported list is the very same list when the exported one is in stored order (every
reachable list is duplicate-free: `state_invariant`). -/
theorem export_import_ignored_eq (s s₀ : State) (h₀ : s₀.ignored = []) (hn : s.ignored.Nodup) :
    (step s₀ (.importIgnored (exportL s.ignored))).1.ignored = s.ignored := by
  rw [step, h₀, C14.export_import_eq s.ignored hn]
  exact (foldl_insertCtx_eq_append s.ignored [] (by rwa [List.nil_append])).trans (List.nil_append _)

/-- non-vacuity of export_import_ignored_restores and export_import_ignored_eq: two ignored
contexts; the other linter is the same one after `clear_ignored_lints` (it then reports both lints
again); the payload is the export in another order with repetitions -/
example :
    let s : State := final init [.ignore Wit.C Wit.altsC, .ignore Wit.A' Wit.altsC, .setConfig [(5, some true)]]
    let s₀ : State := final s [.clearIgnored]
    let payload := (exportL s.ignored).reverse ++ exportL s.ignored
    s.ignored.length = 2 ∧ s.ignored.Nodup ∧ s₀.ignored = [] ∧ s₀.synced = s.synced ∧
    (∀ c, c ∈ payload ↔ c ∈ exportL s.ignored) ∧
    (step (step s₀ (.importIgnored payload)).1 (.lint Wit.textC 0 Wit.altsC)).2 = .lints [] ∧
    (step s₀ (.lint Wit.textC 0 Wit.altsC)).2
      = .lints [⟨Wit.A', [97, 98, 99, 100, 101], 0⟩, ⟨Wit.C, [103, 104], 0⟩] ∧
    (step s₀ (.importIgnored (exportL s.ignored))).1.ignored = s.ignored := by
  intro s s₀ payload
  have h0 : s₀.ignored = [] := by decide +kernel
  have hd : s₀.synced = s.synced := by decide +kernel
  have hp : ∀ c, c ∈ payload ↔ c ∈ exportL s.ignored := by
    intro c; simp [payload]
  have hn : s.ignored.Nodup := by decide +kernel
  refine ⟨by decide +kernel, hn, h0, hd, hp, ?_, by decide +kernel, export_import_ignored_eq s s₀ h0 hn⟩
  rw [(export_import_ignored_restores s s₀ payload h0 hd hp Wit.textC 0 Wit.altsC).2]
  decide +kernel

/-- `import_ignored_lints` APPENDS: on a non-empty list it hides what either list hid (C14). -/
theorem import_ignored_is_union (s : State) (payload : List Context) (l : RawLint) (toks : List Tok) :
    isIgnored (step s (.importIgnored payload)).1.ignored l toks
      = (isIgnored s.ignored l toks || isIgnored (importL payload) l toks) := by
  simp only [step]
  exact C14.append_ignored _ _ _ _

/-! ### the state invariant, over all sequences of calls -/

theorem inv_init : Inv init := by
  decide +kernel

theorem inv_step (s : State) (op : Op) (h : Inv s) : Inv (step s op).1 := by
  obtain ⟨h1, h2, h3, h4⟩ := h
  cases op with
  | lint text lang alts => rw [step_lint_fst]; exact ⟨h1, h2, h3, h4⟩
  | apply text sp sugg => rw [step_apply_fst]; exact ⟨h1, h2, h3, h4⟩
  | ignore l alts =>
    rw [step]
    cases pickAlt s.synced alts with
    | none => exact ⟨h1, h2, h3, h4⟩
    | some a => exact ⟨nodup_insertCtx h1 _, h2, h3, h4⟩
  | importIgnored p => exact ⟨nodup_foldl_insertCtx _ h1, h2, h3, h4⟩
  | clearIgnored => exact ⟨List.nodup_nil, h2, h3, h4⟩
  | importWords ws =>
    rw [step]
    have hn : (keys (ws.foldl insertWord s.userWords)).Nodup :=
      (keyLaw_upsert Word.key).nodup_foldl ws h2
    by_cases hlen : (ws.foldl insertWord s.userWords).length > s.userWords.length
    · rw [importWords_of_grow hlen]; exact ⟨h1, hn, rfl, h4⟩
    · rw [importWords_of_not_grow hlen]
      exact ⟨h1, hn, h3.trans (keys_foldl_insertWord_of_length_le ws _ (Nat.le_of_not_lt hlen)).symm,
        h4⟩
  | setConfig es => exact ⟨h1, h2, h3, nodup_ckeys_merge h4 es⟩
  | exportIgnored | exportWords | getConfig | statsCount => exact ⟨h1, h2, h3, h4⟩

/-- lifted over call sequences by induction -/
theorem final_invariant (s : State) (ops : List Op) (h : Inv s) : Inv (final s ops) :=
  final_induction Inv ops (fun s op _ => inv_step s op) s h

/-- every state reachable from `Linter::new` satisfies the invariant -/
theorem state_invariant (ops : List Op) : Inv (final init ops) := final_invariant init ops inv_init

/-- every `export_ignored_lints` of every sequence of calls from a state satisfying the invariant — in
particular from `Linter::new` — returns a duplicate-free list -/
theorem exports_nodup (s : State) (ops : List Op) (hs : Inv s) :
    AllCalls (fun _op out => ∀ cs, out = .ignoredList cs → cs.Nodup) s ops := by
  refine run_forall₂_inv Inv inv_step _ ?_ s ops hs
  intro s op hI cs hout
  cases op with
  | exportIgnored => cases hout; exact hI.1
  | lint text lang alts =>
    rw [step_lint] at hout
    cases hp : pickAlt s.synced alts with
    | none => rw [hp] at hout; cases hout
    | some a =>
      cases hl : lintCore s.ignored text lang a.raw a.toks <;> simp only [hp, hl] at hout <;>
        cases hout
  | apply text sp sugg =>
    rw [step] at hout
    cases ha : sugg.apply sp text <;> simp only [ha] at hout <;> cases hout
  | ignore l alts =>
    rw [step] at hout
    cases hp : pickAlt s.synced alts <;> simp only [hp] at hout <;> cases hout
  | importIgnored _ | clearIgnored | importWords _ | exportWords | setConfig _ | getConfig
  | statsCount => cases hout

/-- `synchronize_lint_dict` (inside `import_words`) preserves the ignore list and the config -/
theorem sync_preserves_config_and_ignores (s : State) (ws : List Word) :
    (step s (.importWords ws)).1.ignored = s.ignored ∧
    (step s (.importWords ws)).1.config = s.config ∧
    (step s (.importWords ws)).1.records = s.records := by
  rw [step]
  by_cases hlen : (ws.foldl insertWord s.userWords).length > s.userWords.length
  · rw [importWords_of_grow hlen]; exact ⟨rfl, rfl, rfl⟩
  · rw [importWords_of_not_grow hlen]; exact ⟨rfl, rfl, rfl⟩

/-! ### custom words -/

/-- an `import_words` that brings at least one new `WordId` re-synchronises -/
theorem import_new_key_syncs (s : State) (ws : List Word) (w : Word) (hw : w ∈ ws)
    (hnew : w.key ∉ keys s.userWords) : InSync (step s (.importWords ws)).1 := by
  rw [step]
  by_cases hlen : (ws.foldl insertWord s.userWords).length > s.userWords.length
  · rw [importWords_of_grow hlen]; rfl
  · -- no new entry, so the keys are the old ones; yet the new key is among them
    have := (keyLaw_upsert Word.key).mem_keys_foldl hw s.userWords
    rw [show (ws.foldl (upsert Word.key) s.userWords).map Word.key
      = keys (ws.foldl insertWord s.userWords) from rfl,
      keys_foldl_insertWord_of_length_le ws _ (Nat.le_of_not_lt hlen)] at this
    exact absurd this hnew

/-- non-vacuity of import_new_key_syncs: the stale state of `words_stale_not_restored` (`zqxv` in force, `Zqxv` in
the user dictionary) imports a list holding one new key: back in sync -/
example :
    let s : State := final init [.importWords [Wit.z], .importWords [Wit.Z]]
    ¬ InSync s ∧ Wit.wN ∈ [Wit.Z, Wit.wN] ∧ Wit.wN.key ∉ keys s.userWords ∧
    InSync (step s (.importWords [Wit.Z, Wit.wN])).1 ∧
    (step s (.importWords [Wit.Z, Wit.wN])).1.synced = [Wit.Z, Wit.wN] := by
  intro s
  have hw : Wit.wN ∈ [Wit.Z, Wit.wN] := by decide +kernel
  have hnew : Wit.wN.key ∉ keys s.userWords := by decide +kernel
  exact ⟨by decide +kernel, hw, hnew, import_new_key_syncs s _ _ hw hnew, by decide +kernel⟩

/-- Clause "exporting then importing the custom words restores the same behaviour" — the part that
is true: if the dictionary in force is the user dictionary, a fresh linter that imports what
`export_words` returns (in any order: it comes out of a hash map) holds the same words, is in sync,
and answers every `lint` call as `s` does.
**Partial**: the hypothesis `InSync s` is not an invariant (`words_stale_not_restored`). -/
theorem export_import_words_restores_partial (s s₀ : State) (hinv : Inv s) (hsync : InSync s)
    (hw₀ : s₀.userWords = []) (hs₀ : s₀.synced = []) (hi : s₀.ignored = s.ignored) (p : List Word)
    (hp : p.Perm s.userWords) (text : List Nat) (lang : Nat) (alts : List Alt) :
    (step s .exportWords).2 = .words s.userWords ∧
    (step s₀ (.importWords p)).1.userWords = p ∧ InSync (step s₀ (.importWords p)).1 ∧
    (step (step s₀ (.importWords p)).1 (.lint text lang alts)).2 = (step s (.lint text lang alts)).2 := by
  have hkeys : (keys ([] ++ p)).Nodup := by
    rw [List.nil_append]; exact (hp.map _).nodup_iff.mpr hinv.2.1
  have hfold : p.foldl insertWord s₀.userWords = p := by
    rw [hw₀]; exact (foldl_insertWord_fresh p [] hkeys).trans (List.nil_append p)
  obtain ⟨hu, hsy, hig⟩ : (step s₀ (.importWords p)).1.userWords = p ∧
      (step s₀ (.importWords p)).1.synced = p ∧ (step s₀ (.importWords p)).1.ignored = s.ignored := by
    rw [step]
    by_cases hlen : (p.foldl insertWord s₀.userWords).length > s₀.userWords.length
    · rw [importWords_of_grow hlen, hfold]; exact ⟨rfl, rfl, hi⟩
    · rw [importWords_of_not_grow hlen, hfold]
      rw [hfold, hw₀] at hlen
      have : p = [] := List.eq_nil_of_length_eq_zero (Nat.le_zero.mp (Nat.le_of_not_lt hlen))
      exact ⟨rfl, hs₀.trans this.symm, hi⟩
  refine ⟨rfl, hu, hsy.trans hu.symm, ?_⟩
  have hpick : pickAlt p alts = pickAlt s.synced alts :=
    pickAlt_congr _ _ _ (fun w => by rw [hsync]; exact (hp.map _).mem_iff)
  rw [step_lint, step_lint, hsy, hig, hpick]

/-- non-vacuity of export_import_words_restores_partial, ALL hypotheses together: two user words
and one ignored lint; the fresh linter (same ignore list) imports the words in the other order and
answers the `lint` call alike -/
example :
    let alts : List Alt := [⟨[[97], [98]], [Wit.C, Wit.B, Wit.A'], Wit.toksC⟩]
    let s : State := final init [.importWords [⟨1, [97]⟩, ⟨2, [98]⟩], .ignore Wit.C alts]
    let s₀ : State := { init with ignored := s.ignored }
    let p : List Word := [⟨2, [98]⟩, ⟨1, [97]⟩]
    s.ignored.length = 1 ∧ InSync s ∧ p.Perm s.userWords ∧ p ≠ s.userWords ∧
    (step (step s₀ (.importWords p)).1 (.lint Wit.textC 0 alts)).2
      = .lints [⟨Wit.A', [97, 98, 99, 100, 101], 0⟩] := by
  intro alts s s₀ p
  have hinv : Inv s := state_invariant _
  have hsync : InSync s := by decide +kernel
  have hp : p.Perm s.userWords := List.Perm.swap _ _ _
  refine ⟨by decide +kernel, hsync, hp, by decide +kernel, ?_⟩
  rw [(export_import_words_restores_partial s s₀ hinv hsync rfl rfl rfl p hp Wit.textC 0 alts).2.2.2]
  decide +kernel

/-- The FULL clause for custom words is **false of the code**: `import_words` re-synchronises only
when the number of entries grew, and `WordId` is case-insensitive. History: `import_words(["zqxv"])`,
then `import_words(["Zqxv"])` — the user dictionary (and `export_words`) now says `Zqxv`, the
dictionary in force still says `zqxv`. A fresh linter importing the export lints with `Zqxv`.
With the raw lints of a text for both dictionaries differing (as they do for the text `zqxv`:
flagged under `{Zqxv}`, accepted under `{zqxv}`), the two linters answer differently. -/
theorem words_stale_not_restored :
    Wit.staleState = final init [.importWords [Wit.z], .importWords [Wit.Z]] ∧
    Wit.freshState = (step init (.importWords Wit.staleState.userWords)).1 ∧
    ¬ InSync Wit.staleState ∧ Inv Wit.staleState ∧ InSync Wit.freshState ∧
    Wit.freshState.userWords = Wit.staleState.userWords ∧
    (step Wit.staleState (.lint Wit.textZ 0 Wit.altsZ)).2 = .lints [] ∧
    (step Wit.freshState (.lint Wit.textZ 0 Wit.altsZ)).2
      = .lints [⟨Wit.L, [122, 113, 120, 118], 0⟩] := by
  refine ⟨rfl, rfl, ?_, ?_, ?_, ?_, ?_, ?_⟩ <;> decide +kernel

/-! ### config -/

/-- `get_lint_config` → `set_lint_config` on a fresh linter restores the config; the `lint` overlay
(`fill_with_curated`, then restore) never changes it -/
theorem config_roundtrip (s s₀ : State) (hinv : Inv s) (h₀ : s₀.config = []) :
    (step s .getConfig).2 = .config s.config ∧
    (step s₀ (.setConfig (s.config.map (fun e => (e.1, some e.2))))).1.config = s.config ∧
    ∀ text lang alts, (step s (.lint text lang alts)).1.config = s.config := by
  refine ⟨rfl, ?_, fun text lang alts => by rw [step_lint_fst]⟩
  rw [step, h₀]
  exact (mergeConfig_fresh s.config [] (by rw [List.nil_append]; exact hinv.2.2.2)).trans
    (List.nil_append _)

/-- non-vacuity of config_roundtrip: a reachable config of two entries -/
example :
    let s : State := final init [.setConfig [(5, some true), (6, none), (7, some false)], .setConfig [(5, some false)]]
    Inv s ∧ s.config = [(5, false), (7, false)] ∧
    (step init (.setConfig (s.config.map (fun e => (e.1, some e.2))))).1.config = s.config := by
  intro s
  have hinv : Inv s := state_invariant _
  exact ⟨hinv, by decide +kernel, (config_roundtrip s init hinv rfl).2.1⟩

/-! ### C13's strong theorems carried through `dedup` / `lintCore` / `step`

The strong C13 theorems (`removeOverlaps_sublist_isort`, `isort_key_sorted`, `isort_stable`,
`kept_or_starts_inside_kept`) about the raw lints: `sortedRaw raw`
(`Lemmas/Wasm.lean`) is THE stable sort of the group's lints by `(start, !0 - end)` (`sortedRaw_perm`,
`sortedRaw_sorted`, `sortedRaw_stable`). -/

/-- **What `Linter::lint` (JS API) returns, from every state.** If the dictionary in force selects the alternative `a`
whose raw lints (the group's output) point into the text, the call returns a list `ls` (no panic, state unchanged) and
* `ls` is a SUB-LIST of the group's lints in `remove_overlaps`' stable sort order — nothing invented, altered, or
  reordered beyond that sort;
* `ls` is pairwise disjoint (`x.end ≤ y.start` for `x` before `y`) and every lint is in range, none of them ignored;
* nothing is lost silently: every lint of the group is returned, or is ignored, or starts inside a lint that
  `remove_overlaps` kept (which may itself have been ignored afterwards — `remove_overlaps` runs BEFORE `remove_ignored`). -/
theorem lint_returns_disjoint_sublist_of_group (s : State) (text : List Nat) (lang : Nat) (alts : List Alt) (a : Alt)
    (hpick : pickAlt s.synced alts = some a) (hok : RawOK text a) :
    ∃ ls, step s (.lint text lang alts) = (s, .lints ls) ∧
      (ls.map (·.lint)).Sublist (sortedRaw a.raw) ∧
      ls.Pairwise (fun x y => x.lint.stop ≤ y.lint.start) ∧
      (∀ w ∈ ls, w.lint.start ≤ w.lint.stop ∧ w.lint.stop ≤ text.length ∧ contextOf w.lint a.toks ∉ s.ignored) ∧
      (∀ d ∈ a.raw, d ∈ ls.map (·.lint) ∨ contextOf d a.toks ∈ s.ignored ∨
        ∃ k ∈ dedup a.raw, k.start ≤ d.start ∧ d.start < k.stop) := by
  obtain ⟨ls, hls, hmap, hin, hdis, _⟩ := lintCore_spec s.ignored text lang a.raw a.toks hok
  have hstep : step s (.lint text lang alts) = (s, .lints ls) := by simp only [step_lint, hpick, hls]
  refine ⟨ls, hstep, ?_, hdis, fun w hw => ?_, fun d hd => ?_⟩
  · rw [hmap]
    exact List.filter_sublist.trans (dedup_sublist_sortedRaw a.raw)
  · exact ⟨(hin w hw).2.1, (hin w hw).2.2, lintCore_not_ignored hls hw⟩
  · rcases dedup_kept_or_covered a.raw d hd with hk | hc
    · by_cases hig : contextOf d a.toks ∈ s.ignored
      · exact Or.inr (Or.inl hig)
      · exact Or.inl (hmap ▸ List.mem_filter.mpr ⟨hk, decide_eq_true hig⟩)
    · exact Or.inr (Or.inr hc)

/-- non-vacuity: `abcdef gh`, the group hands over `[C, B, A']` (C = 7..9, B = 3..6 overlapping A' = 0..5); stably sorted
that is `[A', B, C]`; after `ignore C` the call returns `[A']`: B starts inside the kept A', C is ignored -/
example : sortedRaw [Wit.C, Wit.B, Wit.A'] = [Wit.A', Wit.B, Wit.C] ∧ dedup [Wit.C, Wit.B, Wit.A'] = [Wit.A', Wit.C] := by
  decide +kernel

example :
    let s := (step init (.ignore Wit.C Wit.altsC)).1
    ∃ ls, step s (.lint Wit.textC 0 Wit.altsC) = (s, .lints ls) ∧
      (ls.map (·.lint)).Sublist (sortedRaw [Wit.C, Wit.B, Wit.A']) ∧
      ls.Pairwise (fun x y => x.lint.stop ≤ y.lint.start) ∧
      (∀ w ∈ ls, w.lint.start ≤ w.lint.stop ∧ w.lint.stop ≤ Wit.textC.length ∧
        contextOf w.lint Wit.toksC ∉ s.ignored) ∧
      (∀ d ∈ [Wit.C, Wit.B, Wit.A'], d ∈ ls.map (·.lint) ∨ contextOf d Wit.toksC ∈ s.ignored ∨
        ∃ k ∈ dedup [Wit.C, Wit.B, Wit.A'], k.start ≤ d.start ∧ d.start < k.stop) :=
  lint_returns_disjoint_sublist_of_group _ Wit.textC 0 Wit.altsC ⟨[], [Wit.C, Wit.B, Wit.A'], Wit.toksC⟩
    (by decide +kernel) (by decide +kernel)

/-- the third disjunct is needed as stated (`k ∈ dedup`, not `k` returned): ignoring A' hides A' AND leaves B hidden —
B starts inside A', which `remove_overlaps` kept and `remove_ignored` then removed; neither is returned -/
example :
    (step (step init (.ignore Wit.A' Wit.altsC)).1 (.lint Wit.textC 0 Wit.altsC)).2
      = .lints [⟨Wit.C, [103, 104], 0⟩] := by decide +kernel

/-- … over every call of every sequence of calls, from every state -/
theorem lints_disjoint_sublist_of_group (s : State) (ops : List Op) :
    AllCalls DisjointSublistOfGroup s ops := by
  apply run_forall₂
  intro s op
  cases op with
  | lint text lang alts =>
    intro hok
    cases hp : pickAlt s.synced alts with
    | none => exact Or.inl (by rw [step_lint, hp])
    | some a =>
      have hm : a ∈ alts := pickAlt_mem hp
      obtain ⟨ls, hstep, hsub, hdis, _, _⟩ :=
        lint_returns_disjoint_sublist_of_group s text lang alts a hp (hok a hm)
      exact Or.inr ⟨ls, by rw [hstep], hdis, a, hm, hsub⟩
  | _ => trivial

/-- non-vacuity: a three-call history with two `lint` calls around an `ignore` -/
example : AllCalls DisjointSublistOfGroup init
    [.lint Wit.textC 0 Wit.altsC, .ignore Wit.C Wit.altsC, .lint Wit.textC 0 Wit.altsC] :=
  lints_disjoint_sublist_of_group _ _

/-! ### Non-vacuity and witnesses (concrete, kernel-evaluated) -/

/-- a history through every kind of call: two overlapping raw lints and a third; ignore, export,
clear, import; the hypotheses (`RawOK`, the alternative in force exists) hold of it -/
example :
    (∀ a ∈ Wit.altsC, RawOK Wit.textC a) ∧
    run init [.lint Wit.textC 0 Wit.altsC, .apply Wit.textC ⟨0, 5⟩ (.replaceWith [88]),
        .ignore Wit.C Wit.altsC, .lint Wit.textC 0 Wit.altsC, .exportIgnored, .clearIgnored,
        .lint Wit.textC 0 Wit.altsC, .importIgnored [contextOf Wit.C Wit.toksC],
        .lint Wit.textC 0 Wit.altsC, .statsCount]
      = [.lints [⟨Wit.A', [97, 98, 99, 100, 101], 0⟩, ⟨Wit.C, [103, 104], 0⟩],
         .text [88, 102, 32, 103, 104], .unit,
         .lints [⟨Wit.A', [97, 98, 99, 100, 101], 0⟩], .ignoredList [contextOf Wit.C Wit.toksC], .unit,
         .lints [⟨Wit.A', [97, 98, 99, 100, 101], 0⟩, ⟨Wit.C, [103, 104], 0⟩], .unit,
         .lints [⟨Wit.A', [97, 98, 99, 100, 101], 0⟩], .count 1] := by
  constructor <;> decide +kernel

/-- the hypotheses of `ignore_removes_exactly_context_partial` hold of that history's first call, and its
conclusion is not trivial: something is removed, something stays -/
example :
    pickAlt init.synced Wit.altsC = some ⟨[], [Wit.C, Wit.B, Wit.A'], Wit.toksC⟩ ∧
    (step init (.lint Wit.textC 0 Wit.altsC)).2
      = .lints [⟨Wit.A', [97, 98, 99, 100, 101], 0⟩, ⟨Wit.C, [103, 104], 0⟩] ∧
    (step (final (step init (.ignore Wit.C Wit.altsC)).1 [.getConfig, .exportWords])
        (.lint Wit.textC 0 Wit.altsC)).2 = .lints [⟨Wit.A', [97, 98, 99, 100, 101], 0⟩] := by
  refine ⟨?_, ?_, ?_⟩ <;> decide +kernel

/-- two occurrences with one context disappear together, the lint with another context stays -/
example :
    contextOf Wit.P Wit.toksP = contextOf Wit.Q Wit.toksP ∧
    contextOf Wit.R Wit.toksP ≠ contextOf Wit.P Wit.toksP ∧
    run init [.lint Wit.textP 0 Wit.altsP, .ignore Wit.P Wit.altsP, .lint Wit.textP 0 Wit.altsP]
      = [.lints [⟨Wit.P, [97, 98], 0⟩, ⟨Wit.Q, [97, 98], 0⟩, ⟨Wit.R, [97, 98], 0⟩], .unit,
         .lints [⟨Wit.R, [97, 98], 0⟩]] := by
  refine ⟨?_, ?_, ?_⟩ <;> decide +kernel

/-- a raw lint that does not point into the text makes `lint` panic (`get_content`), as the code
does: `RawOK` is needed -/
example : (step init (.lint [97] 0 [⟨[], [⟨1, 0, 2, 0, [], [], 0⟩], []⟩])).2 = .panic .sliceOOB := by
  decide +kernel

/-- no alternative for the dictionary in force: the model says so instead of guessing -/
example : (step (final init [.importWords [⟨1, [97]⟩]]) (.lint [97] 0 [⟨[], [], []⟩])).2 = .noAlt := by
  decide +kernel

/-- the user dictionary: a new key appends and synchronises, a known key replaces in place and does
not; the config: `null` entries are skipped, known rules are replaced in place -/
example :
    (final init [.importWords [⟨1, [97]⟩, ⟨2, [98]⟩], .importWords [⟨1, [65]⟩],
      .setConfig [(5, some true), (6, none), (7, some false)], .setConfig [(5, some false)]])
    = ⟨[], [⟨1, [65]⟩, ⟨2, [98]⟩], [⟨1, [97]⟩, ⟨2, [98]⟩], [(5, false), (7, false)], 0⟩ := by
  decide +kernel

/-- `export_import_words_restores_partial` is not vacuous: a state in sync with two words, and the
export read back in the other order -/
example :
    Inv (final init [.importWords [⟨1, [97]⟩, ⟨2, [98]⟩]]) ∧
    InSync (final init [.importWords [⟨1, [97]⟩, ⟨2, [98]⟩]]) ∧
    [(⟨2, [98]⟩ : Word), ⟨1, [97]⟩].Perm (final init [.importWords [⟨1, [97]⟩, ⟨2, [98]⟩]]).userWords := by
  refine ⟨by decide +kernel, by decide +kernel, ?_⟩
  exact List.Perm.swap _ _ _

end Harper.C16
