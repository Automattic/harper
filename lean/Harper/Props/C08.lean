import Harper.Lemmas.PosConv
import Harper.Props.C03
/-!
# C08 — diagnostics and quick-fix edits land exactly on the flagged text

Property theorems only; helper lemmas are in `Harper/Lemmas/PosConv.lean`. The model
(`Harper/Model/PosConv.lean`) is `pos_conv.rs` line by line plus the `TextEdit` construction of
`diagnostics.rs`, the filter of `generate_code_actions`, and an LSP client (`clientOffset`,
`clientApply`: the specification side). `len16` is `char::len_utf16`; the theorems hold for any
`len16 ≥ 1`.

Vocabulary: `lineOf src i` = number of `'\n'` before `i`; `newlines src` = number of `'\n'`;
`NoLoneCR src` = every `'\r'` is followed by `'\n'`; `InsideCRLF src i` = `i` is between the
`'\r'` and `'\n'` of one terminator; `LineStart pre` = `pre` is empty or ends in `'\n'`.
-/
namespace Harper.PosConv

/-- `char::len_utf16` on the characters used in the examples -/
def len16Ex (c : Char) : Nat := if c = '😀' then 2 else 1

/-- the text of the last-line witness: `"First line.\nSecnd line"` -/
def firstSecnd : List Char :=
  ['F','i','r','s','t',' ','l','i','n','e','.','\n','S','e','c','n','d',' ','l','i','n','e']

end Harper.PosConv

namespace Harper.C08
open Harper Harper.PosConv

/-! ### `index_to_position` is right -/

/-- `index_to_position` of an index inside the text never panics; `line` is the number of `'\n'`
before the index and `character` the UTF-16 width of the text since the last `'\n'`
(`pre` = the complete lines before, `tail` = the current line up to the index). -/
theorem indexToPosition_spec (len16 : Char → Nat) (src : List Char) (i : Nat)
    (hi : i ≤ src.length) :
    ∃ p, indexToPosition len16 src i = .ok p ∧ p.line = lineOf src i ∧
      ∃ pre tail, src.take i = pre ++ tail ∧ LineStart pre ∧ '\n' ∉ tail ∧
        p.character = sum16 len16 tail := by
  obtain ⟨pre, tail, rest, rfl, rfl, hp, ht⟩ := decomp_at src i hi
  refine ⟨_, indexToPosition_decomp len16 pre tail rest hp ht, ?_, pre, tail,
    take_pre_tail pre tail rest, hp, ht, rfl⟩
  exact (lineOf_decomp pre tail rest ht).symm

/-- … and panics (slice out of bounds) for an index beyond the end. -/
theorem indexToPosition_panics (len16 : Char → Nat) (src : List Char) (i : Nat)
    (hi : src.length < i) : indexToPosition len16 src i = .error .sliceOOB := by
  unfold indexToPosition slice
  simp [hi]

example : indexToPosition len16Ex firstSecnd 12 = .ok ⟨1, 0⟩ := by decide +kernel
example : indexToPosition len16Ex ['a', '😀', '\n', '😀', 'b'] 4 = .ok ⟨1, 2⟩ := by decide +kernel
example : indexToPosition len16Ex ['a'] 2 = .error .sliceOOB := by decide +kernel

/-- non-vacuity of the hypothesis `∀ c, 1 ≤ len16 c` carried by the theorems below: the example
width function (2 for the astral `😀`, 1 otherwise) satisfies it -/
theorem len16Ex_pos : ∀ c, 1 ≤ len16Ex c := by
  intro c; unfold len16Ex; split <;> omega

/-- … and so does `char::len_utf16` itself (2 from U+10000 on, else 1), whose values are in {1, 2};
`😀` is astral -/
example : ∀ c : Char, (if 0x10000 ≤ c.toNat then 2 else 1 : Nat) = 1 ∨
    (if 0x10000 ≤ c.toNat then 2 else 1 : Nat) = 2 := by
  intro c; split <;> simp
example : len16Ex '😀' = 2 ∧ len16Ex 'a' = 1 ∧ 0x10000 ≤ '😀'.toNat := by decide +kernel

/-! ### `position_to_index ∘ index_to_position`: right except on the last line -/

/-- `position_to_index` never panics: the two popped newline indices are ordered and inside the
text, whatever the position. -/
theorem positionToIndex_total (len16 : Char → Nat) (src : List Char) (p : Position) :
    ∃ i, positionToIndex len16 src p = .ok i := by
  have hL := two_pops_le ((nlIdx 0 src).take (p.line + 1)) src.length
    ((nlIdx_pairwise 0 src).sublist (List.take_sublist _ _))
    (fun x hx => by have := (nlIdx_bounds 0 src x (List.mem_of_mem_take hx)).2; omega)
  unfold positionToIndex slice
  simp only []
  rw [if_neg (by omega)]
  simp only []
  split
  · exact ⟨_, rfl⟩
  · split <;> exact ⟨_, rfl⟩

/-- The round trip index → position → index is the identity for every index that is not on the
last line of a multi-line text (`len16 ≥ 1` is what `char::len_utf16` guarantees). -/
theorem positionToIndex_roundtrip_partial (len16 : Char → Nat) (h16 : ∀ c, 1 ≤ len16 c)
    (src : List Char) (i : Nat) (hi : i ≤ src.length)
    (h : lineOf src i < newlines src ∨ newlines src = 0) :
    ∃ p, indexToPosition len16 src i = .ok p ∧ positionToIndex len16 src p = .ok i := by
  obtain ⟨pre, tail, rest, rfl, rfl, hp, ht⟩ := decomp_at src i hi
  refine ⟨_, indexToPosition_decomp len16 pre tail rest hp ht, ?_⟩
  rw [lineOf_decomp pre tail rest ht, newlines_decomp pre tail rest ht] at h
  rcases h with h | h
  · -- a '\n' follows: the scan runs over this line, terminator included
    obtain ⟨mid, post, rfl, hm⟩ := List.eq_append_cons_of_mem (List.count_pos_iff.mp (by omega) : '\n' ∈ rest)
    have hline : '\n' ∉ tail ++ mid := fun h => (List.mem_append.mp h).elim ht hm
    rw [show pre ++ tail ++ (mid ++ '\n' :: post) = pre ++ ((tail ++ mid) ++ ['\n']) ++ post by simp,
      positionToIndex_line len16 pre (tail ++ mid) post hp hline _ _ (.inl rfl), List.append_assoc,
      scanResult_tail len16 h16]
  · -- no '\n' at all
    have hpre : pre = [] :=
      lineStart_no_nl pre hp fun hm => by have := List.count_pos_iff.mpr hm; omega
    subst hpre
    have hsrc : '\n' ∉ [] ++ tail ++ rest := fun hm =>
      (List.mem_append.mp hm).elim ht fun hm => by have := List.count_pos_iff.mpr hm; omega
    rw [positionToIndex_noNewline len16 _ hsrc, List.nil_append, scanResult_tail len16 h16]
    rfl

/-- non-vacuity: an index on a middle line of a text with CRLF and an astral character, and
the whole of a one-line text, satisfy the hypotheses -/
example : lineOf ['a', '\r', '\n', '😀', 'b', '\n', 'c'] 4 < newlines ['a', '\r', '\n', '😀', 'b', '\n', 'c'] := by
  decide +kernel
example : positionToIndex len16Ex ['a', '\r', '\n', '😀', 'b', '\n', 'c'] ⟨1, 2⟩ = .ok 4 := by decide +kernel
example : newlines ['a', '😀', 'b'] = 0 := by decide +kernel

/-- non-vacuity of `positionToIndex_roundtrip_partial`: the theorem applied to both witnesses
(middle line of a CRLF text after an astral character; a one-line text) -/
example : ∃ p, indexToPosition len16Ex ['a', '\r', '\n', '😀', 'b', '\n', 'c'] 4 = .ok p ∧
    positionToIndex len16Ex ['a', '\r', '\n', '😀', 'b', '\n', 'c'] p = .ok 4 :=
  positionToIndex_roundtrip_partial len16Ex len16Ex_pos _ 4 (by decide +kernel) (Or.inl (by decide +kernel))
example : ∃ p, indexToPosition len16Ex ['a', '😀', 'b'] 2 = .ok p ∧
    positionToIndex len16Ex ['a', '😀', 'b'] p = .ok 2 :=
  positionToIndex_roundtrip_partial len16Ex len16Ex_pos _ 2 (by decide +kernel) (Or.inr (by decide +kernel))

/-- **The round trip is wrong on the last line of a multi-line text** (recorded finding
`c08-last-line`): in `"First line.\nSecnd line"` index 12 (the `S`) is position (1,0), and
position (1,0) is resolved to index 0 — `take(line + 1)` yields only one newline index, so the
two `pop`s select the *previous* line. The repository's tests `end_of_line` and `issue_250` assert this
behaviour. -/
theorem last_line_wrong :
    indexToPosition len16Ex firstSecnd 12 = .ok ⟨1, 0⟩ ∧
    positionToIndex len16Ex firstSecnd ⟨1, 0⟩ = .ok 0 := by decide +kernel

/-- hence the full-strength round-trip statement is false of the code -/
theorem roundtrip_false :
    ¬ ∀ (src : List Char) (i : Nat), i ≤ src.length →
      ∃ p, indexToPosition len16Ex src i = .ok p ∧ positionToIndex len16Ex src p = .ok i := by
  intro h
  obtain ⟨p, h1, h2⟩ := h firstSecnd 12 (by decide)
  rw [last_line_wrong.1] at h1
  cases h1
  rw [last_line_wrong.2] at h2
  exact absurd h2 (by decide)

/-- The hypothesis of `positionToIndex_roundtrip_partial` is exact: for **every** index on the
last line of a text with at least one `'\n'` the round trip returns a strictly smaller index
(one on the previous line, or at best the start of the last line). -/
theorem last_line_always_wrong (len16 : Char → Nat)
    (src : List Char) (i : Nat) (hi : i ≤ src.length)
    (hn : 1 ≤ newlines src) (hl : lineOf src i = newlines src) :
    ∃ p k, indexToPosition len16 src i = .ok p ∧ positionToIndex len16 src p = .ok k ∧ k < i := by
  obtain ⟨pre, tail, rest, rfl, rfl, hp, ht⟩ := decomp_at src i hi
  suffices h : ∃ k, positionToIndex len16 (pre ++ tail ++ rest)
      ⟨pre.count '\n', sum16 len16 tail⟩ = .ok k ∧ k < pre.length + tail.length by
    obtain ⟨k, hk, hlt⟩ := h
    exact ⟨_, k, indexToPosition_decomp len16 pre tail rest hp ht, hk, hlt⟩
  rw [lineOf_decomp pre tail rest ht, newlines_decomp pre tail rest ht] at hl
  rw [newlines_decomp pre tail rest ht] at hn
  have hrest : '\n' ∉ rest := fun hm => by have := List.count_pos_iff.mpr hm; omega
  have hpne : pre ≠ [] := by rintro rfl; simp only [List.count_nil] at hn hl; omega
  -- pre = pre0 ++ line ++ "\n"
  obtain ⟨pre1, rfl⟩ := hp.eq_append_nl hpne
  obtain ⟨pre0, line, rfl, hp0, hline⟩ := split_last_nl pre1
  have hcnt : (pre0 ++ line ++ ['\n']).count '\n' = pre0.count '\n' + 1 := by
    simp [List.count_append, List.count_eq_zero.mpr hline]
  have hlast : '\n' ∉ tail ++ rest := fun h => (List.mem_append.mp h).elim ht hrest
  rw [show pre0 ++ line ++ ['\n'] ++ tail ++ rest = pre0 ++ (line ++ ['\n']) ++ (tail ++ rest) by simp,
    hcnt, positionToIndex_line len16 pre0 line (tail ++ rest) hp0 hline _ _ (.inr ⟨by omega, hlast⟩)]
  refine ⟨_, rfl, ?_⟩
  rw [List.append_assoc pre0, List.length_append]
  by_cases htl : tail = []
  · subst htl
    rw [show sum16 len16 [] = 0 from rfl, scanResult_zero len16 _ (by simp)]
    simp
  · have := scanResult_le len16 (sum16 len16 tail) pre0.length (line ++ ['\n'])
    have := List.length_pos_iff.mpr htl
    omega

/-- non-vacuity of `last_line_always_wrong` -/
example : 1 ≤ newlines firstSecnd ∧ lineOf firstSecnd 12 = newlines firstSecnd := by decide +kernel

/-- the same after a trailing newline (`"a\n"`, index 2 = end of text ↦ (1,0) ↦ 0) -/
example : indexToPosition len16Ex ['a', '\n'] 2 = .ok ⟨1, 0⟩ ∧
    positionToIndex len16Ex ['a', '\n'] ⟨1, 0⟩ = .ok 0 := by decide +kernel

/-- **Exact characterisation of the round trip**, both directions in one statement: for an index
inside the text, index → position → index returns the index **iff** the index is not on the last
line of a text that has at least one `'\n'` (`positionToIndex_roundtrip_partial` is `←`,
`last_line_always_wrong` gives `→`). -/
theorem roundtrip_iff (len16 : Char → Nat) (h16 : ∀ c, 1 ≤ len16 c)
    (src : List Char) (i : Nat) (hi : i ≤ src.length) :
    (∃ p, indexToPosition len16 src i = .ok p ∧ positionToIndex len16 src p = .ok i) ↔
      (lineOf src i < newlines src ∨ newlines src = 0) := by
  constructor
  · rintro ⟨p, hp, hpi⟩
    by_cases h : lineOf src i < newlines src ∨ newlines src = 0
    · exact h
    · exfalso
      have hle : lineOf src i ≤ newlines src := (List.take_sublist i src).count_le '\n'
      obtain ⟨p', k, hp', hk, hlt⟩ := last_line_always_wrong len16 src i hi (by omega) (by omega)
      rw [hp] at hp'; cases hp'
      rw [hpi] at hk; cases hk; omega
  · exact positionToIndex_roundtrip_partial len16 h16 src i hi

/-- non-vacuity of `roundtrip_iff`, the failing side: no position round-trips index 12 of
`"First line.\nSecnd line"` -/
example : ¬ ∃ p, indexToPosition len16Ex firstSecnd 12 = .ok p ∧
    positionToIndex len16Ex firstSecnd p = .ok 12 := by
  rw [roundtrip_iff len16Ex len16Ex_pos firstSecnd 12 (by decide +kernel)]; decide +kernel

/-! ### A client reads every range exactly where the lint is -/

/-- Strong form: if no `'\r'` before `i` lacks its `'\n'` *within the text before `i`* (this
excludes both a lone `'\r'` before `i` and `i` sitting between `'\r'` and `'\n'`), an LSP client
decodes the position the server sends for `i` as `i`. -/
theorem client_decode_encode_prefix (len16 : Char → Nat) (h16 : ∀ c, 1 ≤ len16 c)
    (src : List Char) (i : Nat) (hi : i ≤ src.length) (hcr : NoLoneCR (src.take i)) :
    ∃ p, indexToPosition len16 src i = .ok p ∧ clientOffset len16 src p = i := by
  obtain ⟨pre, tail, rest, rfl, rfl, hp, ht⟩ := decomp_at src i hi
  refine ⟨_, indexToPosition_decomp len16 pre tail rest hp ht, ?_⟩
  rw [take_pre_tail] at hcr
  have hpre := NoLoneCR_pre pre tail hp hcr
  have htl := tail_no_cr pre tail ht hcr
  simp only [clientOffset]
  rw [List.append_assoc, clientOffsetLC_lines len16 pre (tail ++ rest) _ hp hpre,
    clientOffsetLC_zero, clientCol_tail len16 h16 tail rest ht htl]

/-- non-vacuity of `client_decode_encode_prefix`: a lone `'\r'` AFTER the index does no harm (the
text as a whole is not `NoLoneCR`, so `client_decode_encode` does not apply) -/
example : ∃ p, indexToPosition len16Ex ['a', '😀', '\r', 'b'] 2 = .ok p ∧
    clientOffset len16Ex ['a', '😀', '\r', 'b'] p = 2 :=
  client_decode_encode_prefix len16Ex len16Ex_pos _ 2 (by decide +kernel) (by decide +kernel)
example : ¬ NoLoneCR ['a', '😀', '\r', 'b'] := by decide +kernel

/-- In a text where every `'\r'` is followed by `'\n'`, for every index
that is not between a `'\r'` and its `'\n'`, the client decodes the server's position as that
index. -/
theorem client_decode_encode (len16 : Char → Nat) (h16 : ∀ c, 1 ≤ len16 c)
    (src : List Char) (i : Nat) (hcr : NoLoneCR src) (hin : ¬ InsideCRLF src i)
    (hi : i ≤ src.length) :
    ∃ p, indexToPosition len16 src i = .ok p ∧ clientOffset len16 src p = i := by
  apply client_decode_encode_prefix len16 h16 src i hi
  intro j hj hc
  have hji : j < i := by simp only [List.length_take] at hj; omega
  rw [List.getElem?_take_of_lt hji] at hc
  have h1 := hcr j (by omega) hc
  by_cases hlt : j + 1 < i
  · rwa [List.getElem?_take_of_lt hlt]
  · exfalso
    apply hin
    have hij : i = j + 1 := by omega
    subst hij
    exact ⟨by omega, by simpa using hc, h1⟩

/-- non-vacuity: a CRLF text with an astral character; index 4 is after `😀` on line 1 -/
example : NoLoneCR ['a', '\r', '\n', '😀', 'b'] ∧ ¬ InsideCRLF ['a', '\r', '\n', '😀', 'b'] 4 := by decide +kernel
example : indexToPosition len16Ex ['a', '\r', '\n', '😀', 'b'] 4 = .ok ⟨1, 2⟩ ∧
    clientOffset len16Ex ['a', '\r', '\n', '😀', 'b'] ⟨1, 2⟩ = 4 := by decide +kernel

/-- non-vacuity of `client_decode_encode`: the theorem applied to that witness -/
example : ∃ p, indexToPosition len16Ex ['a', '\r', '\n', '😀', 'b'] 4 = .ok p ∧
    clientOffset len16Ex ['a', '\r', '\n', '😀', 'b'] p = 4 :=
  client_decode_encode len16Ex len16Ex_pos _ 4 (by decide +kernel) (by decide +kernel) (by decide +kernel)

/-- the side condition `¬ InsideCRLF` is needed: index 2 of `"a\r\nb"` is sent as (0,2), which a
client clamps to the end of line 0 = index 1 (real lints never end there: monitored by the
harness) -/
theorem inside_crlf_needed :
    NoLoneCR ['a', '\r', '\n', 'b'] ∧ InsideCRLF ['a', '\r', '\n', 'b'] 2 ∧
    indexToPosition len16Ex ['a', '\r', '\n', 'b'] 2 = .ok ⟨0, 2⟩ ∧
    clientOffset len16Ex ['a', '\r', '\n', 'b'] ⟨0, 2⟩ = 1 := by decide +kernel

/-- the side condition `NoLoneCR` is needed, and this one is a defect of the server (recorded
finding `c08-lone-cr`): LSP ends a line at a lone `'\r'`, `pos_conv.rs` does not. In `"a\rb"`
the `b` (index 2) is published as (0,2); the client has it at (1,0) and reads (0,2) as index 1. -/
theorem lone_cr_misplaced :
    ¬ NoLoneCR ['a', '\r', 'b'] ∧ ¬ InsideCRLF ['a', '\r', 'b'] 2 ∧
    indexToPosition len16Ex ['a', '\r', 'b'] 2 = .ok ⟨0, 2⟩ ∧
    clientOffset len16Ex ['a', '\r', 'b'] ⟨0, 2⟩ = 1 ∧
    clientOffset len16Ex ['a', '\r', 'b'] ⟨1, 0⟩ = 2 := by decide +kernel

/-- Every diagnostic range, read by a client, covers exactly the lint's characters. -/
theorem diagnostic_range_exact (len16 : Char → Nat) (h16 : ∀ c, 1 ≤ len16 c)
    (src : List Char) (sp : Span) (hel : sp.stop ≤ src.length) (hse : sp.start ≤ sp.stop)
    (hcr : NoLoneCR src) (h1 : ¬ InsideCRLF src sp.start) (h2 : ¬ InsideCRLF src sp.stop) :
    ∃ r, spanToRange len16 src sp = .ok r ∧
      clientOffset len16 src r.start = sp.start ∧ clientOffset len16 src r.stop = sp.stop := by
  obtain ⟨p, hp, hpc⟩ := client_decode_encode len16 h16 src sp.start hcr h1 (by omega)
  obtain ⟨q, hq, hqc⟩ := client_decode_encode len16 h16 src sp.stop hcr h2 hel
  exact ⟨⟨p, q⟩, by simp [spanToRange, hp, hq], hpc, hqc⟩

/-- non-vacuity of `diagnostic_range_exact`: the lint `😀b` on line 1 of a CRLF text; its range is
(1,0)–(1,3) (the astral character is two columns wide) -/
example : ∃ r, spanToRange len16Ex ['a', '\r', '\n', '😀', 'b', '\n'] ⟨3, 5⟩ = .ok r ∧
    clientOffset len16Ex ['a', '\r', '\n', '😀', 'b', '\n'] r.start = 3 ∧
    clientOffset len16Ex ['a', '\r', '\n', '😀', 'b', '\n'] r.stop = 5 :=
  diagnostic_range_exact len16Ex len16Ex_pos _ ⟨3, 5⟩ (by decide +kernel) (by decide +kernel) (by decide +kernel)
    (by decide +kernel) (by decide +kernel)
example : spanToRange len16Ex ['a', '\r', '\n', '😀', 'b', '\n'] ⟨3, 5⟩ = .ok ⟨⟨1, 0⟩, ⟨1, 3⟩⟩ := by
  decide +kernel

/-! ### Quick-fix edits -/

/-- For a lint span inside the text, the `TextEdit` the server builds for any
of the three suggestion kinds, applied the way a client applies it, gives exactly the text that
applying the suggestion to the character span gives. -/
theorem textEdit_equiv (len16 : Char → Nat) (h16 : ∀ c, 1 ≤ len16 c)
    (src : List Char) (sugg : Sugg) (sp : Span)
    (hse : sp.start ≤ sp.stop) (hel : sp.stop ≤ src.length)
    (hcr : NoLoneCR src) (h1 : ¬ InsideCRLF src sp.start) (h2 : ¬ InsideCRLF src sp.stop) :
    ∃ e, editOf len16 src sugg sp = .ok e ∧ clientApply len16 src e = applySpec sugg sp src := by
  obtain ⟨r, hr, hs, he⟩ := diagnostic_range_exact len16 h16 src sp hel hse hcr h1 h2
  refine ⟨_, editOf_eq hr hse hel sugg, ?_⟩
  cases sugg with
  | replaceWith x => simp only [clientApply, applySpec, hs, he]
  | remove => simp only [clientApply, applySpec, hs, he, List.append_nil]
  | insertAfter x =>
    simp only [clientApply, applySpec, hs, he, ← take_append_flagged src hse, List.append_assoc]

/-- non-vacuity: insert `!` after `😀b` on line 1 of a CRLF text -/
example : editOf len16Ex ['a', '\r', '\n', '😀', 'b', '\n'] (.insertAfter ['!']) ⟨3, 5⟩ =
    .ok ⟨⟨⟨1, 0⟩, ⟨1, 3⟩⟩, ['😀', 'b', '!']⟩ := by decide +kernel
example : clientApply len16Ex ['a', '\r', '\n', '😀', 'b', '\n'] ⟨⟨⟨1, 0⟩, ⟨1, 3⟩⟩, ['😀', 'b', '!']⟩ =
    ['a', '\r', '\n', '😀', 'b', '!', '\n'] := by decide +kernel

/-- non-vacuity of `textEdit_equiv`: the theorem applied to that edit, and to a replacement on the
LAST line of a multi-line text without trailing newline (edits are right there: the client decodes
the range, `position_to_index` is not involved) -/
example : ∃ e, editOf len16Ex ['a', '\r', '\n', '😀', 'b', '\n'] (.insertAfter ['!']) ⟨3, 5⟩ = .ok e ∧
    clientApply len16Ex ['a', '\r', '\n', '😀', 'b', '\n'] e =
      applySpec (.insertAfter ['!']) ⟨3, 5⟩ ['a', '\r', '\n', '😀', 'b', '\n'] :=
  textEdit_equiv len16Ex len16Ex_pos _ _ ⟨3, 5⟩ (by decide +kernel) (by decide +kernel) (by decide +kernel) (by decide +kernel)
    (by decide +kernel)
example : ∃ e, editOf len16Ex firstSecnd (.replaceWith ['S', 'e', 'c', 'o', 'n', 'd']) ⟨12, 17⟩ = .ok e ∧
    clientApply len16Ex firstSecnd e =
      applySpec (.replaceWith ['S', 'e', 'c', 'o', 'n', 'd']) ⟨12, 17⟩ firstSecnd :=
  textEdit_equiv len16Ex len16Ex_pos _ _ ⟨12, 17⟩ (by decide +kernel) (by decide +kernel) (by decide +kernel) (by decide +kernel)
    (by decide +kernel)

/-- `textEdit_equiv` against the model of the REAL `Suggestion::apply` (`Harper/Model/Suggestion.lean`,
the definition the driver op `apply` of C03 runs) instead of the splice `applySpec` written for this
file: the client's result is exactly what `Suggestion::apply` returns, which in particular does not
panic. -/
theorem textEdit_equiv_apply (len16 : Char → Nat) (h16 : ∀ c, 1 ≤ len16 c)
    (src : List Char) (sugg : Sugg) (sp : Span)
    (hse : sp.start ≤ sp.stop) (hel : sp.stop ≤ src.length)
    (hcr : NoLoneCR src) (h1 : ¬ InsideCRLF src sp.start) (h2 : ¬ InsideCRLF src sp.stop) :
    ∃ e, editOf len16 src sugg sp = .ok e ∧
      (match sugg with
        | .replaceWith r => Suggestion.replaceWith r
        | .insertAfter r => Suggestion.insertAfter r
        | .remove => (Suggestion.remove : Suggestion Char)).apply sp src
        = .ok (clientApply len16 src e) := by
  obtain ⟨e, he, hc⟩ := textEdit_equiv len16 h16 src sugg sp hse hel hcr h1 h2
  refine ⟨e, he, ?_⟩
  rw [hc]
  cases sugg with
  | replaceWith r => simpa [applySpec] using C03.apply_replace src r sp hse hel
  | remove => simpa [applySpec] using C03.apply_remove src sp hse hel
  | insertAfter r =>
    rw [C03.apply_insertAfter src r sp hse hel]
    simp only [applySpec, ← take_append_flagged src hse, List.append_assoc]

/-! ### Code actions -/

/-- A code-action request whose start is the position of any
character `i` of a non-empty lint (and whose end is the position of any `j ≥ i`; `j = i` is a
caret) selects that lint — **provided** neither `i` nor `j` is on the last line of a multi-line
text. What is missing is exactly the recorded finding: on that last line the lint is *not* found
(`last_line_no_actions`) and a range request can panic (`last_line_request_panics`). -/
theorem codeActions_found_partial (len16 : Char → Nat) (h16 : ∀ c, 1 ≤ len16 c)
    (src : List Char) (lint : Span) (i j : Nat)
    (hs : lint.start ≤ i) (he : i < lint.stop) (hij : i ≤ j) (hj : j ≤ src.length)
    (hli : lineOf src i < newlines src ∨ newlines src = 0)
    (hlj : lineOf src j < newlines src ∨ newlines src = 0) :
    ∃ p q, indexToPosition len16 src i = .ok p ∧ indexToPosition len16 src j = .ok q ∧
      selects len16 src ⟨p, q⟩ lint = .ok true := by
  obtain ⟨p, hp, hpi⟩ := positionToIndex_roundtrip_partial len16 h16 src i (by omega) hli
  obtain ⟨q, hq, hqj⟩ := positionToIndex_roundtrip_partial len16 h16 src j hj hlj
  refine ⟨p, q, hp, hq, ?_⟩
  simp only [selects, rangeToSpan, hpi, hqj, Span.new_of_le hij, Span.overlapsWith, Span.withLen]
  have h1 : lint.start < i + 1 := by omega
  simp [h1, he]

/-- non-vacuity: the lint `😀b` on line 1 of three, caret before `b` -/
example : selects len16Ex ['a', '\n', '😀', 'b', '\n', 'c'] ⟨⟨1, 2⟩, ⟨1, 2⟩⟩ ⟨2, 4⟩ = .ok true := by decide +kernel

/-- non-vacuity of `codeActions_found_partial`: the theorem applied to a selection from before `b`
to the end of the lint `😀b` on line 1 of three -/
example : ∃ p q, indexToPosition len16Ex ['a', '\n', '😀', 'b', '\n', 'c'] 3 = .ok p ∧
    indexToPosition len16Ex ['a', '\n', '😀', 'b', '\n', 'c'] 4 = .ok q ∧
    selects len16Ex ['a', '\n', '😀', 'b', '\n', 'c'] ⟨p, q⟩ ⟨2, 4⟩ = .ok true :=
  codeActions_found_partial len16Ex len16Ex_pos _ ⟨2, 4⟩ 3 4 (by decide +kernel) (by decide +kernel) (by decide +kernel)
    (by decide +kernel) (Or.inl (by decide +kernel)) (Or.inl (by decide +kernel))

/-- the hypothesis `i < lint.stop` is sharp: a caret AT the end position of the range ((1,3), index 4)
does not select the lint -/
example : selects len16Ex ['a', '\n', '😀', 'b', '\n', 'c'] ⟨⟨1, 3⟩, ⟨1, 3⟩⟩ ⟨2, 4⟩ = .ok false := by
  decide +kernel

/-- on the last line the lint is not found: caret on the `S` of `Secnd` -/
theorem last_line_no_actions :
    selects len16Ex firstSecnd ⟨⟨1, 0⟩, ⟨1, 0⟩⟩ ⟨12, 17⟩ = .ok false := by decide +kernel

/-- … and a selection from the `'\n'` of `"ab\ncd"` to the `c` (both inside the lint `b\nc`)
makes `range_to_span` call `Span::new(2, 0)`, which panics -/
theorem last_line_request_panics :
    indexToPosition len16Ex ['a', 'b', '\n', 'c', 'd'] 2 = .ok ⟨0, 2⟩ ∧
    indexToPosition len16Ex ['a', 'b', '\n', 'c', 'd'] 3 = .ok ⟨1, 0⟩ ∧
    selects len16Ex ['a', 'b', '\n', 'c', 'd'] ⟨⟨0, 2⟩, ⟨1, 0⟩⟩ ⟨1, 4⟩ = .error .spanNew := by decide +kernel

/-! ### "A code-action request inside a diagnostic's range returns that lint's fixes"

`codeActions_found_partial` only says that the `overlaps_with` filter of `generate_code_actions` KEEPS the lint. The three
theorems below are about the edits the request is answered with: `codeActionEdits` (`Lemmas/PosConv.lean`) composes the
model's `rangeToSpan`, `Span.overlapsWith`, `Span.withLen` and `editOf` exactly as `generate_code_actions` /
`lint_to_code_actions` do (`range_to_span(..).with_len(1)`, `.filter(..)`, `.flat_map(lint_to_code_actions)`, one
`TextEdit` per suggestion). What stays outside: the lints are DATA here (that `generate_code_actions` lints under
`new_curated()` merged with the user's configuration, removes the ignored lints and sorts by priority is not
modelled; the order of `lints` below is whatever that pipeline yields), and the range-less commands appended after
the edits. -/

/-- the three constructors of `Sugg` as C03's `Suggestion` (the model of the real `Suggestion::apply`) -/
def toSuggestion : Sugg → Suggestion Char
  | .replaceWith r => .replaceWith r
  | .insertAfter r => .insertAfter r
  | .remove => .remove

/-- `lint_to_code_actions` cannot panic on a suggestion of a lint whose span is inside the text: `span_to_range` and
`get_content_string` succeed (no assumption on line terminators — those only matter for how a CLIENT reads the range). -/
theorem editOf_ok (len16 : Char → Nat) (src : List Char) (sugg : Sugg) (sp : Span)
    (hse : sp.start ≤ sp.stop) (hel : sp.stop ≤ src.length) :
    ∃ e, editOf len16 src sugg sp = .ok e := by
  obtain ⟨a, ha, _⟩ := indexToPosition_spec len16 src sp.start (by omega)
  obtain ⟨b, hb, _⟩ := indexToPosition_spec len16 src sp.stop hel
  exact ⟨_, editOf_eq (r := ⟨a, b⟩) (by simp only [spanToRange, ha, hb]) hse hel sugg⟩

/-- **The answer to a code-action request, exactly.** All lint spans inside the text; the request runs from the
position of `i` to the position of `j ≥ i`, neither on the last line of a multi-line text (the recorded finding,
as in `codeActions_found_partial`). Then `generate_code_actions` does not panic and its quick-fix edits are, in lint
order and per lint in suggestion order, the `TextEdit` of EVERY suggestion of EXACTLY the lints whose span overlaps
the one character at `i` — nothing dropped, nothing added, no edit of a lint elsewhere. -/
theorem codeActions_edits_exact_partial (len16 : Char → Nat) (h16 : ∀ c, 1 ≤ len16 c)
    (src : List Char) (lints : List (Span × List Sugg))
    (hok : ∀ l ∈ lints, l.1.start ≤ l.1.stop ∧ l.1.stop ≤ src.length)
    (i j : Nat) (hi : i < src.length) (hij : i ≤ j) (hj : j ≤ src.length)
    (hli : lineOf src i < newlines src ∨ newlines src = 0)
    (hlj : lineOf src j < newlines src ∨ newlines src = 0) :
    ∃ p q, indexToPosition len16 src i = .ok p ∧ indexToPosition len16 src j = .ok q ∧
      codeActionEdits len16 src ⟨p, q⟩ lints =
        .ok ((lints.filter fun l => l.1.overlapsWith ⟨i, i + 1⟩).flatMap fun l => l.2.map (editOr len16 src l.1)) ∧
      ∀ l ∈ lints, ∀ s ∈ l.2, editOf len16 src s l.1 = .ok (editOr len16 src l.1 s) := by
  obtain ⟨p, hp, hpi⟩ := positionToIndex_roundtrip_partial len16 h16 src i (by omega) hli
  obtain ⟨q, hq, hqj⟩ := positionToIndex_roundtrip_partial len16 h16 src j hj hlj
  have hall : ∀ l ∈ lints, ∀ s ∈ l.2, editOf len16 src s l.1 = .ok (editOr len16 src l.1 s) := by
    intro l hl s _
    obtain ⟨e, he⟩ := editOf_ok len16 src s l.1 (hok l hl).1 (hok l hl).2
    rw [he, editOr_of_ok he]
  refine ⟨p, q, hp, hq, ?_, hall⟩
  simp only [codeActionEdits, rangeToSpan, hpi, hqj, Span.new_of_le hij, Span.withLen]
  exact flatEdits_ok len16 src (editOr len16 src) _
    (fun l hl s hs => hall l (List.mem_filter.1 hl).1 s hs)

/-- **"… returns that lint's fixes."** A request started on any character `i` of a non-empty lint `(lint, suggs)` of
the document is answered with an edit for each of its suggestions, and each of them — when the lint's ends do not
split a `\r\n` — applied by a client gives exactly what `Suggestion::apply` (C03's model) gives on the character
span; and every edit in the answer is such a fix of a lint under `i` (no foreign edits). -/
theorem codeActions_fixes_partial (len16 : Char → Nat) (h16 : ∀ c, 1 ≤ len16 c)
    (src : List Char) (lints : List (Span × List Sugg))
    (hok : ∀ l ∈ lints, l.1.start ≤ l.1.stop ∧ l.1.stop ≤ src.length)
    (hcr : NoLoneCR src)
    (hcrlf : ∀ l ∈ lints, ¬ InsideCRLF src l.1.start ∧ ¬ InsideCRLF src l.1.stop)
    (lint : Span) (suggs : List Sugg) (hmem : (lint, suggs) ∈ lints)
    (i j : Nat) (hs : lint.start ≤ i) (he : i < lint.stop) (hij : i ≤ j) (hj : j ≤ src.length)
    (hli : lineOf src i < newlines src ∨ newlines src = 0)
    (hlj : lineOf src j < newlines src ∨ newlines src = 0) :
    ∃ p q es, indexToPosition len16 src i = .ok p ∧ indexToPosition len16 src j = .ok q ∧
      codeActionEdits len16 src ⟨p, q⟩ lints = .ok es ∧
      (∀ s ∈ suggs, ∃ e ∈ es, editOf len16 src s lint = .ok e ∧
        (toSuggestion s).apply lint src = .ok (clientApply len16 src e)) ∧
      (∀ e ∈ es, ∃ l ∈ lints, l.1.start ≤ i ∧ i < l.1.stop ∧ ∃ s ∈ l.2, editOf len16 src s l.1 = .ok e ∧
        (toSuggestion s).apply l.1 src = .ok (clientApply len16 src e)) := by
  have hlen : lint.stop ≤ src.length := (hok _ hmem).2
  obtain ⟨p, q, hp, hq, hes, hall⟩ :=
    codeActions_edits_exact_partial len16 h16 src lints hok i j (by omega) hij hj hli hlj
  have happly : ∀ l ∈ lints, ∀ s ∈ l.2,
      (toSuggestion s).apply l.1 src = .ok (clientApply len16 src (editOr len16 src l.1 s)) := by
    intro l hl s hs
    obtain ⟨e, he1, he2⟩ := textEdit_equiv_apply len16 h16 src s l.1 (hok l hl).1 (hok l hl).2 hcr
      (hcrlf l hl).1 (hcrlf l hl).2
    rw [hall l hl s hs] at he1
    cases he1
    exact he2
  refine ⟨p, q, _, hp, hq, hes, ?_, ?_⟩
  · intro s hs
    refine ⟨editOr len16 src lint s, ?_, hall _ hmem s hs, happly _ hmem s hs⟩
    simp only [List.mem_flatMap, List.mem_filter, List.mem_map]
    refine ⟨(lint, suggs), ⟨hmem, ?_⟩, s, hs, rfl⟩
    simp [Span.overlapsWith]; omega
  · intro e hemem
    simp only [List.mem_flatMap, List.mem_filter, List.mem_map] at hemem
    obtain ⟨l, ⟨hl, hov⟩, s, hs, rfl⟩ := hemem
    simp [Span.overlapsWith] at hov
    exact ⟨l, hl, by omega, by omega, s, hs, hall l hl s hs, happly l hl s hs⟩

/-- non-vacuity of `codeActions_edits_exact_partial` / `codeActions_fixes_partial`: `srcEx` = `"a\n😀b\nc"`, three lints —
`😀b` (2..4, two suggestions), `a` (0..1, one suggestion, NOT under the caret), `b` (3..4, `Remove`, under the caret
too); the request is a caret before `b` (index 3). The answer: the two edits of the first lint, then the one of the
third, none of the second. -/
def lintsEx : List (Span × List Sugg) :=
  [(⟨2, 4⟩, [.replaceWith ['x'], .insertAfter ['!']]), (⟨0, 1⟩, [.replaceWith ['A']]), (⟨3, 4⟩, [.remove])]
def srcEx : List Char := ['a', '\n', '😀', 'b', '\n', 'c']

example : codeActionEdits len16Ex srcEx ⟨⟨1, 2⟩, ⟨1, 2⟩⟩ lintsEx =
    .ok [⟨⟨⟨1, 0⟩, ⟨1, 3⟩⟩, ['x']⟩, ⟨⟨⟨1, 0⟩, ⟨1, 3⟩⟩, ['😀', 'b', '!']⟩, ⟨⟨⟨1, 2⟩, ⟨1, 3⟩⟩, []⟩] := by decide +kernel

example : ∃ p q es, indexToPosition len16Ex srcEx 3 = .ok p ∧ indexToPosition len16Ex srcEx 3 = .ok q ∧
    codeActionEdits len16Ex srcEx ⟨p, q⟩ lintsEx = .ok es ∧
    (∀ s ∈ [Sugg.replaceWith ['x'], .insertAfter ['!']], ∃ e ∈ es, editOf len16Ex srcEx s ⟨2, 4⟩ = .ok e ∧
      (toSuggestion s).apply ⟨2, 4⟩ srcEx = .ok (clientApply len16Ex srcEx e)) ∧
    (∀ e ∈ es, ∃ l ∈ lintsEx, l.1.start ≤ 3 ∧ 3 < l.1.stop ∧ ∃ s ∈ l.2, editOf len16Ex srcEx s l.1 = .ok e ∧
      (toSuggestion s).apply l.1 srcEx = .ok (clientApply len16Ex srcEx e)) :=
  codeActions_fixes_partial len16Ex len16Ex_pos srcEx lintsEx (by decide +kernel) (by decide +kernel) (by decide +kernel) ⟨2, 4⟩ _
    (by decide +kernel) 3 3 (by decide +kernel) (by decide +kernel) (by decide +kernel) (by decide +kernel) (Or.inl (by decide +kernel)) (Or.inl (by decide +kernel))

/-- the last-line restriction is needed for the edits as for the filter: on the last line of `firstSecnd` the
answer to a caret on `S` is EMPTY although the lint `Secnd` (12..17) has a fix (the recorded finding, seen at the
level of the answer) -/
example : codeActionEdits len16Ex firstSecnd ⟨⟨1, 0⟩, ⟨1, 0⟩⟩ [(⟨12, 17⟩, [.replaceWith ['S', 'e', 'c', 'o', 'n', 'd']])] =
    .ok [] := by decide +kernel

/-- a lint WITHOUT suggestions under the caret contributes no edit and cannot make the call panic even when its span
is outside the text (`span_to_range` sits inside the per-suggestion closure); one WITH a suggestion does -/
example : codeActionEdits len16Ex ['a', 'b'] ⟨⟨0, 0⟩, ⟨0, 0⟩⟩ [(⟨0, 9⟩, [])] = .ok [] ∧
    codeActionEdits len16Ex ['a', 'b'] ⟨⟨0, 0⟩, ⟨0, 0⟩⟩ [(⟨0, 9⟩, [.remove])] = .error .sliceOOB := by decide +kernel

end Harper.C08
