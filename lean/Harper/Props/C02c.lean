import Harper.Props.C02
import Harper.Lemmas.LexExt
/-!
# C02 (third part) — the url / e-mail / hostname lexers are modelled and in bounds

`Harper.Props.C02` proves tiling of `PlainEnglish::parse` for every behaviour of `lex_url`,
`lex_email_address`, `lex_hostname_token` that stays inside the text (`ExtOK`, a hypothesis about
a table handed over by the harness). Here the three lexers are models of the Rust code
(`Harper/Model/LexExt.lean`, tied to the code by the `lexfull` correspondence op, which receives
no table), each is proved to return `1 ≤ n ≤ remaining length`, the table computed from the text
(`extOfSrc`) therefore satisfies `ExtOK`, and the tiling theorem becomes parameter-free
(`parsePlainFull_tiles`) — for every text and every Unicode class table.

No slice or index expression of the three Rust files can panic: the models are total functions
without a panic value, and the places where the Rust code indexes are covered by
`position_lt`, `lastPosition_lt`, `lexHostname_bound`, `lexLogin_le` (the `rest[cursor]` of
`lex_ip_schemepart`) and `pathLoop_fuel` (the path loop is not cut short by its fuel).
-/
namespace Harper.C02
open Harper

/-! ### the three lexers stay inside their slice and consume at least one character -/

/-- `lex_hostname` (shared by all three): `Some(n)` ⇒ `1 ≤ n ≤ source.len()` -/
theorem lexHostname_bound (src : List Char) (n : Nat) (h : lexHostname src = some n) :
    1 ≤ n ∧ n ≤ src.length := Harper.lexHostname_bound src n h

theorem lexHostnameToken_ok (src : List Char) : FoundOK (lexHostnameToken src) src.length :=
  Harper.lexHostnameToken_ok src

theorem lexUrl_ok (src : List Char) : FoundOK (lexUrl src) src.length := Harper.lexUrl_ok src

theorem lexEmailAddress_ok (src : List Char) : FoundOK (lexEmailAddress src) src.length :=
  Harper.lexEmailAddress_ok src

/-- sharper: a URL token is at least `://`, an e-mail token at least `x@y` -/
theorem lexUrl_min (src : List Char) (k : Kind) (n : Nat) (h : lexUrl src = some (k, n)) :
    k = .url ∧ 3 ≤ n := Harper.lexUrl_min src k n h

theorem lexEmailAddress_min (src : List Char) (k : Kind) (n : Nat)
    (h : lexEmailAddress src = some (k, n)) : k = .email ∧ 3 ≤ n :=
  Harper.lexEmailAddress_min src k n h

/-- `lex_login(rest) ≤ rest.len()`, so `rest[cursor]` in `lex_ip_schemepart` cannot be out of range -/
theorem lexLogin_le (src : List Char) (n : Nat) (h : lexLogin src = some n) : n ≤ src.length :=
  Harper.lexLogin_le src n h

/-- the fuel given to the path loop of `lex_ip_schemepart` never cuts it short -/
theorem pathLoop_fuel (f1 f2 : Nat) (rest : List Char) (h1 : rest.length < f1)
    (h2 : rest.length < f2) : pathLoop f1 rest = pathLoop f2 rest :=
  Harper.pathLoop_fuel f1 f2 rest h1 h2

/-! ### `ExtOK` holds of the computed table -/

/-- `ExtOK`, the hypothesis of `Props/C02.lean`, proved for `extOfSrc` -/
theorem extOfSrc_ok (src : List Char) : ExtOK (extOfSrc src) src.length := Harper.extOfSrc_ok src

/-- with the computed table, `lexToken` picks what `lex_token(&source[pos..])` picks when the
three lexers are called directly in the regenerated order (`lex_url` before `lex_email_address`
before `lex_hostname_token`, checked on `Tables.lexerOrder` by `lexerOrder_extOrderOK`) -/
theorem lexToken_extOfSrc (cls : Cls) (src : List Char) (pos : Nat) :
    lexToken cls (extOfSrc src) pos (src.drop pos) = lexTokenFull cls (src.drop pos) :=
  Harper.lexToken_extOfSrc cls src pos

/-! ### parameter-free tiling -/

/-- `PlainEnglish::parse`, all fourteen lexers modelled: never panics, never runs out of fuel,
tokens tile `[0, len)`, at most one token per character — for every text and class table. -/
theorem parsePlainFull_tiles (cls : Cls) (src : List Char) :
    ∃ toks, parsePlainFull cls src = .ok toks ∧ Tiles toks 0 src.length ∧
      toks.length ≤ src.length :=
  parsePlain_tiles cls (extOfSrc src) src (extOfSrc_ok src)

theorem parsePlainFull_total (cls : Cls) (src : List Char) :
    ∃ toks, parsePlainFull cls src = .ok toks := by
  obtain ⟨toks, h, _⟩ := parsePlainFull_tiles cls src
  exact ⟨toks, h⟩

/-- the same for the table-free formulation -/
theorem parsePlainDirect_tiles (cls : Cls) (src : List Char) :
    ∃ toks, parsePlainDirect cls src = .ok toks ∧ Tiles toks 0 src.length ∧
      toks.length ≤ src.length := by
  rw [← parsePlainFull_eq_direct]; exact parsePlainFull_tiles cls src

/-! ### non-vacuity: the lexers fire, and near-misses do not (kernel-evaluated) -/

/-- `http://a.b/c?d=e#f`: a whole URL -/
example : lexUrl ['h', 't', 't', 'p', ':', '/', '/', 'a', '.', 'b', '/', 'c', '?', 'd', '=', 'e', '#', 'f'] = some (.url, 18) := by decide +kernel

/-- `http://a.b/%41 x`: escape accepted, stops at the blank -/
example : lexUrl ['h', 't', 't', 'p', ':', '/', '/', 'a', '.', 'b', '/', '%', '4', '1', ' ', 'x'] = some (.url, 14) := by decide +kernel

/-- `http://a.b/%4g`: bad escape ends the URL after the slash -/
example : lexUrl ['h', 't', 't', 'p', ':', '/', '/', 'a', '.', 'b', '/', '%', '4', 'g'] = some (.url, 11) := by decide +kernel

/-- near-miss `http:/a.b`: one slash -/
example : lexUrl ['h', 't', 't', 'p', ':', '/', 'a', '.', 'b'] = none := by decide +kernel

/-- near-miss `ht_tp://a.b`: `_` is not a scheme character -/
example : lexUrl ['h', 't', '_', 't', 'p', ':', '/', '/', 'a', '.', 'b'] = none := by decide +kernel

/-- near-miss `http//a.b`: no colon -/
example : lexUrl ['h', 't', 't', 'p', '/', '/', 'a', '.', 'b'] = none := by decide +kernel

/-- quirk `http://abc:80/x`: the port scan restarts at the host, the URL is `http://` -/
example : lexUrl ['h', 't', 't', 'p', ':', '/', '/', 'a', 'b', 'c', ':', '8', '0', '/', 'x'] = some (.url, 7) := by decide +kernel

/-- quirk `ftp://user:pw@host/x`: a login with a password is rejected, the URL is `ftp://` -/
example : lexUrl ['f', 't', 'p', ':', '/', '/', 'u', 's', 'e', 'r', ':', 'p', 'w', '@', 'h', 'o', 's', 't', '/', 'x'] = some (.url, 6) := by decide +kernel

/-- quirk `http://a.b x@y`: an `@` anywhere later in the text is taken as the end of the login -/
example : lexUrl ['h', 't', 't', 'p', ':', '/', '/', 'a', '.', 'b', ' ', 'x', '@', 'y'] = some (.url, 7) := by decide +kernel

/-- `ftp://us;r@host/x`: a login without a password is accepted -/
example : lexUrl ['f', 't', 'p', ':', '/', '/', 'u', 's', ';', 'r', '@', 'h', 'o', 's', 't', '/', 'x'] = some (.url, 17) := by decide +kernel

/-- `a.b@c.de`: an e-mail address -/
example : lexEmailAddress ['a', '.', 'b', '@', 'c', '.', 'd', 'e'] = some (.email, 8) := by decide +kernel

/-- `"a b"@c.d`: quoted local part -/
example : lexEmailAddress ['"', 'a', ' ', 'b', '"', '@', 'c', '.', 'd'] = some (.email, 9) := by decide +kernel

/-- near-miss `a..b@c.d`: two dots -/
example : lexEmailAddress ['a', '.', '.', 'b', '@', 'c', '.', 'd'] = none := by decide +kernel

/-- near-miss `.a@b.c`: leading dot -/
example : lexEmailAddress ['.', 'a', '@', 'b', '.', 'c'] = none := by decide +kernel

/-- near-miss `a@-b`: the domain must start with a letter or digit -/
example : lexEmailAddress ['a', '@', '-', 'b'] = none := by decide +kernel

/-- near-miss `@b.c`: empty local part -/
example : lexEmailAddress ['@', 'b', '.', 'c'] = none := by decide +kernel

/-- quirk `a@b c@d`: the LAST `@` of the rest of the text is used, so `a@b` is not seen -/
example : lexEmailAddress ['a', '@', 'b', ' ', 'c', '@', 'd'] = none := by decide +kernel

/-- `www.example.com`: a hostname -/
example : lexHostnameToken ['w', 'w', 'w', '.', 'e', 'x', 'a', 'm', 'p', 'l', 'e', '.', 'c', 'o', 'm'] = some (.hostname, 15) := by decide +kernel

/-- `a.b- c`: a trailing hyphen is part of the token -/
example : lexHostnameToken ['a', '.', 'b', '-', ' ', 'c'] = some (.hostname, 4) := by decide +kernel

/-- near-miss `www.example.com.`: `lex_hostname` takes the final dot, the token is refused -/
example : lexHostnameToken ['w', 'w', 'w', '.', 'e', 'x', 'a', 'm', 'p', 'l', 'e', '.', 'c', 'o', 'm', '.'] = none := by decide +kernel

/-- near-miss `example`: no inner dot -/
example : lexHostnameToken ['e', 'x', 'a', 'm', 'p', 'l', 'e'] = none := by decide +kernel

/-- near-miss `-a.b`: leading hyphen -/
example : lexHostnameToken ['-', 'a', '.', 'b'] = none := by decide +kernel

/-- near-miss `a.`: the only dot is the last character -/
example : lexHostnameToken ['a', '.'] = none := by decide +kernel

/-- a text with all three kinds; the table is computed, nothing is handed over -/
example : (parsePlainFull asciiCls ['x', '@', 'y', '.', 'z', ',', ' ', 'a', '.', 'b', ' ', 'h', 't', 't', 'p', ':', '/', '/', 'a', '.', 'b', '/', 'c']).toOption =
    some [⟨⟨0,5⟩,.email⟩, ⟨⟨5,6⟩,.punct .Comma⟩, ⟨⟨6,7⟩,.space 1⟩, ⟨⟨7,10⟩,.hostname⟩,
      ⟨⟨10,11⟩,.space 1⟩, ⟨⟨11,23⟩,.url⟩] := by decide +kernel

/-- and the table-free formulation computes the same -/
example : (parsePlainDirect asciiCls ['a', '.', 'b', ' ', 'x', '@', 'y']).toOption =
    some [⟨⟨0,3⟩,.hostname⟩, ⟨⟨3,4⟩,.space 1⟩, ⟨⟨4,7⟩,.email⟩] := by decide +kernel

/-! ### non-vacuity of the theorems with hypotheses: each applied to a concrete, non-trivial value -/

/-- non-vacuity of `lexHostname_bound`: `a.b- c` -/
example : 1 ≤ 4 ∧ 4 ≤ 6 := lexHostname_bound ['a', '.', 'b', '-', ' ', 'c'] 4 (by decide +kernel)

/-- `FoundOK` is `∀ k n, f = some (k, n) → …`: the three `_ok` theorems at inputs on which the lexer fires -/
example : 1 ≤ 15 ∧ 15 ≤ 15 :=
  lexHostnameToken_ok ['w', 'w', 'w', '.', 'e', 'x', 'a', 'm', 'p', 'l', 'e', '.', 'c', 'o', 'm'] .hostname 15 (by decide +kernel)
example : 1 ≤ 14 ∧ 14 ≤ 16 :=
  lexUrl_ok ['h', 't', 't', 'p', ':', '/', '/', 'a', '.', 'b', '/', '%', '4', '1', ' ', 'x'] .url 14 (by decide +kernel)
example : 1 ≤ 8 ∧ 8 ≤ 10 :=
  lexEmailAddress_ok ['a', '.', 'b', '@', 'c', '.', 'd', 'e', ',', ' '] .email 8 (by decide +kernel)

/-- non-vacuity of `lexUrl_min` / `lexEmailAddress_min`; `://` (empty scheme) and `x@y` show that 3 is attained -/
example : Kind.url = .url ∧ 3 ≤ 14 :=
  lexUrl_min ['h', 't', 't', 'p', ':', '/', '/', 'a', '.', 'b', '/', '%', '4', '1', ' ', 'x'] .url 14 (by decide +kernel)
example : lexUrl [':', '/', '/'] = some (.url, 3) := by decide +kernel
example : Kind.email = .email ∧ 3 ≤ 8 :=
  lexEmailAddress_min ['a', '.', 'b', '@', 'c', '.', 'd', 'e', ',', ' '] .email 8 (by decide +kernel)
example : lexEmailAddress ['x', '@', 'y'] = some (.email, 3) := by decide +kernel

/-- non-vacuity of `lexLogin_le`: `us;r@host/x`, login `us;r@host` -/
example : 9 ≤ 11 := lexLogin_le ['u', 's', ';', 'r', '@', 'h', 'o', 's', 't', '/', 'x'] 9 (by decide +kernel)

/-- non-vacuity of `pathLoop_fuel`: `/a/b` with fuel 5 and 9; the loop consumes all four characters -/
example : pathLoop 5 ['/', 'a', '/', 'b'] = pathLoop 9 ['/', 'a', '/', 'b'] :=
  pathLoop_fuel 5 9 ['/', 'a', '/', 'b'] (by decide +kernel) (by decide +kernel)
example : pathLoop 5 ['/', 'a', '/', 'b'] = 4 := by decide +kernel

/-- the computed table of `extOfSrc_ok` is not the empty table: `x a.b` has a hostname at position 2, and the
theorem bounds it -/
example : extOfSrc ['x', ' ', 'a', '.', 'b'] 2 = some (.hostname, 3) := by decide +kernel
example : 1 ≤ 3 ∧ 2 + 3 ≤ 5 := extOfSrc_ok ['x', ' ', 'a', '.', 'b'] 2 .hostname 3 (by decide +kernel)

end Harper.C02
