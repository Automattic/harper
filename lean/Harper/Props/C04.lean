import Harper.Lemmas.Mask
/-!
# C04 — only prose is checked, and it is located at its true position in the file

What is proved here is the *offset glue* between a third-party parser (or a line convention) and
Harper's char-indexed tokens, with the third-party outputs as universally quantified data:

* `byteToChar_exact`     tree-sitter byte ranges → char spans (`byte_spans_to_char_spans`);
* `pushAllowed_maintains`, `pushAllowed_panics_iff`, `mergeWhitespaceSep_maintains`  the `Mask`
  invariant (sorted, disjoint, in bounds);
* `treeSitterMask_ok`                                 `TreeSitterMasker::create_mask`, composed;
* `maskParse_inbounds_sorted`, `maskParse_exact`, `maskParse_only_allowed`, `maskParse_faithful`
  `parsers::Mask::parse`;
* `ignoreMarker_drops`, `ignoreMarker_exact`, `commentMask_ok`   `CommentMasker::create_mask`;
* `withoutInitiators_wf`, `unitParse_faithful`        comment leaders, per-line offsets;
* `unitParse_exact`, `unitParse_tokens_iff`, `unitParse_fenced_lines_silent`, `unit_closing_fence_parsed`,
  `unitParse_no_fence_complete`   `Unit::parse` and code fences: which lines reach the inner parser;
* `parseInlineTag_terminates`, `markInlineTags_terminates`   the JSDoc inline-tag scanner;
* `javadocMark_spec`, `javadocMark_last_window`       the JavaDoc `@tag argument` loop;
* `goParse_faithful`, `goParse_directive`             `Go::parse`;
* `jsdocParse_span_faithful`, `javadocParse_span_faithful`, `jsdocParse_inbounds`, `javadocParse_inbounds`
  JSDoc / JavaDoc: spans never move, kinds may become `Unlintable`;
* `lhsMask_safe`, `lhsMask_classifies`                the Literate Haskell masker;
* `gitCommit_prefix`                                  the commit-message cut;
* `offsetCursor_exact`, `markdownOffsets_exact`       the Typst cursor and Markdown's
  `traversed_bytes/traversed_chars` pair.

What a grammar calls a comment, what pulldown-cmark calls a paragraph, and the Typst translator are
*not* modelled: they are explored against generator ground truth by the harness (`c04.rs`).
-/
namespace Harper.C04
open Harper

def ws (c : Char) : Bool := c == ' ' || c == '\n'

/-! ## (a) byte ranges → char spans -/

/-- For byte ranges that — after the sort and the `retain` step — are the byte offsets of an
increasing, pairwise disjoint list of *character* ranges `cs` of a well-formed UTF-8 text (given as
per-character byte groups), `byte_spans_to_char_spans` does not panic and returns exactly those
character ranges; they are in bounds, well-formed, increasing and disjoint. -/
theorem byteToChar_exact (gs : List (List Nat)) (hwf : ∀ g ∈ gs, WFGroup g) (spans : List Span)
    (cs : List (Nat × Nat)) (hret : retainStep (sortByStart spans) = cs.map (toByteSpan gs))
    (hc : CharChain gs.length 0 cs) :
    byteSpansToCharSpans gs.flatten spans = .ok (cs.map toCharSpan) ∧
      (∀ s ∈ cs.map toCharSpan, s.start ≤ s.stop ∧ s.stop ≤ gs.length) ∧
      (cs.map toCharSpan).Pairwise (fun x y => x.stop ≤ y.start) := by
  have h1 := convLoop_chain hwf cs 0 hc
  rw [byteOff_zero] at h1
  obtain ⟨h2, h3⟩ := (charChain_iff gs.length cs 0).mp hc
  exact ⟨by unfold byteSpansToCharSpans; rw [hret]; exact h1, fun s hs => (h2 s hs).2, h3⟩

/-- ranges that arrive already sorted and disjoint pass the sort and the `retain` step unchanged -/
theorem byteToChar_exact_sorted (gs : List (List Nat)) (hwf : ∀ g ∈ gs, WFGroup g)
    (cs : List (Nat × Nat)) (hc : CharChain gs.length 0 cs) :
    byteSpansToCharSpans gs.flatten (cs.map (toByteSpan gs)) = .ok (cs.map toCharSpan) := by
  obtain ⟨h1, h2⟩ := chain_byteSpans gs hc
  refine (byteToChar_exact gs hwf _ cs ?_ hc).1
  rw [sortByStart_of_sorted _ h1, retainStep_of_disjoint _ h2]

/-- "aé😀b": one, two, four and one byte -/
def sampleGroups : List (List Nat) := [[97], [195, 169], [240, 159, 152, 128], [98]]

theorem sampleGroups_wf : ∀ g ∈ sampleGroups, WFGroup g := by
  intro g hg
  simp [sampleGroups] at hg
  rcases hg with rfl | rfl | rfl | rfl <;> exact ⟨_, _, rfl, by decide, by decide⟩

example : ∀ g ∈ sampleGroups, WFGroup g := sampleGroups_wf

example : CharChain sampleGroups.length 0 [(1, 2), (2, 3)] := by simp [CharChain, sampleGroups]

/-- the ranges of `é` and `😀` (bytes 1..3 and 3..7), given out of order, with a nested duplicate -/
example : byteSpansToCharSpans sampleGroups.flatten [⟨3, 7⟩, ⟨1, 3⟩, ⟨3, 7⟩] = .ok [⟨1, 2⟩, ⟨2, 3⟩] := by
  decide +kernel

/-- a range that is not on a character boundary is a slice panic, as in Rust -/
example : byteSpansToCharSpans sampleGroups.flatten [⟨2, 3⟩] = .error .sliceOOB := by decide +kernel

/-- the `retain` step compares with the previous element of the *unfiltered* list: three ranges
nested under a retained one make the loop slice backwards (`source[10..3]`) -/
example : byteSpansToCharSpans (List.replicate 10 97) [⟨0, 10⟩, ⟨2, 3⟩, ⟨3, 10⟩] = .error .sliceOOB := by
  decide +kernel

example : byteSpansToCharSpans sampleGroups.flatten [⟨3, 7⟩, ⟨1, 3⟩, ⟨3, 7⟩] = .ok [⟨1, 2⟩, ⟨2, 3⟩] :=
  (byteToChar_exact sampleGroups sampleGroups_wf [⟨3, 7⟩, ⟨1, 3⟩, ⟨3, 7⟩] [(1, 2), (2, 3)]
    (by decide +kernel) (by simp [CharChain, sampleGroups])).1

example : byteSpansToCharSpans sampleGroups.flatten [⟨0, 1⟩, ⟨1, 7⟩, ⟨7, 8⟩] =
    .ok [⟨0, 1⟩, ⟨1, 3⟩, ⟨3, 4⟩] :=
  byteToChar_exact_sorted sampleGroups sampleGroups_wf [(0, 1), (1, 3), (3, 4)]
    (by simp [CharChain, sampleGroups])

/-! ## (b) the mask and the `Mask` parser -/

/-- `push_allowed` keeps the invariant when the new span does not start before the last one ends -/
theorem pushAllowed_maintains (n : Nat) (m : List Span) (a : Span) (hm : MaskOK n m)
    (ha : a.start ≤ a.stop) (hn : a.stop ≤ n) (hl : ∀ l, m.getLast? = some l → l.stop ≤ a.start) :
    ∃ m', pushAllowed m a = .ok m' ∧ MaskOK n m' :=
  let ⟨m', h1, h2, _⟩ := pushAllowed_ok hm ha hn hl
  ⟨m', h1, h2⟩

/-- … and otherwise it panics (the `assert!`), it never silently stores an overlapping span -/
theorem pushAllowed_panics_iff (m : List Span) (a : Span) :
    pushAllowed m a = .error .assertFail ↔ ∃ l, m.getLast? = some l ∧ a.start < l.stop := by
  unfold pushAllowed
  cases hg : m.getLast? with
  | none => simp
  | some last =>
    simp only []
    by_cases h : a.start < last.stop
    · simp [h]
    · rw [if_neg h]
      constructor
      · intro hc; split at hc <;> cases hc
      · rintro ⟨l, hl, h2⟩; cases hl; omega

/-- `merge_whitespace_sep` terminates without panic and keeps the invariant -/
theorem mergeWhitespaceSep_maintains (isWs : Char → Bool) (src : List Char) (m : List Span)
    (hm : MaskOK src.length m) :
    ∃ m', mergeWhitespaceSep isWs src (m.length + 1) m = .ok m' ∧ MaskOK src.length m' :=
  mergeWhitespaceSep_ok isWs src (m.length + 1) m (Nat.lt_succ_self _) hm

example : MaskOK 14 [⟨0, 4⟩, ⟨5, 9⟩, ⟨10, 14⟩] := by
  refine ⟨?_, by simp⟩
  intro s hs; simp at hs; rcases hs with rfl | rfl | rfl <;> simp

/-- the test `merges_whitespace_sep` of mask/mod.rs -/
example : mergeWhitespaceSep (fun c => c == ' ' || c == '\n')
    ['w','o','r','d',' ','w','o','r','d','\n','w','o','r','d'] 4 [⟨0, 4⟩, ⟨5, 9⟩, ⟨10, 14⟩] = .ok [⟨0, 14⟩] := by
  decide +kernel

example : ∃ m', pushAllowed [⟨0, 4⟩, ⟨5, 9⟩] ⟨10, 14⟩ = .ok m' ∧ MaskOK 14 m' :=
  pushAllowed_maintains 14 [⟨0, 4⟩, ⟨5, 9⟩] ⟨10, 14⟩
    ⟨by intro s hs; simp at hs; rcases hs with rfl | rfl <;> simp, by simp⟩
    (by decide +kernel) (by decide +kernel) (by intro l h; cases h; decide +kernel)
example : pushAllowed [⟨0, 4⟩, ⟨5, 9⟩] ⟨10, 14⟩ = .ok [⟨0, 4⟩, ⟨5, 9⟩, ⟨10, 14⟩] := by decide +kernel
example : pushAllowed [⟨0, 4⟩, ⟨5, 9⟩] ⟨9, 14⟩ = .ok [⟨0, 4⟩, ⟨5, 14⟩] := by decide +kernel
example : pushAllowed [⟨0, 4⟩, ⟨5, 9⟩] ⟨8, 14⟩ = .error .assertFail := by decide +kernel

example : ∃ m', mergeWhitespaceSep (fun c => c == ' ' || c == '\n')
    ['w','o','r','d',' ','w','o','r','d','\n','w','o','r','d'] 4 [⟨0, 4⟩, ⟨5, 9⟩, ⟨10, 14⟩] = .ok m' ∧
    MaskOK 14 m' :=
  mergeWhitespaceSep_maintains _ ['w','o','r','d',' ','w','o','r','d','\n','w','o','r','d']
    [⟨0, 4⟩, ⟨5, 9⟩, ⟨10, 14⟩]
    ⟨by intro s hs; simp at hs; rcases hs with rfl | rfl | rfl <;> simp, by simp⟩

/-- the loop `for span in comments_spans { mask.push_allowed(span) }` on in-bounds, increasing,
disjoint spans never trips the assertion and keeps the invariant -/
theorem pushAll_maintains (n : Nat) : ∀ (as m : List Span), MaskOK n m →
    (∀ a ∈ as, a.start ≤ a.stop ∧ a.stop ≤ n) → as.Pairwise (fun x y => x.stop ≤ y.start) →
    (∀ l, m.getLast? = some l → ∀ a ∈ as, l.stop ≤ a.start) →
    ∃ m', pushAll m as = .ok m' ∧ MaskOK n m' := by
  intro as
  induction as with
  | nil => intro m hm _ _ _; exact ⟨m, rfl, hm⟩
  | cons a as ih =>
    intro m hm hb hp hl
    have ha := hb a (by simp)
    obtain ⟨m1, h1, h2, h3⟩ := pushAllowed_ok hm ha.1 ha.2 (fun l h => hl l h a (by simp))
    obtain ⟨m', h4, h5⟩ := ih m1 h2 (fun b hb' => hb b (by simp [hb']))
      (List.pairwise_cons.mp hp).2
      (by
        intro l hlast b hb'
        rw [hlast] at h3
        have : l.stop = a.stop := by simpa using h3
        rw [this]
        exact (List.pairwise_cons.mp hp).1 b hb')
    exact ⟨m', by simp only [pushAll, h1, bind, Except.bind]; exact h4, h5⟩

/-- `TreeSitterMasker::create_mask` after the tree walk, composed: under the hypotheses of
`byteToChar_exact` (node ranges on character boundaries, disjoint after the `retain` step) the
three steps byte→char, `push_allowed`, `merge_whitespace_sep` all succeed and the mask satisfies
the invariant that `maskParse_*` assume. `src` is the text as characters (one per byte group). -/
theorem treeSitterMask_ok (isWs : Char → Bool) (gs : List (List Nat)) (hwf : ∀ g ∈ gs, WFGroup g)
    (src : List Char) (hlen : src.length = gs.length) (spans : List Span) (cs : List (Nat × Nat))
    (hret : retainStep (sortByStart spans) = cs.map (toByteSpan gs))
    (hc : CharChain gs.length 0 cs) :
    ∃ m, treeSitterMask isWs gs.flatten src spans = .ok m ∧ MaskOK src.length m := by
  obtain ⟨h1, h2, h3⟩ := byteToChar_exact gs hwf spans cs hret hc
  obtain ⟨m1, h4, h5⟩ := pushAll_maintains src.length (cs.map toCharSpan) [] (MaskOK.nil _)
    (by rw [hlen]; exact h2) h3 (by simp)
  obtain ⟨m, h6, h7⟩ := mergeWhitespaceSep_maintains isWs src m1 h5
  exact ⟨m, by simp only [treeSitterMask, h1, h4, bind, Except.bind]; exact h6, h7⟩

/-- non-vacuity of treeSitterMask_ok: "aé😀b", comment ranges `é` and `b` (bytes 1..3, 7..8) -/
example : ∃ m, treeSitterMask (fun c => c == ' ') sampleGroups.flatten ['a', 'é', '😀', 'b'] [⟨7, 8⟩, ⟨1, 3⟩] = .ok m ∧
    MaskOK 4 m :=
  treeSitterMask_ok _ sampleGroups sampleGroups_wf ['a', 'é', '😀', 'b'] (by decide +kernel) [⟨7, 8⟩, ⟨1, 3⟩]
    [(1, 2), (3, 4)] (by decide +kernel) (by simp [CharChain, sampleGroups])
example : treeSitterMask (fun c => c == ' ') sampleGroups.flatten ['a', 'é', '😀', 'b'] [⟨7, 8⟩, ⟨1, 3⟩] =
    .ok [⟨1, 2⟩, ⟨3, 4⟩] := by decide +kernel

/-- Given the mask invariant and an inner parser that keeps its tokens inside the chunk it is given
and in order, `Mask::parse` does not panic, its tokens are inside the source and ordered — within a
chunk and across chunks (the paragraph break sits in the gap). -/
theorem maskParse_inbounds_sorted (src : List Char) (mask : List Span) (inner : List Char → List Tok)
    (hm : MaskOK src.length mask) (hin : InnerOK inner) :
    ∃ toks, maskParse src mask inner = .ok toks ∧
      (∀ t ∈ toks, t.span.start ≤ t.span.stop ∧ t.span.stop ≤ src.length) ∧
      toks.Pairwise (fun a b => a.span.stop ≤ b.span.start) := by
  have hc := maskOK_iff.mp hm
  obtain ⟨h2, h3⟩ := spanChain_map_span.mp (maskOut_chain src hin mask none 0 hc nofun)
  exact ⟨_, maskLoop_eq src inner mask none 0 hc nofun, fun t ht => (h2 t ht).2, h3⟩

/-- **Exactly the allowed spans.** Under the mask invariant alone (nothing is assumed of the inner
parser) the output of `Mask::parse` is, span by span in mask order, an optional `ParagraphBreak`
followed by the inner parser's tokens on `src[span]` shifted by `span.start` — each allowed span is
handed to the inner parser exactly once, and nothing else is. (`Faithful` alone would also hold of a
parser that looked outside the mask, or returned nothing.) -/
theorem maskParse_exact (src : List Char) (mask : List Span) (inner : List Char → List Tok)
    (hm : MaskOK src.length mask) :
    ∃ brks : List (List Tok), brks.length = mask.length ∧
      (∀ b ∈ brks, b.length ≤ 1 ∧ ∀ t ∈ b, t.kind = .paragraphBreak) ∧
      maskParse src mask inner =
        .ok ((brks.zip mask).flatMap
          fun p => p.1 ++ (inner (slice src p.2)).map (·.shift p.2.start)) :=
  ⟨maskGaps src none mask, maskGaps_length src mask none,
    fun b hb => (maskGaps_mem src mask none b hb).imp_right fun h t ht => (h t ht).1,
    maskLoop_eq src inner mask none 0 (maskOK_iff.mp hm) nofun⟩

/-- membership reading: a token is a paragraph break or comes from an ALLOWED span (soundness), and
every inner token of every allowed span is in the output (completeness) -/
theorem maskParse_only_allowed (src : List Char) (mask : List Span) (inner : List Char → List Tok)
    (hm : MaskOK src.length mask) :
    ∃ toks, maskParse src mask inner = .ok toks ∧
      (∀ tok ∈ toks, tok.kind = .paragraphBreak ∨
        ∃ s ∈ mask, ∃ t ∈ inner (slice src s), tok = t.shift s.start) ∧
      (∀ s ∈ mask, ∀ t ∈ inner (slice src s), t.shift s.start ∈ toks) := by
  refine ⟨_, maskLoop_eq src inner mask none 0 (maskOK_iff.mp hm) nofun, fun tok ht => ?_,
    fun s hs t ht => mem_maskOut.mpr (Or.inr ⟨s, hs, t, ht, rfl⟩)⟩
  rcases mem_maskOut.mp ht with ⟨b, hb, htb⟩ | h
  · exact Or.inl ((maskGaps_mem src mask none b hb).2 tok htb).1
  · exact Or.inr h

/-- … and every token is a paragraph break or the shifted image of an inner token of a chunk that
is the text of the file at that offset: the file's text under the token is the text the inner
parser saw (`faithful_text`). -/
theorem maskParse_faithful (src : List Char) (mask : List Span) (inner : List Char → List Tok)
    (hm : MaskOK src.length mask) (hin : InnerOK inner) :
    ∃ toks, maskParse src mask inner = .ok toks ∧ Faithful inner src toks := by
  obtain ⟨toks, h, h1, _⟩ := maskParse_only_allowed src mask inner hm
  refine ⟨toks, h, fun tok ht => ?_⟩
  rcases h1 tok ht with hk | ⟨s, hs, t, hti, rfl⟩
  · exact Or.inl (Or.inl hk)
  · exact Faithful.chunk (hm.1 s hs).1 (hm.1 s hs).2 _ (List.mem_map_of_mem hti)

/-- what `Faithful` buys: equal text under the shifted and the original token -/
theorem faithful_text (src chunk : List Char) (off : Nat) (t : Tok)
    (hc : chunk = (src.drop off).take chunk.length) (hb : t.span.stop ≤ chunk.length) :
    slice src (t.shift off).span = slice chunk t.span := by
  generalize chunk.length = n at hc hb
  subst hc
  rw [slice, slice, List.drop_take, List.take_take, List.drop_drop, Nat.min_eq_left (by omega)]
  show (src.drop (t.span.start + off)).take (t.span.stop + off - (t.span.start + off)) = _
  rw [Nat.add_comm off, Nat.add_sub_add_right]

/-- an inner parser for the examples: one `Word` over the whole chunk -/
def spy : List Char → List Tok := fun c => if c.isEmpty then [] else [⟨⟨0, c.length⟩, .word⟩]

theorem spy_ok : InnerOK spy := by
  intro c
  unfold spy
  split <;> simp

example : InnerOK spy := spy_ok

/-- "é😀\nx" with the two lines allowed: tokens land at char offsets, the gap is a paragraph break -/
example : maskParse ['é', '😀', '\n', 'x'] [⟨0, 2⟩, ⟨3, 4⟩] spy =
    .ok [⟨⟨0, 2⟩, .word⟩, ⟨⟨2, 3⟩, .paragraphBreak⟩, ⟨⟨3, 4⟩, .word⟩] := by decide +kernel

/-- a multi-token inner parser: `word space word` on chunks of three or more characters -/
def spy3 : List Char → List Tok := fun c =>
  if c.length < 3 then (if c.isEmpty then [] else [⟨⟨0, c.length⟩, .word⟩])
  else [⟨⟨0, 1⟩, .word⟩, ⟨⟨1, 2⟩, .space 1⟩, ⟨⟨2, c.length⟩, .word⟩]

theorem spy3_ok : InnerOK spy3 := by
  intro c
  unfold spy3
  split
  · split <;> simp
  · refine ⟨?_, by simp⟩
    intro t ht; simp at ht; rcases ht with rfl | rfl | rfl <;> simp <;> omega

theorem exMask_ok : MaskOK ['é', ' ', '😀', 'a', '\n', '/', '/', 'x', ' ', 'y', 'z'].length [⟨0, 4⟩, ⟨7, 11⟩] :=
  ⟨by intro s hs; simp at hs; rcases hs with rfl | rfl <;> simp, by simp⟩

/-- non-vacuity of maskParse_inbounds_sorted / maskParse_faithful: two allowed spans, three inner
tokens each, a multi-byte character in the first; the concrete output -/
example : ∃ toks, maskParse ['é', ' ', '😀', 'a', '\n', '/', '/', 'x', ' ', 'y', 'z'] [⟨0, 4⟩, ⟨7, 11⟩] spy3 = .ok toks ∧
    Faithful spy3 ['é', ' ', '😀', 'a', '\n', '/', '/', 'x', ' ', 'y', 'z'] toks :=
  maskParse_faithful _ _ spy3 exMask_ok spy3_ok
example : ∃ toks, maskParse ['é', ' ', '😀', 'a', '\n', '/', '/', 'x', ' ', 'y', 'z'] [⟨0, 4⟩, ⟨7, 11⟩] spy3 = .ok toks ∧
    (∀ t ∈ toks, t.span.start ≤ t.span.stop ∧ t.span.stop ≤ 11) ∧
    toks.Pairwise (fun a b => a.span.stop ≤ b.span.start) :=
  maskParse_inbounds_sorted _ _ spy3 exMask_ok spy3_ok
example : maskParse ['é', ' ', '😀', 'a', '\n', '/', '/', 'x', ' ', 'y', 'z'] [⟨0, 4⟩, ⟨7, 11⟩] spy3 =
    .ok [⟨⟨0, 1⟩, .word⟩, ⟨⟨1, 2⟩, .space 1⟩, ⟨⟨2, 4⟩, .word⟩, ⟨⟨4, 7⟩, .paragraphBreak⟩,
      ⟨⟨7, 8⟩, .word⟩, ⟨⟨8, 9⟩, .space 1⟩, ⟨⟨9, 11⟩, .word⟩] := by decide +kernel

/-- non-vacuity of faithful_text: the chunk `é😀b` sits at offset 1 of `aé😀bc` -/
example : slice ['a', 'é', '😀', 'b', 'c'] ((⟨⟨1, 3⟩, .word⟩ : Tok).shift 1).span =
    slice ['é', '😀', 'b'] (⟨1, 3⟩ : Span) :=
  faithful_text ['a', 'é', '😀', 'b', 'c'] ['é', '😀', 'b'] 1 ⟨⟨1, 3⟩, .word⟩ (by decide +kernel) (by decide +kernel)
example : slice ['a', 'é', '😀', 'b', 'c'] ((⟨⟨1, 3⟩, .word⟩ : Tok).shift 1).span = ['😀', 'b'] := by decide +kernel

/-- **`ignoreMarker_drops`** (DESIGN §6 C04), over the MODEL of `CommentMasker::create_mask`
(`commentFilter` of `Model/Mask.lean`: `iter_allowed` → `get_content` → `.filter(|(_, text)| !ignore(text))`
→ `Mask::from_iter`; replayed against the real `CommentMasker` by op `cmask`). For ANY ignore condition
`ign` and any mask that satisfies the invariant: the filter never panics (neither `get_content` nor the
assertion of `from_iter`); the result is exactly the spans whose text does not satisfy `ign`, in the
order of the mask (a sublist), and is again a mask; no kept span's text satisfies `ign`; every
dropped span's does; and `Mask::parse` over the result offers a token only if it is a paragraph
break or comes from a span of the mask whose text does NOT satisfy `ign` ("no token comes from an
ignored comment") — and offers every inner token of every such span. -/
theorem ignoreMarker_drops (src : List Char) (mask : List Span) (inner : List Char → List Tok)
    (ign : List Char → Bool) (hm : MaskOK src.length mask) :
    ∃ kept, commentFilter ign src mask = .ok kept ∧
      kept = mask.filter (fun s => !ign (slice src s)) ∧
      kept.Sublist mask ∧ MaskOK src.length kept ∧
      (∀ s ∈ kept, ign (slice src s) = false) ∧
      (∀ s ∈ mask, s ∉ kept → ign (slice src s) = true) ∧
      ∃ toks, maskParse src kept inner = .ok toks ∧
        (∀ tok ∈ toks, tok.kind = .paragraphBreak ∨
          ∃ s ∈ mask, ign (slice src s) = false ∧ ∃ t ∈ inner (slice src s), tok = t.shift s.start) ∧
        (∀ s ∈ mask, ign (slice src s) = false → ∀ t ∈ inner (slice src s), t.shift s.start ∈ toks) := by
  have hk := hm.filter (fun s => !ign (slice src s))
  obtain ⟨toks, h, h1, h2⟩ := maskParse_only_allowed src _ inner hk
  refine ⟨_, commentFilter_eq ign src mask hm, rfl, List.filter_sublist, hk, ?_, ?_, toks, h, ?_, ?_⟩
  · intro s hs
    simpa using (List.mem_filter.mp hs).2
  · intro s hs hn
    cases hi : ign (slice src s) with
    | true => rfl
    | false => exact absurd (List.mem_filter.mpr ⟨hs, by simp [hi]⟩) hn
  · intro tok ht
    rcases h1 tok ht with h | ⟨s, hs, t, hti, rfl⟩
    · exact Or.inl h
    · have := List.mem_filter.mp hs
      exact Or.inr ⟨s, this.1, by simpa using this.2, t, hti, rfl⟩
  · intro s hs hi t ht
    exact h2 s (List.mem_filter.mpr ⟨hs, by simp [hi]⟩) t ht

/-- the same with the filter written inline as `List.filter` -/
theorem ignoreMarker_drops_filter (src : List Char) (mask : List Span) (inner : List Char → List Tok)
    (ign : List Char → Bool) (hm : MaskOK src.length mask) :
    ∃ toks, maskParse src (mask.filter fun s => !ign (slice src s)) inner = .ok toks ∧
      ∀ tok ∈ toks, tok.kind = .paragraphBreak ∨
        ∃ s ∈ mask, ign (slice src s) = false ∧ ∃ t ∈ inner (slice src s), tok = t.shift s.start := by
  obtain ⟨kept, _, rfl, _, _, _, _, toks, h, h1, _⟩ := ignoreMarker_drops src mask inner ign hm
  exact ⟨toks, h, h1⟩

/-- … and exactly: over the filtered mask the output of `Mask::parse` is, kept span by kept span in mask
order, an optional `ParagraphBreak` followed by the inner parser's tokens on `src[span]` shifted by
`span.start` (`maskParse_exact` composed with the model of the filter) -/
theorem ignoreMarker_exact (src : List Char) (mask : List Span) (inner : List Char → List Tok)
    (ign : List Char → Bool) (hm : MaskOK src.length mask) :
    ∃ (kept : List Span) (brks : List (List Tok)), commentFilter ign src mask = .ok kept ∧
      kept = mask.filter (fun s => !ign (slice src s)) ∧ brks.length = kept.length ∧
      (∀ b ∈ brks, b.length ≤ 1 ∧ ∀ t ∈ b, t.kind = .paragraphBreak) ∧
      maskParse src kept inner =
        .ok ((brks.zip kept).flatMap
          fun p => p.1 ++ (inner (slice src p.2)).map (·.shift p.2.start)) := by
  obtain ⟨brks, h1, h2, h3⟩ := maskParse_exact src _ inner
    (hm.filter (fun s => !ign (slice src s)))
  exact ⟨_, brks, commentFilter_eq ign src mask hm, rfl, h1, h2, h3⟩

/-- with the default condition: no kept span contains a marker or starts with `#!`, and every dropped
span does -/
theorem ignoreMarker_drops_default (src : List Char) (mask : List Span) (hm : MaskOK src.length mask) :
    ∃ kept, commentFilter ignoreCondition src mask = .ok kept ∧ kept.Sublist mask ∧
      (∀ s ∈ kept, (∀ mk ∈ ignoreMarkers, ¬ ∃ pre post, slice src s = pre ++ mk ++ post) ∧
        ¬ ∃ rest, slice src s = '#' :: '!' :: rest) ∧
      (∀ s ∈ mask, s ∉ kept → (∃ mk ∈ ignoreMarkers, ∃ pre post, slice src s = pre ++ mk ++ post) ∨
        ∃ rest, slice src s = '#' :: '!' :: rest) := by
  obtain ⟨kept, h, _, hsub, _, hk, hd, _⟩ := ignoreMarker_drops src mask (fun _ => []) ignoreCondition hm
  refine ⟨kept, h, hsub, ?_, ?_⟩
  · intro s hs
    have hf := hk s hs
    have hn : ¬ (ignoreCondition (slice src s) = true) := by simp [hf]
    rw [ignoreCondition_iff] at hn
    exact ⟨fun mk hmk hex => hn (Or.inl ⟨mk, hmk, hex⟩), fun hex => hn (Or.inr hex)⟩
  · intro s hs hn
    exact (ignoreCondition_iff _).mp (hd s hs hn)

/-- `Mask::from_iter` (the `collect()` of `CommentMasker::create_mask`): on a list that satisfies the
mask invariant the sort is the identity and the assertion holds -/
theorem maskFromIter_spec (n : Nat) (m : List Span) (hm : MaskOK n m) : maskFromIter m = .ok m :=
  maskFromIter_ok hm

/-- … and in general it panics exactly when two consecutive spans of the sorted list overlap -/
theorem maskFromIter_panics (spans : List Span) :
    maskFromIter spans = .error .assertFail ↔ adjacentDisjoint (sortByStart spans) = false := by
  unfold maskFromIter
  simp only []
  cases h : adjacentDisjoint (sortByStart spans) <;> simp

/-- `CommentMasker::create_mask` after the tree walk, composed (`commentMask`, what op `cmask` runs):
under the hypotheses of `treeSitterMask_ok` the tree-sitter mask `m` exists and satisfies the
invariant, and the comment mask is exactly the spans of `m` whose text does not satisfy the ignore
condition — a mask again. The filter looks at `m`, i.e. at the spans AFTER whitespace merging. -/
theorem commentMask_ok (ign : List Char → Bool) (isWs : Char → Bool) (gs : List (List Nat))
    (hwf : ∀ g ∈ gs, WFGroup g) (src : List Char) (hlen : src.length = gs.length) (spans : List Span)
    (cs : List (Nat × Nat)) (hret : retainStep (sortByStart spans) = cs.map (toByteSpan gs))
    (hc : CharChain gs.length 0 cs) :
    ∃ m, treeSitterMask isWs gs.flatten src spans = .ok m ∧ MaskOK src.length m ∧
      commentMask ign isWs gs.flatten src spans = .ok (m.filter fun s => !ign (slice src s)) ∧
      MaskOK src.length (m.filter fun s => !ign (slice src s)) := by
  obtain ⟨m, h1, h2⟩ := treeSitterMask_ok isWs gs hwf src hlen spans cs hret hc
  refine ⟨m, h1, h2, ?_, h2.filter _⟩
  simp only [commentMask, h1, bind, Except.bind]
  exact commentFilter_eq ign src m h2

/-- the marker test of the examples: the text contains `ign` -/
def hasMarker (c : List Char) : Bool :=
  (List.range c.length).any (fun i => ['i', 'g', 'n'].isPrefixOf (c.drop i))

/-- non-vacuity of maskParse_exact / ignoreMarker_drops: of the two comments `ab ign` and `x y` only
the second reaches the inner parser -/
example : MaskOK ['a', 'b', ' ', 'i', 'g', 'n', '\n', 'x', ' ', 'y'].length [⟨0, 6⟩, ⟨7, 10⟩] :=
  ⟨by intro s hs; simp at hs; rcases hs with rfl | rfl <;> simp, by simp⟩
example : maskParse ['a', 'b', ' ', 'i', 'g', 'n', '\n', 'x', ' ', 'y']
    ([⟨0, 6⟩, ⟨7, 10⟩].filter fun s => !hasMarker (slice ['a', 'b', ' ', 'i', 'g', 'n', '\n', 'x', ' ', 'y'] s)) spy3 =
    .ok [⟨⟨7, 8⟩, .word⟩, ⟨⟨8, 9⟩, .space 1⟩, ⟨⟨9, 10⟩, .word⟩] := by decide +kernel
/-- … the theorems applied to concrete data (hypothesis `MaskOK` met by a two-span mask) -/
example : ∃ toks, maskParse ['é', ' ', '😀', 'a', '\n', '/', '/', 'x', ' ', 'y', 'z'] [⟨0, 4⟩, ⟨7, 11⟩] spy3 = .ok toks ∧
    (∀ tok ∈ toks, tok.kind = .paragraphBreak ∨ ∃ s ∈ [(⟨0, 4⟩ : Span), ⟨7, 11⟩],
      ∃ t ∈ spy3 (slice ['é', ' ', '😀', 'a', '\n', '/', '/', 'x', ' ', 'y', 'z'] s), tok = t.shift s.start) ∧
    (∀ s ∈ [(⟨0, 4⟩ : Span), ⟨7, 11⟩],
      ∀ t ∈ spy3 (slice ['é', ' ', '😀', 'a', '\n', '/', '/', 'x', ' ', 'y', 'z'] s), t.shift s.start ∈ toks) :=
  maskParse_only_allowed _ _ spy3 exMask_ok
example : ∃ toks, maskParse ['é', ' ', '😀', 'a', '\n', '/', '/', 'x', ' ', 'y', 'z']
      ([⟨0, 4⟩, ⟨7, 11⟩].filter fun s => !hasMarker (slice ['é', ' ', '😀', 'a', '\n', '/', '/', 'x', ' ', 'y', 'z'] s)) spy3 = .ok toks ∧
    ∀ tok ∈ toks, tok.kind = .paragraphBreak ∨ ∃ s ∈ [(⟨0, 4⟩ : Span), ⟨7, 11⟩],
      hasMarker (slice ['é', ' ', '😀', 'a', '\n', '/', '/', 'x', ' ', 'y', 'z'] s) = false ∧
      ∃ t ∈ spy3 (slice ['é', ' ', '😀', 'a', '\n', '/', '/', 'x', ' ', 'y', 'z'] s), tok = t.shift s.start :=
  ignoreMarker_drops_filter _ _ spy3 hasMarker exMask_ok

/-- the text of the witnesses below: `//harper:ignore é` / `x;` / `// yz` -/
def igSrc : List Char :=
  ['/', '/', 'h', 'a', 'r', 'p', 'e', 'r', ':', 'i', 'g', 'n', 'o', 'r', 'e', ' ', 'é', '\n', 'x', ';', '\n',
    '/', '/', ' ', 'y', 'z']

theorem igMask_ok : MaskOK igSrc.length [⟨0, 17⟩, ⟨21, 26⟩] :=
  ⟨by intro s hs; simp at hs; rcases hs with rfl | rfl <;> simp [igSrc], by simp⟩

/-- non-vacuity of ignoreMarker_drops / ignoreMarker_exact / ignoreMarker_drops_default: the model of the
filter with the DEFAULT condition on a two-comment mask (multi-byte text in the ignored comment) -/
example : ∃ kept, commentFilter ignoreCondition igSrc [⟨0, 17⟩, ⟨21, 26⟩] = .ok kept ∧
    kept = [(⟨0, 17⟩ : Span), ⟨21, 26⟩].filter (fun s => !ignoreCondition (slice igSrc s)) ∧
    kept.Sublist [⟨0, 17⟩, ⟨21, 26⟩] ∧ MaskOK igSrc.length kept ∧
    (∀ s ∈ kept, ignoreCondition (slice igSrc s) = false) ∧
    (∀ s ∈ [(⟨0, 17⟩ : Span), ⟨21, 26⟩], s ∉ kept → ignoreCondition (slice igSrc s) = true) ∧
    ∃ toks, maskParse igSrc kept spy3 = .ok toks ∧
      (∀ tok ∈ toks, tok.kind = .paragraphBreak ∨ ∃ s ∈ [(⟨0, 17⟩ : Span), ⟨21, 26⟩],
        ignoreCondition (slice igSrc s) = false ∧ ∃ t ∈ spy3 (slice igSrc s), tok = t.shift s.start) ∧
      (∀ s ∈ [(⟨0, 17⟩ : Span), ⟨21, 26⟩], ignoreCondition (slice igSrc s) = false →
        ∀ t ∈ spy3 (slice igSrc s), t.shift s.start ∈ toks) :=
  ignoreMarker_drops igSrc _ spy3 ignoreCondition igMask_ok
example : commentFilter ignoreCondition igSrc [⟨0, 17⟩, ⟨21, 26⟩] = .ok [⟨21, 26⟩] := by decide +kernel
example : maskParse igSrc [⟨21, 26⟩] spy3 =
    .ok [⟨⟨21, 22⟩, .word⟩, ⟨⟨22, 23⟩, .space 1⟩, ⟨⟨23, 26⟩, .word⟩] := by decide +kernel
example : ∃ (kept : List Span) (brks : List (List Tok)),
    commentFilter ignoreCondition igSrc [⟨0, 17⟩, ⟨21, 26⟩] = .ok kept ∧
    kept = [(⟨0, 17⟩ : Span), ⟨21, 26⟩].filter (fun s => !ignoreCondition (slice igSrc s)) ∧
    brks.length = kept.length ∧ (∀ b ∈ brks, b.length ≤ 1 ∧ ∀ t ∈ b, t.kind = .paragraphBreak) ∧
    maskParse igSrc kept spy3 =
      .ok ((brks.zip kept).flatMap fun p => p.1 ++ (spy3 (slice igSrc p.2)).map (·.shift p.2.start)) :=
  ignoreMarker_exact igSrc _ spy3 ignoreCondition igMask_ok
example : ∃ kept, commentFilter ignoreCondition igSrc [⟨0, 17⟩, ⟨21, 26⟩] = .ok kept ∧
    kept.Sublist [⟨0, 17⟩, ⟨21, 26⟩] ∧
    (∀ s ∈ kept, (∀ mk ∈ ignoreMarkers, ¬ ∃ pre post, slice igSrc s = pre ++ mk ++ post) ∧
      ¬ ∃ rest, slice igSrc s = '#' :: '!' :: rest) ∧
    (∀ s ∈ [(⟨0, 17⟩ : Span), ⟨21, 26⟩], s ∉ kept →
      (∃ mk ∈ ignoreMarkers, ∃ pre post, slice igSrc s = pre ++ mk ++ post) ∨
      ∃ rest, slice igSrc s = '#' :: '!' :: rest) :=
  ignoreMarker_drops_default igSrc _ igMask_ok

/-- the marker table of the model: every spelling, anywhere in the text (multi-byte text around it) -/
example : ∀ mk ∈ ignoreMarkers, ignoreCondition (['/', '/', ' ', 'é'] ++ mk ++ [' ', '😀']) = true :=
  fun mk h => (ignoreCondition_iff _).mpr (Or.inl ⟨mk, h, _, _, rfl⟩)
/-- a shebang line: `#!` at the very START of the span only -/
example : ignoreCondition ['#', '!', '/', 'b', 'i', 'n'] = true := by decide +kernel
example : ignoreCondition [' ', '#', '!', '/', 'b', 'i', 'n'] = false := by decide +kernel
/-- near-misses: two spaces, another case, a spelling that is not one of the eight (`spell-check:`) -/
example : ignoreCondition ['h', 'a', 'r', 'p', 'e', 'r', ':', ' ', ' ', 'i', 'g', 'n', 'o', 'r', 'e'] = false := by decide +kernel
example : ignoreCondition ['H', 'a', 'r', 'p', 'e', 'r', ':', 'i', 'g', 'n', 'o', 'r', 'e'] = false := by decide +kernel
example : ignoreCondition ['s', 'p', 'e', 'l', 'l', '-', 'c', 'h', 'e', 'c', 'k', ':', 'i', 'g', 'n', 'o', 'r', 'e'] = false := by
  decide +kernel
/-- non-vacuity of ignoreCondition_iff (right to left): the marker `harper:ignore` inside `//harper:ignore é` -/
example : ignoreCondition (slice igSrc ⟨0, 17⟩) = true :=
  (ignoreCondition_iff _).mpr (Or.inl ⟨['h', 'a', 'r', 'p', 'e', 'r', ':', 'i', 'g', 'n', 'o', 'r', 'e'], by decide +kernel,
    ['/', '/'], [' ', 'é'], by decide +kernel⟩)

/-- `Mask::from_iter`: unsorted input is sorted, abutting spans are NOT fused (`push_allowed` would),
overlapping spans trip the assertion -/
example : maskFromIter [⟨2, 4⟩, ⟨0, 2⟩] = .ok [⟨0, 2⟩, ⟨2, 4⟩] := by decide +kernel
example : maskFromIter [⟨0, 3⟩, ⟨2, 4⟩] = .error .assertFail := by decide +kernel
example : maskFromIter [⟨0, 17⟩, ⟨21, 26⟩] = .ok [⟨0, 17⟩, ⟨21, 26⟩] := maskFromIter_spec _ _ igMask_ok
example : maskFromIter [⟨0, 3⟩, ⟨2, 4⟩] = .error .assertFail := (maskFromIter_panics _).mpr (by decide +kernel)

/-- "#!é b": one, one, two, one and one byte -/
def shGroups : List (List Nat) := [[35], [33], [195, 169], [32], [98]]

theorem shGroups_wf : ∀ g ∈ shGroups, WFGroup g := by
  intro g hg
  simp [shGroups] at hg
  rcases hg with rfl | rfl | rfl | rfl | rfl <;> exact ⟨_, _, rfl, by decide, by decide⟩

/-- non-vacuity of commentMask_ok: the node ranges `#!é` (bytes 0..4) and `b` (bytes 5..6), given out of
order; the shebang span is dropped by the default condition -/
example : ∃ m, treeSitterMask (· == '\n') shGroups.flatten ['#', '!', 'é', ' ', 'b'] [⟨5, 6⟩, ⟨0, 4⟩] = .ok m ∧
    MaskOK 5 m ∧
    commentMask ignoreCondition (· == '\n') shGroups.flatten ['#', '!', 'é', ' ', 'b'] [⟨5, 6⟩, ⟨0, 4⟩] =
      .ok (m.filter fun s => !ignoreCondition (slice ['#', '!', 'é', ' ', 'b'] s)) ∧
    MaskOK 5 (m.filter fun s => !ignoreCondition (slice ['#', '!', 'é', ' ', 'b'] s)) :=
  commentMask_ok ignoreCondition _ shGroups shGroups_wf ['#', '!', 'é', ' ', 'b'] (by decide +kernel) [⟨5, 6⟩, ⟨0, 4⟩]
    [(0, 3), (4, 5)] (by decide +kernel) (by simp [CharChain, shGroups])
example : commentMask ignoreCondition (· == '\n') shGroups.flatten ['#', '!', 'é', ' ', 'b'] [⟨5, 6⟩, ⟨0, 4⟩] =
    .ok [⟨4, 5⟩] := by decide +kernel

/-- `//harper:ignore` / `//ab` on consecutive lines -/
def mergedSrc : List Char :=
  ['/', '/', 'h', 'a', 'r', 'p', 'e', 'r', ':', 'i', 'g', 'n', 'o', 'r', 'e', '\n', '/', '/', 'a', 'b']

/-- **the filter sees the spans AFTER whitespace merging**: two line comments separated only by a line
break are one allowed span, so the marker in the first also drops the second … -/
example : treeSitterMask (fun c => c == ' ' || c == '\n') (mergedSrc.map (·.toNat)) mergedSrc [⟨0, 15⟩, ⟨16, 20⟩] =
    .ok [⟨0, 20⟩] := by decide +kernel
example : commentMask ignoreCondition (fun c => c == ' ' || c == '\n') (mergedSrc.map (·.toNat)) mergedSrc
    [⟨0, 15⟩, ⟨16, 20⟩] = .ok [] := by decide +kernel
/-- … whereas with code between them (`//harper:ignore` / `x;` / `//ab`) only the first is dropped -/
example : commentMask ignoreCondition (fun c => c == ' ' || c == '\n')
    ((mergedSrc.take 16 ++ ['x', ';', '\n'] ++ mergedSrc.drop 16).map (·.toNat))
    (mergedSrc.take 16 ++ ['x', ';', '\n'] ++ mergedSrc.drop 16) [⟨0, 15⟩, ⟨19, 23⟩] = .ok [⟨19, 23⟩] := by decide +kernel

/-! ## (c) comment leaders -/

/-- `without_initiators` never panics in `Span::new` and stays inside the line -/
theorem withoutInitiators_wf (isWs : Char → Bool) (src : List Char) :
    ∃ s, withoutInitiators isWs src = .ok s ∧ s.start ≤ s.stop ∧ s.stop ≤ src.length :=
  ⟨_, withoutInitiators_eq isWs src⟩

example : withoutInitiators (· == ' ') ['/', '/', ' ', 'é', 'x', ' ', '*', '/'] = .ok ⟨3, 5⟩ := by decide +kernel
example : withoutInitiators (· == ' ') ['/', '/', '/', ' ', ' '] = .ok ⟨5, 5⟩ := by decide +kernel

/-- `Unit::parse` never panics; every token is either the line break after line `j`, at
`Σ_{j'<j}(len_j'+1) + len_j`, or the image of a token the inner parser produced at column `c` of
the stripped line `j`, landing at `Σ_{j'<j}(len_j'+1) + leader_j + c` (`UnitTokAt`); and the chunk
handed to the inner parser is the text of the file at that offset (`Faithful`). -/
theorem unitParse_faithful (isWs : Char → Bool) (src : List Char) (inner : List Char → List Tok) :
    ∃ toks, unitParse isWs src inner = .ok toks ∧ Faithful inner src toks ∧
      ∀ tok ∈ toks, UnitTokAt isWs inner (splitNl src) 0 tok :=
  ⟨_, unitLoop_eq isWs src.length inner (splitNl src) 0 false,
    fun tok ht => (unitOut_faithful isWs src inner _ tok ht).1,
    fun tok ht => (unitOut_faithful isWs src inner _ tok ht).2⟩

/-- "// é\n  * 😀 x": the second line's tokens land after 5 characters of line one and its leader -/
theorem twoLines_parse :
    unitParse (fun c => c == ' ') ['/', '/', ' ', 'é', '\n', ' ', ' ', '*', ' ', '😀', ' ', 'x'] spy =
      .ok [⟨⟨3, 4⟩, .word⟩, ⟨⟨4, 5⟩, .newline 1⟩, ⟨⟨9, 12⟩, .word⟩] := by decide +kernel
example : unitParse (fun c => c == ' ') ['/', '/', ' ', 'é', '\n', ' ', ' ', '*', ' ', '😀', ' ', 'x'] spy =
    .ok [⟨⟨3, 4⟩, .word⟩, ⟨⟨4, 5⟩, .newline 1⟩, ⟨⟨9, 12⟩, .word⟩] := twoLines_parse

/-! ## (c′) `Unit::parse` and code fences: which lines reach the inner parser -/

/-- **Exact output of `Unit::parse`** (`harper-comments/src/comment_parsers/unit.rs`). It never
panics, and its token list is the concatenation, over the lines of the comment IN ORDER, of

* nothing at all (no inner tokens, no `Newline` token) for a line whose `in_code_fence` flag is
  `true` after the toggle (`fenceStates`: the flag starts `false` and is flipped by every line for
  which the model's own `lineIsCodeFence` says `true`), and
* `unitLineToks` for a line whose flag is `false`: the inner parser's tokens on the stripped line
  pushed by the leader, then the `Newline(1)` token if the line is not the last, all pushed by the
  offset of the line. -/
theorem unitParse_exact (isWs : Char → Bool) (src : List Char) (inner : List Char → List Tok) :
    unitParse isWs src inner =
      .ok (unitOut isWs src.length inner 0 (splitNl src) (fenceStates isWs false (splitNl src))) :=
  unitLoop_eq isWs src.length inner (splitNl src) 0 false

/-- the flag after line `j` of `Unit::parse`: `true` iff the number of fence lines among lines
`0..=j` is odd — i.e. `j` is an opening fence line or lies strictly between an opening fence and
the next fence line (the closing one has an even count: flag `false`) -/
theorem unitParse_fence_state (isWs : Char → Bool) (src : List Char) (j : Nat)
    (hj : j < (splitNl src).length) :
    (fenceStates isWs false (splitNl src))[j]? =
      some ((((splitNl src).take (j + 1)).countP (isFenceLine isWs)) % 2 == 1) := by
  rw [fenceStates_getElem? isWs _ false j hj]; simp

/-- **Which tokens `Unit::parse` returns, exactly** (both directions): `tok` is in the output iff
there is a line `j` whose flag is `false` (an UNFENCED line) such that `tok` is the `Newline(1)`
token at the end of that line (only if the line is not the last of the comment), or `tok` is an
inner-parser token `t` of the stripped line `j` (non-blank after stripping), moved to the true offset
`Σ_{j'<j}(len_j'+1) + leader_j`. -/
theorem unitParse_tokens_iff (isWs : Char → Bool) (src : List Char) (inner : List Char → List Tok)
    (toks : List Tok) (h : unitParse isWs src inner = .ok toks) (tok : Tok) :
    tok ∈ toks ↔ ∃ j line, (splitNl src)[j]? = some line ∧
      (fenceStates isWs false (splitNl src))[j]? = some false ∧
      ((lineStart (splitNl src) j + line.length < src.length ∧
          tok = nlTok (lineStart (splitNl src) j + line.length)) ∨
       ((leaderSpan isWs line).isEmpty = false ∧
          ∃ t ∈ inner (slice line (leaderSpan isWs line)),
            tok = t.shift (lineStart (splitNl src) j + (leaderSpan isWs line).start))) := by
  rw [unitParse_exact] at h
  cases h
  rw [mem_unitOut]
  simp only [mem_unitLineToks, Nat.zero_add]

/-- `// a` / `// ``` ` / `// b` / `// ``` ` / `// c`: prose, opening fence, code, closing fence, prose -/
def fenceSrc : List Char :=
  ['/', '/', ' ', 'a', '\n', '/', '/', ' ', '`', '`', '`', '\n', '/', '/', ' ', 'b', '\n',
    '/', '/', ' ', '`', '`', '`', '\n', '/', '/', ' ', 'c']

def fenceWs : Char → Bool := fun c => c == ' ' || c == '\n'

example : (splitNl fenceSrc).map (isFenceLine fenceWs) = [false, true, false, true, false] := by decide +kernel
example : fenceStates fenceWs false (splitNl fenceSrc) = [false, true, true, false, false] := by decide +kernel
example : (List.range 5).map (lineStart (splitNl fenceSrc)) = [0, 5, 12, 17, 24] := by decide +kernel
/-- non-vacuity of `unitParse_exact` / `unitParse_tokens_iff`: the five-line comment, evaluated. Lines 1
(opening fence, chars 5..12) and 2 (code, chars 12..17) contribute nothing, not even their
`Newline`; line 3 — the CLOSING fence — contributes a word over its three backticks (20..23) -/
theorem fenceSrc_parse : unitParse fenceWs fenceSrc spy =
    .ok [⟨⟨3, 4⟩, .word⟩, ⟨⟨4, 5⟩, .newline 1⟩, ⟨⟨20, 23⟩, .word⟩, ⟨⟨23, 24⟩, .newline 1⟩,
      ⟨⟨27, 28⟩, .word⟩] := by decide +kernel
example : unitParse fenceWs fenceSrc spy =
    .ok [⟨⟨3, 4⟩, .word⟩, ⟨⟨4, 5⟩, .newline 1⟩, ⟨⟨20, 23⟩, .word⟩, ⟨⟨23, 24⟩, .newline 1⟩,
      ⟨⟨27, 28⟩, .word⟩] := fenceSrc_parse
/-- a fenced block inside a comment: the line between the fences yields no tokens; the CLOSING fence
line is not "in the fence" any more and is handed to the inner parser like any other line (as in
`Unit::parse`: the flag is flipped before it is tested) -/
example : unitParse (fun c => c == ' ' || c == '\n') ['/', '/', ' ', 'a', '\n', '/', '/', ' ', '`', '`', '`', '\n', '/', '/', ' ', 'b', '\n',
    '/', '/', ' ', '`', '`', '`', '\n', '/', '/', ' ', 'c'] spy =
    .ok [⟨⟨3, 4⟩, .word⟩, ⟨⟨4, 5⟩, .newline 1⟩, ⟨⟨20, 23⟩, .word⟩, ⟨⟨23, 24⟩, .newline 1⟩,
      ⟨⟨27, 28⟩, .word⟩] := fenceSrc_parse

example : unitOut fenceWs fenceSrc.length spy 0 (splitNl fenceSrc) [false, true, true, false, false] =
    [⟨⟨3, 4⟩, .word⟩, ⟨⟨4, 5⟩, .newline 1⟩, ⟨⟨20, 23⟩, .word⟩, ⟨⟨23, 24⟩, .newline 1⟩,
      ⟨⟨27, 28⟩, .word⟩] := by decide +kernel

/-- **Lines inside a code fence yield no tokens.** Let line `k` of the comment have its
`in_code_fence` flag `true` (the opening fence line, or a line strictly between an opening fence and
the next fence line). With an inner parser that keeps its tokens inside the chunk it is given
(`InnerOK`), NO token returned by `Unit::parse` touches the stretch of the file occupied by line
`k` and its line break, `[lineStart k, lineStart k + len_k + 1)`: every token ends at or before the
line's first character or starts after its line break. -/
theorem unitParse_fenced_lines_silent (isWs : Char → Bool) (src : List Char)
    (inner : List Char → List Tok) (hin : InnerOK inner) (toks : List Tok)
    (h : unitParse isWs src inner = .ok toks) (k : Nat) (line : List Char)
    (hk : (splitNl src)[k]? = some line)
    (hst : (fenceStates isWs false (splitNl src))[k]? = some true) :
    ∀ tok ∈ toks, tok.span.stop ≤ lineStart (splitNl src) k ∨
      lineStart (splitNl src) k + line.length + 1 ≤ tok.span.start := by
  intro tok ht
  rw [unitParse_exact] at h
  cases h
  obtain ⟨j, lj, hj, hsj, hm⟩ := (mem_unitOut isWs src.length inner tok _ _ 0).mp ht
  have hb := (spanChain_map_span.mp (unitLineToks_chain hin isWs src.length _ lj (Nat.le_succ _)
    fun _ => Nat.le_refl _)).1 tok hm
  have hne : j ≠ k := by rintro rfl; rw [hst] at hsj; cases hsj
  rcases Nat.lt_or_gt_of_ne hne with hlt | hgt
  · have := lineStart_lt (splitNl src) j k lj hj hlt
    left; omega
  · have := lineStart_lt (splitNl src) k j line hk hgt
    right; omega

/-- non-vacuity of `unitParse_fenced_lines_silent`: the opening fence line (k = 1, chars 5..12) and the
code line (k = 2, chars 12..17) of `fenceSrc` -/
example : ∀ tok ∈ [(⟨⟨3, 4⟩, .word⟩ : Tok), ⟨⟨4, 5⟩, .newline 1⟩, ⟨⟨20, 23⟩, .word⟩, ⟨⟨23, 24⟩, .newline 1⟩,
    ⟨⟨27, 28⟩, .word⟩], tok.span.stop ≤ 5 ∨ 5 + 6 + 1 ≤ tok.span.start :=
  unitParse_fenced_lines_silent fenceWs fenceSrc spy spy_ok _ fenceSrc_parse 1 ['/', '/', ' ', '`', '`', '`']
    (by decide +kernel) (by decide +kernel)
example : ∀ tok ∈ [(⟨⟨3, 4⟩, .word⟩ : Tok), ⟨⟨4, 5⟩, .newline 1⟩, ⟨⟨20, 23⟩, .word⟩, ⟨⟨23, 24⟩, .newline 1⟩,
    ⟨⟨27, 28⟩, .word⟩], tok.span.stop ≤ 12 ∨ 12 + 4 + 1 ≤ tok.span.start :=
  unitParse_fenced_lines_silent fenceWs fenceSrc spy spy_ok _ fenceSrc_parse 2 ['/', '/', ' ', 'b']
    (by decide +kernel) (by decide +kernel)
/-- `InnerOK` is needed: an inner parser that reports a span outside its chunk puts a token from the
prose line 0 over the opening fence line -/
example : unitParse fenceWs fenceSrc (fun _ => [⟨⟨2, 6⟩, .word⟩]) =
    .ok [⟨⟨5, 9⟩, .word⟩, ⟨⟨4, 5⟩, .newline 1⟩, ⟨⟨22, 26⟩, .word⟩, ⟨⟨23, 24⟩, .newline 1⟩,
      ⟨⟨29, 33⟩, .word⟩] := by decide +kernel

/-- **The closing fence line IS handed to the inner parser** (`Unit::parse` flips `in_code_fence`
BEFORE testing it). While the flag is `true`, a fence line makes the loop emit, for that very line,
the inner parser's tokens on the stripped line — a chunk that begins with the three backticks and
is never blank — plus the line's `Newline`, and go on with the flag `false`. -/
theorem unit_closing_fence_parsed (isWs : Char → Bool) (total : Nat) (inner : List Char → List Tok)
    (trav : Nat) (line : List Char) (rest : List (List Char)) (hf : isFenceLine isWs line = true) :
    (slice line (leaderSpan isWs line)).take 3 = ['`', '`', '`'] ∧
    ∃ r, unitLoop isWs total inner (trav + line.length + 1) false rest = .ok r ∧
      unitLoop isWs total inner trav true (line :: rest) =
        .ok (((inner (slice line (leaderSpan isWs line))).map (·.shift (leaderSpan isWs line).start) ++
          lineBreakTok total trav line).map (·.shift trav) ++ r) := by
  obtain ⟨h1, h2⟩ := parsedLine_fence isWs inner line hf
  refine ⟨h1, _, unitLoop_eq isWs total inner rest _ false, ?_⟩
  simp only [unitLoop, lineIsCodeFence_eq, hf, parseLine_eq, unitLoop_eq, h2, bind, Except.bind]; rfl

/-- … whereas the OPENING fence line (flag `false` before it) and every non-fence line met while the
flag is `true` are skipped entirely: the loop continues as if the line were not there, only
`chars_traversed` advances. -/
theorem unit_opening_fence_skipped (isWs : Char → Bool) (total : Nat) (inner : List Char → List Tok)
    (trav : Nat) (line : List Char) (rest : List (List Char)) :
    (isFenceLine isWs line = true →
      unitLoop isWs total inner trav false (line :: rest) =
        unitLoop isWs total inner (trav + line.length + 1) true rest) ∧
    (isFenceLine isWs line = false →
      unitLoop isWs total inner trav true (line :: rest) =
        unitLoop isWs total inner (trav + line.length + 1) true rest) :=
  ⟨fun hf => by rw [unitLoop, lineIsCodeFence_eq, hf]; rfl,
   fun hf => by rw [unitLoop, lineIsCodeFence_eq, hf]; rfl⟩

/-- the same at the level of `Unit::parse`: if line `k` is a fence line whose flag is `false` — a
CLOSING fence — every token the inner parser produces for its stripped text (` ``` …`) is in the
output, at the line's true offset. -/
theorem unitParse_closing_fence_tokens (isWs : Char → Bool) (src : List Char)
    (inner : List Char → List Tok) (toks : List Tok) (h : unitParse isWs src inner = .ok toks)
    (k : Nat) (line : List Char) (hk : (splitNl src)[k]? = some line)
    (hf : isFenceLine isWs line = true)
    (hst : (fenceStates isWs false (splitNl src))[k]? = some false) :
    (slice line (leaderSpan isWs line)).take 3 = ['`', '`', '`'] ∧
    ∀ t ∈ inner (slice line (leaderSpan isWs line)),
      t.shift (lineStart (splitNl src) k + (leaderSpan isWs line).start) ∈ toks :=
  ⟨(parsedLine_fence isWs inner line hf).1, fun t ht =>
    (unitParse_tokens_iff isWs src inner toks h _).mpr
      ⟨k, line, hk, hst, Or.inr ⟨leaderSpan_fence_nonempty isWs line hf, t, ht, rfl⟩⟩⟩

/-- non-vacuity of `unit_closing_fence_parsed`: inside a fence at offset 17 of a 28-character comment,
the line `// ``` ` followed by `// c`: a word over the backticks (20..23) and the line's `Newline` -/
example : unitLoop fenceWs 28 spy 17 true [['/', '/', ' ', '`', '`', '`'], ['/', '/', ' ', 'c']] =
    .ok [⟨⟨20, 23⟩, .word⟩, ⟨⟨23, 24⟩, .newline 1⟩, ⟨⟨27, 28⟩, .word⟩] := by decide +kernel
example : isFenceLine fenceWs ['/', '/', ' ', '`', '`', '`'] = true := by decide +kernel
/-- non-vacuity of `unit_opening_fence_skipped`: the same line met with the flag `false` yields nothing,
and neither does the code line after it -/
example : unitLoop fenceWs 28 spy 5 false [['/', '/', ' ', '`', '`', '`'], ['/', '/', ' ', 'b']] = .ok [] := by
  decide +kernel
/-- non-vacuity of `unitParse_closing_fence_tokens` on `fenceSrc`, k = 3: the token over the closing
fence's backticks is in the output, and the text under it is ` ``` ` -/
example : (⟨⟨20, 23⟩, .word⟩ : Tok) ∈ [(⟨⟨3, 4⟩, .word⟩ : Tok), ⟨⟨4, 5⟩, .newline 1⟩, ⟨⟨20, 23⟩, .word⟩,
    ⟨⟨23, 24⟩, .newline 1⟩, ⟨⟨27, 28⟩, .word⟩] :=
  (unitParse_closing_fence_tokens fenceWs fenceSrc spy _ fenceSrc_parse 3 ['/', '/', ' ', '`', '`', '`']
    (by decide +kernel) (by decide +kernel) (by decide +kernel)).2 ⟨⟨0, 3⟩, .word⟩ (by decide +kernel)
example : slice fenceSrc ⟨20, 23⟩ = ['`', '`', '`'] ∧ slice fenceSrc ⟨8, 11⟩ = ['`', '`', '`'] := by decide +kernel

/-- **Unfenced text is checked completely.** If no line of the comment is a fence line, every line
is handed to the inner parser: for every line `j`, everything `Unit::parse` emits for a parsed
line (`unitLineToks`: inner tokens at the true offset, then the `Newline`) is in the output; in
particular every inner token of every non-blank stripped line. -/
theorem unitParse_no_fence_complete (isWs : Char → Bool) (src : List Char)
    (inner : List Char → List Tok) (toks : List Tok) (h : unitParse isWs src inner = .ok toks)
    (hno : ∀ l ∈ splitNl src, isFenceLine isWs l = false) (j : Nat) (line : List Char)
    (hj : (splitNl src)[j]? = some line) :
    (∀ tok ∈ unitLineToks isWs src.length inner (lineStart (splitNl src) j) line, tok ∈ toks) ∧
    ((leaderSpan isWs line).isEmpty = false → ∀ t ∈ inner (slice line (leaderSpan isWs line)),
      t.shift (lineStart (splitNl src) j + (leaderSpan isWs line).start) ∈ toks) := by
  have hlt : j < (splitNl src).length := by
    rcases Nat.lt_or_ge j (splitNl src).length with h' | h'
    · exact h'
    · rw [List.getElem?_eq_none h'] at hj; cases hj
  have hst : (fenceStates isWs false (splitNl src))[j]? = some false := by
    rw [fenceStates_no_fence isWs _ false hno]; simp [hlt]
  constructor
  · intro tok ht
    rw [unitParse_exact] at h
    cases h
    exact (mem_unitOut isWs src.length inner tok _ _ 0).mpr ⟨j, line, hj, hst, by simpa using ht⟩
  · intro he t ht
    exact (unitParse_tokens_iff isWs src inner toks h _).mpr ⟨j, line, hj, hst, Or.inr ⟨he, t, ht, rfl⟩⟩

/-- non-vacuity of `unitParse_no_fence_complete`: `// é` / `  * 😀 x`, second line -/
example : (⟨⟨9, 12⟩, .word⟩ : Tok) ∈ [(⟨⟨3, 4⟩, .word⟩ : Tok), ⟨⟨4, 5⟩, .newline 1⟩, ⟨⟨9, 12⟩, .word⟩] :=
  (unitParse_no_fence_complete (fun c => c == ' ') ['/', '/', ' ', 'é', '\n', ' ', ' ', '*', ' ', '😀', ' ', 'x'] spy
    _ twoLines_parse (by decide +kernel) 1 [' ', ' ', '*', ' ', '😀', ' ', 'x'] (by decide +kernel)).2 (by decide +kernel) ⟨⟨0, 3⟩, .word⟩
    (by decide +kernel)

/-! ## JSDoc inline tags -/

/-- `parse_inline_tag` terminates (never out of fuel with `fuel = len + 1`) and a reported tag ends
inside the slice -/
theorem parseInlineTag_terminates (ks : List Kind) :
    ∃ r, parseInlineTag (ks.length + 1) ks = .ok r ∧ ∀ p, r = some p → p ≤ ks.length := by
  obtain ⟨r, h1, h2⟩ := parseInlineTag_ok ks (ks.length + 1) (Nat.lt_succ_self _)
  exact ⟨r, h1, fun p hp => (h2 p hp).2⟩

/-- `mark_inline_tags` terminates and neither adds nor drops tokens -/
theorem markInlineTags_terminates (toks : List Tok) :
    ∃ r, markInlineTags (toks.length + 1) toks 0 = .ok r ∧ r.length = toks.length :=
  ⟨_, (inlineMark_eq toks).1, (inlineMark_eq toks).2.1⟩

/-- an unterminated `{@link`: `None` (the cursor loop stops at the end of the slice) -/
example : parseInlineTag 4 [.punct .OpenCurly, .punct .At, .word] = .ok none := by decide +kernel
example : parseInlineTag 6 [.punct .OpenCurly, .punct .At, .word, .space 1, .word, .punct .CloseCurly, .word] =
    .ok (some 6) := by decide +kernel

/-- an inner parser for the examples: one token per character (`{ } @ *`, spaces, line breaks; any
other character is a one-letter `Word`) -/
def charTok : List Char → List Tok := fun c =>
  c.zipIdx.map fun p => ⟨⟨p.2, p.2 + 1⟩,
    if p.1 = '{' then .punct .OpenCurly else if p.1 = '}' then .punct .CloseCurly
    else if p.1 = '@' then .punct .At else if p.1 = '*' then .punct .Star
    else if p.1 = ' ' then .space 1 else if p.1 = '\n' then .newline 1 else .word⟩

theorem charTok_aux (f : Char → Kind) : ∀ (c : List Char) (k : Nat),
    (∀ t ∈ (c.zipIdx k).map (fun p => (⟨⟨p.2, p.2 + 1⟩, f p.1⟩ : Tok)),
      k ≤ t.span.start ∧ t.span.stop = t.span.start + 1 ∧ t.span.stop ≤ k + c.length) ∧
    ((c.zipIdx k).map (fun p => (⟨⟨p.2, p.2 + 1⟩, f p.1⟩ : Tok))).Pairwise
      (fun a b => a.span.stop ≤ b.span.start)
  | [], k => by simp
  | x :: xs, k => by
    obtain ⟨h1, h2⟩ := charTok_aux f xs (k + 1)
    simp only [List.zipIdx_cons, List.map_cons]
    refine ⟨?_, List.pairwise_cons.mpr ⟨?_, h2⟩⟩
    · intro t ht
      rcases List.mem_cons.mp ht with rfl | ht
      · simp
      · have := h1 t ht
        simp only [List.length_cons]; omega
    · intro t ht
      have := h1 t ht
      simp only []; omega

/-- the one-token-per-character parser of the examples satisfies `InnerOK` -/
theorem charTok_ok : InnerOK charTok := by
  intro c
  obtain ⟨h1, h2⟩ := charTok_aux (fun ch =>
    if ch = '{' then .punct .OpenCurly else if ch = '}' then .punct .CloseCurly
    else if ch = '@' then .punct .At else if ch = '*' then .punct .Star
    else if ch = ' ' then .space 1 else if ch = '\n' then .newline 1 else .word) c 0
  refine ⟨?_, h2⟩
  intro t ht
  have := h1 t ht
  omega

/-- `JsDoc::parse` never panics or runs out of fuel (leader stripping, `mark_inline_tags` per line) -/
theorem jsdocLine_total (isWs : Char → Bool) (inner : List Char → List Tok) (line : List Char) :
    ∃ r, jsdocLine isWs inner line = .ok r :=
  ⟨_, jsdocLine_eq isWs inner line⟩

/-- … for the whole comment -/
theorem jsdocParse_total (isWs : Char → Bool) (src : List Char) (inner : List Char → List Tok) :
    ∃ r, jsdocParse isWs src inner = .ok r :=
  ⟨_, jsdocLoop_eq isWs src.length inner (splitNl src) 0⟩

/-- the comment of the JSDoc example below: `/** a {@l é} b` / ` * @p q` -/
def jsSrc : List Char :=
  ['/', '*', '*', ' ', 'a', ' ', '{', '@', 'l', ' ', 'é', '}', ' ', 'b', '\n', ' ', '*', ' ', '@', 'p', ' ', 'q']

/-- `/** a {@l é} b` / ` * @p q`: the inline tag and the block tag are Unlintable, prose keeps its
offsets on both lines -/
theorem jsSrc_parse : jsdocParse ws jsSrc charTok =
    .ok [⟨⟨4, 5⟩, .word⟩, ⟨⟨5, 6⟩, .space 1⟩, ⟨⟨6, 7⟩, .unlintable⟩, ⟨⟨7, 8⟩, .unlintable⟩,
      ⟨⟨8, 9⟩, .unlintable⟩, ⟨⟨9, 10⟩, .unlintable⟩, ⟨⟨10, 11⟩, .unlintable⟩, ⟨⟨11, 12⟩, .unlintable⟩,
      ⟨⟨12, 13⟩, .space 1⟩, ⟨⟨13, 14⟩, .word⟩, ⟨⟨14, 15⟩, .newline 1⟩, ⟨⟨18, 19⟩, .unlintable⟩,
      ⟨⟨19, 20⟩, .unlintable⟩, ⟨⟨20, 21⟩, .unlintable⟩, ⟨⟨21, 22⟩, .unlintable⟩] := by decide +kernel
example : jsdocParse (fun c => c == ' ' || c == '\n')
    ['/', '*', '*', ' ', 'a', ' ', '{', '@', 'l', ' ', 'é', '}', ' ', 'b', '\n', ' ', '*', ' ', '@', 'p', ' ', 'q'] charTok =
    .ok [⟨⟨4, 5⟩, .word⟩, ⟨⟨5, 6⟩, .space 1⟩, ⟨⟨6, 7⟩, .unlintable⟩, ⟨⟨7, 8⟩, .unlintable⟩,
      ⟨⟨8, 9⟩, .unlintable⟩, ⟨⟨9, 10⟩, .unlintable⟩, ⟨⟨10, 11⟩, .unlintable⟩, ⟨⟨11, 12⟩, .unlintable⟩,
      ⟨⟨12, 13⟩, .space 1⟩, ⟨⟨13, 14⟩, .word⟩, ⟨⟨14, 15⟩, .newline 1⟩, ⟨⟨18, 19⟩, .unlintable⟩,
      ⟨⟨19, 20⟩, .unlintable⟩, ⟨⟨20, 21⟩, .unlintable⟩, ⟨⟨21, 22⟩, .unlintable⟩] := jsSrc_parse

/-! ## JavaDoc block tags, Go directives -/

/-- The block-tag loop of javadoc.rs (`for i in 3..len`, reading `tokens[i-3..=i]` of the current
vector): never indexes out of bounds; keeps the number of tokens and every span; every
`At Word Space Word` window of the token list — anywhere, THE LAST FOUR TOKENS INCLUDED — ends up
Unlintable; and a token that was changed lies in such a window and was only made Unlintable. -/
theorem javadocMark_spec (toks : List Tok) :
    ∃ r, javadocMark toks = .ok r ∧ r.length = toks.length ∧
      (∀ (j : Nat), WindowAt toks j → ∀ (k : Nat), k < 4 → r[j + k]? = (toks[j + k]?).map unl) ∧
      (∀ (k : Nat), r[k]? = toks[k]? ∨
        (r[k]? = (toks[k]?).map unl ∧ ∃ j, j ≤ k ∧ k < j + 4 ∧ WindowAt toks j)) := by
  refine ⟨jdScan 0 toks, javadocMark_eq toks, jdScan_length 0 toks,
    fun j => jdScan_window 0 toks j (Nat.zero_le j), ?_⟩
  intro k
  by_cases h : (jdScan 0 toks)[k]? = toks[k]?
  · exact Or.inl h
  · exact Or.inr ⟨(jdScan_get 0 toks k).resolve_left h,
      (jdScan_unchanged 0 toks k h).resolve_left (Nat.not_lt_zero k)⟩

/-- in particular the last window: a comment that ends in `@throws IOException` -/
theorem javadocMark_last_window (pre : List Tok) (a b c d : Tok) (h : tagWindow a b c d = true) :
    ∃ r, javadocMark (pre ++ [a, b, c, d]) = .ok r ∧
      r.drop pre.length = [unl a, unl b, unl c, unl d] := by
  have hw : WindowAt (pre ++ [a, b, c, d]) pre.length := ⟨a, b, c, d, [], List.drop_left .., h⟩
  refine ⟨_, javadocMark_eq _, ?_⟩
  have : [unl a, unl b, unl c, unl d] = ((pre ++ [a, b, c, d]).drop pre.length).map unl := by
    rw [List.drop_left]; rfl
  rw [this]
  apply List.ext_getElem?
  intro k
  rw [List.getElem?_drop, List.getElem?_map, List.getElem?_drop]
  by_cases hk : k < 4
  · exact jdScan_window 0 _ _ (Nat.zero_le _) hw k hk
  · have hlen : (pre ++ [a, b, c, d]).length ≤ pre.length + k := by
      rw [List.length_append]; exact Nat.add_le_add_left (Nat.le_of_not_lt hk) _
    rw [List.getElem?_eq_none ((jdScan_length 0 _).symm ▸ hlen), List.getElem?_eq_none hlen]; rfl

def atT (s : Nat) : Tok := ⟨⟨s, s + 1⟩, .punct .At⟩
def wordT (s e : Nat) : Tok := ⟨⟨s, e⟩, .word⟩
def spaceT (s : Nat) : Tok := ⟨⟨s, s + 1⟩, .space 1⟩

example : tagWindow (atT 0) (wordT 1 4) (spaceT 4) (wordT 5 11) = true := by decide +kernel

/-- `/** @see Reader */`: exactly four tokens, all masked -/
example : javadocMark [atT 0, wordT 1 4, spaceT 4, wordT 5 11] =
    .ok [unl (atT 0), unl (wordT 1 4), unl (spaceT 4), unl (wordT 5 11)] := by decide +kernel

/-- `… fox\n@throws IOException` as the end of a comment: the last window is masked, the prose
before it is not -/
example : javadocMark [wordT 0 3, ⟨⟨3, 4⟩, .newline 1⟩, atT 4, wordT 5 11, spaceT 11, wordT 12 23] =
    .ok [wordT 0 3, ⟨⟨3, 4⟩, .newline 1⟩, unl (atT 4), unl (wordT 5 11), unl (spaceT 11), unl (wordT 12 23)] := by
  decide +kernel

/-- `@deprecated` alone (no argument) is not a window: left as it is -/
example : javadocMark [atT 0, wordT 1 11] = .ok [atT 0, wordT 1 11] := by decide +kernel

/-- `JavaDoc::parse` never panics: delimiters, inner parse, leader removal, inline tags, block tags;
the result has as many tokens as were left after the leaders were dropped -/
theorem javadocParse_total (isWs : Char → Bool) (src : List Char) (inner : List Char → List Tok) :
    ∃ a r, withoutInitiators isWs src = .ok a ∧ javadocParse isWs src inner = .ok r ∧
      r.length = (jdStrip false (inner (slice src a))).length :=
  let ⟨a, r, ha, _, _, hp, hr⟩ := javadocParse_spec isWs src inner
  ⟨a, r, ha, hp, hr.1.trans (List.length_map _)⟩

/-- the comment of the JavaDoc example below: `/** é` / ` * @s R */` -/
def jdSrc : List Char :=
  ['/', '*', '*', ' ', 'é', '\n', ' ', '*', ' ', '@', 's', ' ', 'R', ' ', '*', '/']

/-- `/** é` / ` * @s R */`: leaders stripped, the `@tag argument` window Unlintable, offsets in the
file (`actual.start` added after the inner parse) -/
theorem jdSrc_parse : javadocParse ws jdSrc charTok =
    .ok [⟨⟨4, 5⟩, .word⟩, ⟨⟨5, 6⟩, .newline 1⟩, ⟨⟨9, 10⟩, .unlintable⟩, ⟨⟨10, 11⟩, .unlintable⟩,
      ⟨⟨11, 12⟩, .unlintable⟩, ⟨⟨12, 13⟩, .unlintable⟩] := by decide +kernel
example : javadocParse (fun c => c == ' ' || c == '\n')
    ['/', '*', '*', ' ', 'é', '\n', ' ', '*', ' ', '@', 's', ' ', 'R', ' ', '*', '/'] charTok =
    .ok [⟨⟨4, 5⟩, .word⟩, ⟨⟨5, 6⟩, .newline 1⟩, ⟨⟨9, 10⟩, .unlintable⟩, ⟨⟨10, 11⟩, .unlintable⟩,
      ⟨⟨11, 12⟩, .unlintable⟩, ⟨⟨12, 13⟩, .unlintable⟩] := jdSrc_parse

example : ∃ r, javadocMark ([wordT 0 3, ⟨⟨3, 4⟩, .newline 1⟩] ++ [atT 4, wordT 5 11, spaceT 11, wordT 12 23]) = .ok r ∧
    r.drop 2 = [unl (atT 4), unl (wordT 5 11), unl (spaceT 11), unl (wordT 12 23)] :=
  javadocMark_last_window [wordT 0 3, ⟨⟨3, 4⟩, .newline 1⟩] _ _ _ _ (by decide +kernel)

/-! ### Go directives -/

/-- Go: `//go:x` followed by an empty comment line: the start is moved past the end; `try_get_content`
answers `None` for the inverted span and the block yields no tokens -/
example : goParse (fun c => c == ' ' || c == '\n') ['/', '/', 'g', 'o', ':', 'x', '\n', '/', '/'] spy =
    .ok [] := by decide +kernel
/-- a directive block yields no tokens, whatever follows the directive -/
example : goParse (fun c => c == ' ' || c == '\n')
    ['/', '/', 'g', 'o', ':', 'x', '\n', '/', '/', ' ', 'a', 'b'] spy = .ok [] := by decide +kernel
example : goParse (fun c => c == ' ' || c == '\n') ['/', '/', ' ', 'a', 'b'] spy =
    .ok [⟨⟨3, 5⟩, .word⟩] := by decide +kernel

/-- `Go::parse` never panics and is faithful: every token is the shifted image of an inner token of a
chunk that is the text of the file at that offset (directive or not) -/
theorem goParse_faithful (isWs : Char → Bool) (src : List Char) (inner : List Char → List Tok) :
    ∃ toks, goParse isWs src inner = .ok toks ∧ Faithful inner src toks := by
  obtain ⟨ha, h1, h2⟩ := withoutInitiators_eq isWs src
  generalize leaderSpan isWs src = a at ha h1 h2
  have hlen := slice_length a src h2
  simp only [goParse, ha, getContent_eq a src h1 h2, bind, Except.bind]
  split
  · cases hf : src.findIdx? (· == '\n') with
    | none => exact ⟨[], rfl, Faithful.nil⟩
    | some term =>
      simp only [tryGetContent]
      by_cases hcond : (a.start + term > a.stop ∨ a.start + term ≥ (slice src a).length ∨
          a.stop > (slice src a).length)
      · rw [if_pos hcond]
        by_cases heq : (a.stop == a.start + term) = true
        · rw [if_pos heq]
          have := Faithful.chunk (inner := inner) (src := src) (s := ⟨a.start + term, a.start + term⟩)
            (Nat.le_refl _) (Nat.le_trans (Nat.le_of_eq (eq_of_beq heq).symm) h2)
          rw [slice, Nat.sub_self, List.take_zero] at this
          exact ⟨_, rfl, this⟩
        · rw [if_neg heq]; exact ⟨[], rfl, Faithful.nil⟩
      · rw [if_neg hcond, hlen] at *
        -- `a.stop ≤ a.stop - a.start`: the leader is empty, so positions in the cut text are positions in the text
        obtain ⟨s0, e0⟩ := a
        obtain rfl : s0 = 0 := by simp only at hcond; omega
        rw [slice_slice src _ _ (Nat.le_refl _)]
        exact ⟨_, rfl, Faithful.chunk (s := ⟨0 + term, e0⟩) (by simp only at hcond ⊢; omega) h2⟩
  · exact ⟨_, rfl, Faithful.chunk h1 h2⟩

/-- a comment block that starts with a `go:` directive (after a non-empty leader such as `//`) yields
no tokens — or, when the directive line is the whole block, whatever the inner parser makes of the
EMPTY text (`try_get_content` answers `Some(&[])` for `start == end`) -/
theorem goParse_directive (isWs : Char → Bool) (src : List Char) (inner : List Char → List Tok)
    (a : Span) (ha : withoutInitiators isWs src = .ok a) (h0 : 0 < a.start)
    (hgo : ((slice src a).take 3 == ['g', 'o', ':']) = true) :
    goParse isWs src inner = .ok [] ∨
      ∃ off, goParse isWs src inner = .ok ((inner []).map (·.shift off)) := by
  obtain ⟨ha', h1, h2⟩ := withoutInitiators_eq isWs src
  generalize leaderSpan isWs src = a' at ha' h1 h2
  rw [ha] at ha'; cases ha'
  have hc := getContent_eq a src h1 h2
  have hlen := slice_length a src h2
  simp only [goParse, ha, hc, bind, Except.bind]
  rw [if_pos hgo]
  cases hf : src.findIdx? (· == '\n') with
  | none => exact Or.inl rfl
  | some term =>
    simp only [tryGetContent]
    rw [if_pos (by rw [hlen]; omega)]
    by_cases heq : (a.stop == a.start + term) = true
    · rw [if_pos heq]; exact Or.inr ⟨a.start + term, rfl⟩
    · rw [if_neg heq]; exact Or.inl rfl

example : withoutInitiators (fun c => c == ' ' || c == '\n')
    ['/', '/', 'g', 'o', ':', 'x', '\n', '/', '/', ' ', 'a', 'b'] = .ok ⟨2, 12⟩ := by decide +kernel
example : goParse (fun c => c == ' ' || c == '\n')
    ['/', '/', 'g', 'o', ':', 'x', '\n', '/', '/', ' ', 'a', 'b'] spy = .ok [] ∨
    ∃ off, goParse (fun c => c == ' ' || c == '\n')
      ['/', '/', 'g', 'o', ':', 'x', '\n', '/', '/', ' ', 'a', 'b'] spy = .ok ((spy []).map (·.shift off)) :=
  goParse_directive _ _ spy ⟨2, 12⟩ (by decide +kernel) (by decide +kernel) (by decide +kernel)

/-! ## JSDoc / JavaDoc: span-only faithfulness

`Faithful` cannot hold of these two parsers (tokens inside `{@tag …}` and after a block tag change
kind). What does hold — with NO hypothesis on the inner parser — is that the marking passes never
touch a span: the output is the inner parser's token list, token for token and in order, with kinds
kept or replaced by `Unlintable` (`Remarked`), shifted to where the stripped line / the comment body
really is in the file. -/

/-- a token that was not marked `Unlintable` is exactly the inner parser's token (shifted) -/
theorem remark_unmarked (a b : Tok) (h : Remark a b) (hk : b.kind ≠ .unlintable) : b = a := by
  obtain ⟨h1, h2⟩ := h
  rcases h2 with h2 | h2
  · cases a; cases b; cases h1; cases h2; rfl
  · exact absurd h2 hk

/-- what `SpanFaithful` buys: the text of the file under a (possibly re-marked) token is the text the
inner parser saw under the original -/
theorem span_faithful_text (src chunk : List Char) (off : Nat) (t tok : Tok)
    (hr : Remark (t.shift off) tok) (hc : chunk = (src.drop off).take chunk.length)
    (hb : t.span.stop ≤ chunk.length) : slice src tok.span = slice chunk t.span := by
  rw [hr.1]; exact faithful_text src chunk off t hc hb

/-- `Faithful` implies `SpanFaithful` (so `Mask::parse`, `Unit::parse`, `Go::parse` are span-faithful too) -/
theorem faithful_span_faithful (inner : List Char → List Tok) (src : List Char) (toks : List Tok)
    (h : Faithful inner src toks) : SpanFaithful inner src toks := by
  intro tok ht
  rcases h tok ht with hg | ⟨off, chunk, t, h1, h2, h3, rfl⟩
  · exact Or.inl hg
  · exact Or.inr ⟨off, chunk, t, h1, h2, h3, Remark.refl _⟩

/-- **`JsDoc::parse` is span-faithful.** It never panics, and its output is (`JsDocLines`, base 0): for
every line `j` of the comment, in order, the inner parser's tokens on the stripped line — the same
spans in the same order, kinds kept or `Unlintable` — shifted by `Σ_{j'<j}(len_j'+1) + leader_j`,
followed (unless `j` is the last line) by the line break at `Σ_{j'<j}(len_j'+1) + len_j`. Token by
token (`SpanFaithful`): each is such a line break or has the span of an inner token of a chunk that
is the text of the file at that offset. -/
theorem jsdocParse_span_faithful (isWs : Char → Bool) (src : List Char) (inner : List Char → List Tok) :
    ∃ toks, jsdocParse isWs src inner = .ok toks ∧ JsDocLines isWs inner (splitNl src) 0 toks ∧
      SpanFaithful inner src toks :=
  ⟨_, jsdocLoop_eq isWs src.length inner (splitNl src) 0,
    unitOut_jsDocLines isWs inner src.length (splitNl src) 0 (fun _ => by rw [joinNl_splitNl, Nat.zero_add]),
    Faithful.remarked jsMark_remarked fun tok ht => (unitOut_faithful isWs src _ _ tok ht).1⟩

/-- corollary: all offsets in bounds of the source, tokens in order (given an inner parser that keeps
its tokens inside its chunk and in order) -/
theorem jsdocParse_inbounds (isWs : Char → Bool) (src : List Char) (inner : List Char → List Tok)
    (hin : InnerOK inner) :
    ∃ toks, jsdocParse isWs src inner = .ok toks ∧
      (∀ t ∈ toks, t.span.start ≤ t.span.stop ∧ t.span.stop ≤ src.length) ∧
      toks.Pairwise (fun a b => a.span.stop ≤ b.span.start) := by
  obtain ⟨h3, h4⟩ := spanChain_map_span.mp (unitOut_chain (hin.remarked jsMark_remarked) isWs src.length
    (splitNl src) (List.replicate _ false) 0 (fun _ => by rw [joinNl_splitNl]; exact Nat.le_of_eq (Nat.zero_add _)))
  exact ⟨_, jsdocLoop_eq isWs src.length inner (splitNl src) 0, fun t ht => (h3 t ht).2, h4⟩

/-- per line: every token of `jsdoc.rs:parse_line` lies inside the stripped part `a` of its line (hence
inside the line), given `InnerOK`; `JsDocLines` then shifts the line's tokens by the line's offset -/
theorem jsdocLine_in_line (isWs : Char → Bool) (inner : List Char → List Tok) (line : List Char)
    (hin : InnerOK inner) :
    ∃ a r, withoutInitiators isWs line = .ok a ∧ jsdocLine isWs inner line = .ok r ∧ a.stop ≤ line.length ∧
      (∀ t ∈ r, a.start ≤ t.span.start ∧ t.span.start ≤ t.span.stop ∧ t.span.stop ≤ a.stop) ∧
      r.Pairwise (fun x y => x.span.stop ≤ y.span.start) := by
  obtain ⟨ha, h1, h2⟩ := withoutInitiators_eq isWs line
  refine ⟨_, _, ha, jsdocLine_eq isWs inner line, h2, spanChain_map_span.mp ?_⟩
  rw [parsedLine]
  split
  · exact SpanChain.nil
  · exact (hin.remarked jsMark_remarked).chain_at h1 h2

/-- non-vacuity of jsdocLine_in_line: ` * @p é` — stripped part 3..7, four tokens, all marked -/
example : ∃ a r, withoutInitiators (fun c => c == ' ') [' ', '*', ' ', '@', 'p', ' ', 'é'] = .ok a ∧
    jsdocLine (fun c => c == ' ') charTok [' ', '*', ' ', '@', 'p', ' ', 'é'] = .ok r ∧ a.stop ≤ 7 ∧
    (∀ t ∈ r, a.start ≤ t.span.start ∧ t.span.start ≤ t.span.stop ∧ t.span.stop ≤ a.stop) ∧
    r.Pairwise (fun x y => x.span.stop ≤ y.span.start) :=
  jsdocLine_in_line _ charTok [' ', '*', ' ', '@', 'p', ' ', 'é'] charTok_ok
example : jsdocLine (fun c => c == ' ') charTok [' ', '*', ' ', '@', 'p', ' ', 'é'] =
    .ok [⟨⟨3, 4⟩, .unlintable⟩, ⟨⟨4, 5⟩, .unlintable⟩, ⟨⟨5, 6⟩, .unlintable⟩, ⟨⟨6, 7⟩, .unlintable⟩] := by decide +kernel

/-- **`JavaDoc::parse` is span-faithful.** It never panics, and its output is the HTML parser's token
list on the comment without its delimiters, minus leaders (a sublist that loses only `*` and space
tokens), shifted by the length of the opening delimiter, with the same spans in the same order and
kinds kept or `Unlintable`; token by token it is `SpanFaithful`. -/
theorem javadocParse_span_faithful (isWs : Char → Bool) (src : List Char) (inner : List Char → List Tok) :
    ∃ a toks, withoutInitiators isWs src = .ok a ∧ javadocParse isWs src inner = .ok toks ∧
      Remarked ((jdStrip false (inner (slice src a))).map (·.shift a.start)) toks ∧
      (jdStrip false (inner (slice src a))).Sublist (inner (slice src a)) ∧
      (∀ t ∈ inner (slice src a), isStarKind t.kind = false → t.kind.isSpace = false →
        t ∈ jdStrip false (inner (slice src a))) ∧
      SpanFaithful inner src toks := by
  obtain ⟨a, toks, ha, h1, h2, hp, hr⟩ := javadocParse_spec isWs src inner
  refine ⟨a, toks, ha, hp, hr, jdStrip_sublist _ _, jdStrip_keeps _ _, ?_⟩
  intro tok ht
  obtain ⟨x, hx, hxy⟩ := hr.mem ht
  obtain ⟨t, hts, rfl⟩ := List.mem_map.mp hx
  have hlen := slice_length a src h2
  refine Or.inr ⟨a.start, slice src a, t, ?_, by omega, (jdStrip_sublist _ _).subset hts, hxy⟩
  rw [hlen]; rfl

/-- corollary: all offsets in bounds of the source, tokens in order (given `InnerOK`) -/
theorem javadocParse_inbounds (isWs : Char → Bool) (src : List Char) (inner : List Char → List Tok)
    (hin : InnerOK inner) :
    ∃ toks, javadocParse isWs src inner = .ok toks ∧
      (∀ t ∈ toks, t.span.start ≤ t.span.stop ∧ t.span.stop ≤ src.length) ∧
      toks.Pairwise (fun a b => a.span.stop ≤ b.span.start) := by
  obtain ⟨a, toks, ha, h1, h2, hp, hr⟩ := javadocParse_spec isWs src inner
  have := (hin.chain_at h1 h2).sublist (((jdStrip_sublist false _).map _).map _)
  rw [← hr.spans] at this
  obtain ⟨h3, h4⟩ := spanChain_map_span.mp this
  exact ⟨toks, hp, fun t ht => ⟨(h3 t ht).2.1, Nat.le_trans (h3 t ht).2.2 h2⟩, h4⟩

/-- non-vacuity of jsdocParse_span_faithful / jsdocParse_inbounds: two lines, a multi-byte character
inside an inline tag, a block tag on the second line (the concrete output is the `decide`d example
of the JSDoc section: six tokens of line one and four of line two are marked) -/
example : ∃ toks, jsdocParse (fun c => c == ' ' || c == '\n') jsSrc charTok = .ok toks ∧
    JsDocLines (fun c => c == ' ' || c == '\n') charTok (splitNl jsSrc) 0 toks ∧
    SpanFaithful charTok jsSrc toks :=
  jsdocParse_span_faithful _ jsSrc charTok
example : ∃ toks, jsdocParse (fun c => c == ' ' || c == '\n') jsSrc charTok = .ok toks ∧
    (∀ t ∈ toks, t.span.start ≤ t.span.stop ∧ t.span.stop ≤ jsSrc.length) ∧
    toks.Pairwise (fun a b => a.span.stop ≤ b.span.start) :=
  jsdocParse_inbounds _ jsSrc charTok charTok_ok
example : jsdocParse (fun c => c == ' ' || c == '\n') jsSrc charTok =
    .ok [⟨⟨4, 5⟩, .word⟩, ⟨⟨5, 6⟩, .space 1⟩, ⟨⟨6, 7⟩, .unlintable⟩, ⟨⟨7, 8⟩, .unlintable⟩,
      ⟨⟨8, 9⟩, .unlintable⟩, ⟨⟨9, 10⟩, .unlintable⟩, ⟨⟨10, 11⟩, .unlintable⟩, ⟨⟨11, 12⟩, .unlintable⟩,
      ⟨⟨12, 13⟩, .space 1⟩, ⟨⟨13, 14⟩, .word⟩, ⟨⟨14, 15⟩, .newline 1⟩, ⟨⟨18, 19⟩, .unlintable⟩,
      ⟨⟨19, 20⟩, .unlintable⟩, ⟨⟨20, 21⟩, .unlintable⟩, ⟨⟨21, 22⟩, .unlintable⟩] := jsSrc_parse
/-- … the text under the marked token `é` (file offset 10) is the text the inner parser saw at column 6
of the stripped line -/
example : slice jsSrc (⟨⟨10, 11⟩, .unlintable⟩ : Tok).span =
    slice ['a', ' ', '{', '@', 'l', ' ', 'é', '}', ' ', 'b'] (⟨6, 7⟩ : Span) :=
  span_faithful_text jsSrc ['a', ' ', '{', '@', 'l', ' ', 'é', '}', ' ', 'b'] 4 ⟨⟨6, 7⟩, .word⟩
    ⟨⟨10, 11⟩, .unlintable⟩ ⟨rfl, Or.inr rfl⟩ (by decide +kernel) (by decide +kernel)
example : (⟨⟨4, 5⟩, .word⟩ : Tok) = (⟨⟨0, 1⟩, .word⟩ : Tok).shift 4 :=
  remark_unmarked _ _ ⟨rfl, Or.inl rfl⟩ (by decide +kernel)
example : ∃ toks, unitParse (fun c => c == ' ') ['/', '/', ' ', 'é', '\n', ' ', ' ', '*', ' ', '😀', ' ', 'x'] spy = .ok toks ∧
    SpanFaithful spy ['/', '/', ' ', 'é', '\n', ' ', ' ', '*', ' ', '😀', ' ', 'x'] toks := by
  obtain ⟨toks, h, hf, _⟩ := unitParse_faithful (fun c => c == ' ')
    ['/', '/', ' ', 'é', '\n', ' ', ' ', '*', ' ', '😀', ' ', 'x'] spy
  exact ⟨toks, h, faithful_span_faithful _ _ _ hf⟩

/-- non-vacuity of javadocParse_span_faithful / javadocParse_inbounds: leaders (` * `) dropped after
the line break, the `@s R` window marked, a multi-byte character before it -/
example : ∃ a toks, withoutInitiators (fun c => c == ' ' || c == '\n') jdSrc = .ok a ∧
    javadocParse (fun c => c == ' ' || c == '\n') jdSrc charTok = .ok toks ∧
    Remarked ((jdStrip false (charTok (slice jdSrc a))).map (·.shift a.start)) toks ∧
    (jdStrip false (charTok (slice jdSrc a))).Sublist (charTok (slice jdSrc a)) ∧
    (∀ t ∈ charTok (slice jdSrc a), isStarKind t.kind = false → t.kind.isSpace = false →
      t ∈ jdStrip false (charTok (slice jdSrc a))) ∧
    SpanFaithful charTok jdSrc toks :=
  javadocParse_span_faithful _ jdSrc charTok
example : ∃ toks, javadocParse (fun c => c == ' ' || c == '\n') jdSrc charTok = .ok toks ∧
    (∀ t ∈ toks, t.span.start ≤ t.span.stop ∧ t.span.stop ≤ jdSrc.length) ∧
    toks.Pairwise (fun a b => a.span.stop ≤ b.span.start) :=
  javadocParse_inbounds _ jdSrc charTok charTok_ok
example : withoutInitiators (fun c => c == ' ' || c == '\n') jdSrc = .ok ⟨4, 13⟩ := by decide +kernel
example : javadocParse (fun c => c == ' ' || c == '\n') jdSrc charTok =
    .ok [⟨⟨4, 5⟩, .word⟩, ⟨⟨5, 6⟩, .newline 1⟩, ⟨⟨9, 10⟩, .unlintable⟩, ⟨⟨10, 11⟩, .unlintable⟩,
      ⟨⟨11, 12⟩, .unlintable⟩, ⟨⟨12, 13⟩, .unlintable⟩] := jdSrc_parse

/-! ## (d) Literate Haskell -/

/-- the masker never panics (`Span::new`, the `push_allowed` assertion, the slices of
`merge_whitespace_sep`) and returns a mask satisfying the invariant — for every text -/
theorem lhsMask_safe (isWs : Char → Bool) (text code : Bool) (src : List Char) :
    ∃ m, lhsMask isWs text code src = .ok m ∧ MaskOK src.length m := by
  have h1 := lhsLoop_eq isWs text code (splitNl src) ⟨0, false, false⟩ [] nofun
  have h2 := lhsSelected_chain isWs text code src.length (splitNl src) ⟨0, false, false⟩
    (fun _ => by rw [joinNl_splitNl]; exact Nat.le_of_eq (Nat.zero_add _))
  obtain ⟨m, h3, h4⟩ := mergeWhitespaceSep_ok isWs src _ _ (Nat.lt_succ_self _) (maskOK_iff.mpr h2)
  exact ⟨m, by simp only [lhsMask, h1, List.nil_append, bind, Except.bind]; exact h3, h4⟩

/-- Before whitespace merging, the allowed spans are exactly one span per line the state machine
(`lhsStep`) selects, in order, never fused; the span of a selected line `j` ends at the line's end
`loc_j + len_j` and starts at the line's start `loc_j`, or — only for a line beginning with `>` — at
`min (loc_j + 2) end` (the bird-track offset, clamped). -/
theorem lhsMask_classifies (isWs : Char → Bool) (text code : Bool) (src : List Char) :
    lhsLoop isWs text code ⟨0, false, false⟩ [] (splitNl src) =
      .ok ((lhsSelected isWs text code ⟨0, false, false⟩ (splitNl src)).map (fun p => ⟨p.1, p.2⟩)) ∧
    ∀ (st : LhsSt) (line : List Char) (a b : Nat), (lhsStep isWs text code st line).2 = some (a, b) →
      b = st.loc + line.length ∧ (a = st.loc ∨ (line.head? = some '>' ∧ a = min (st.loc + 2) b)) ∧
      (lhsStep isWs text code st line).1.loc = st.loc + line.length + 1 := by
  refine ⟨lhsLoop_eq isWs text code (splitNl src) ⟨0, false, false⟩ [] nofun, ?_⟩
  intro st line a b h
  have := lhsStep_props isWs text code st line
  exact ⟨(this.2 a b h).1, (this.2 a b h).2, this.1⟩

/-- "é\n\n> 😀\n\nb": the bird line is code; text mask = the two text lines -/
example : lhsMask ws true false ['é', '\n', '\n', '>', ' ', '😀', '\n', '\n', 'b'] = .ok [⟨0, 2⟩, ⟨8, 9⟩] := by
  decide +kernel
/-- … and the code mask starts two characters into the bird line -/
example : lhsMask ws false true ['é', '\n', '\n', '>', ' ', '😀', '\n', '\n', 'b'] = .ok [⟨5, 6⟩] := by decide +kernel
/-- a lone `>`: the bird-track offset `loc + 2` is clamped to the line end -/
example : lhsMask ws true false ['>'] = .ok [⟨1, 1⟩] := by decide +kernel
/-- a blank line inside `\begin{code}` ends the code environment: `x` is text -/
example : lhsMask ws true false (beginCode ++ ['\n', 'a', '\n', '\n', 'x', '\n'] ++ endCode) =
    .ok [⟨16, 28⟩] := by decide +kernel

/-- non-vacuity of lhsMask_classifies (second part): a bird line after a blank line, code mask -/
example : (lhsStep ws false true ⟨3, false, true⟩ ['>', ' ', '😀']).2 = some (5, 6) := by decide +kernel
/-- … and the clamp: a lone `>` -/
example : (lhsStep ws false true ⟨3, false, true⟩ ['>']).2 = some (4, 4) := by decide +kernel

/-! ## (e) git commit -/

/-- The inner parser is run on the prefix of the message before the first `#`: that prefix is the
text of the file at offset 0 (so inner tokens need no shifting and are faithful), it contains no `#`,
and it is the whole text or is followed by `#`. -/
theorem gitCommit_prefix (inner : List Char → List Tok) (src : List Char) :
    gitCommitParse inner src = inner (gitCommitCut src) ∧
    gitCommitCut src = (src.drop 0).take (gitCommitCut src).length ∧
    '#' ∉ gitCommitCut src ∧
    (gitCommitCut src = src ∨ src[(gitCommitCut src).length]? = some '#') := by
  have hle := @List.findIdx_le_length _ (· == '#') src
  have hlen : (gitCommitCut src).length = src.findIdx (· == '#') := by
    simp only [gitCommitCut, List.length_take]; exact Nat.min_eq_left hle
  refine ⟨rfl, by simp [gitCommitCut], ?_, ?_⟩
  · intro hmem
    obtain ⟨i, hi, hget⟩ := List.mem_iff_getElem.mp hmem
    rw [hlen] at hi
    have := List.not_of_lt_findIdx hi
    simp [gitCommitCut, List.getElem_take] at hget
    simp [hget] at this
  · by_cases h : src.findIdx (· == '#') < src.length
    · right
      rw [hlen, List.getElem?_eq_getElem h]
      have := @List.findIdx_getElem _ (· == '#') src h
      simp at this
      rw [this]
    · left
      unfold gitCommitCut
      exact List.take_of_length_le (by omega)

example : gitCommitCut ['é', '😀', ' ', '#', 'x', '#'] = ['é', '😀', ' '] := by decide +kernel

/-! ## (f) cursors -/

/-- From the cursor of character `k` (`byte = byteOff k`), `push_to` the byte offset of character
`k' ≥ k` yields exactly the cursor of `k'`: the char field is the char index of the byte offset. -/
theorem offsetCursor_exact (gs : List (List Nat)) (hwf : ∀ g ∈ gs, WFGroup g) (k k' : Nat)
    (hk : k ≤ k') (hk' : k' ≤ gs.length) :
    Cursor.pushTo gs.flatten ⟨k, byteOff gs k⟩ (byteOff gs k') = .ok ⟨k', byteOff gs k'⟩ := by
  have hmono := byteOff_mono gs hk
  have hcount := sliceCount_groups hwf hk hk'
  unfold Cursor.pushTo
  simp only []
  rw [if_neg (by omega)]
  by_cases he : byteOff gs k' = byteOff gs k
  · rw [if_pos he]
    -- equal byte offsets: the slice is empty, hence no characters in between
    have : k' - k = 0 := by
      have h0 : sliceCount gs.flatten (byteOff gs k) (byteOff gs k') = .ok 0 := by
        have hb := isBoundary_byteOff hwf (k := k) (by omega)
        have hle := byteOff_le gs (k := k) (by omega)
        unfold sliceCount
        rw [he, if_pos ⟨Nat.le_refl _, hle, hb, hb⟩]
        simp [charCount]
      rw [hcount] at h0
      injection h0
    have : k' = k := by omega
    subst this
    rfl
  · rw [if_neg he, hcount]
    have : k + (k' - k) = k' := by omega
    simp [this]

/-- the `assert!(new_byte >= self.byte)` -/
theorem offsetCursor_assert (bs : List Nat) (c : Cursor) (nb : Nat) :
    Cursor.pushTo bs c nb = .error .assertFail ↔ nb < c.byte := by
  unfold Cursor.pushTo
  by_cases h : nb < c.byte
  · simp [h]
  · rw [if_neg h]
    constructor
    · intro hc
      split at hc
      · cases hc
      · split at hc <;> cases hc
    · intro h'; omega

/-- Markdown's `(traversed_bytes, traversed_chars)` pair: advanced to the byte offset of character
`k' ≥ k` it denotes character `k'`; an earlier range start leaves it unchanged. -/
theorem markdownOffsets_exact (gs : List (List Nat)) (hwf : ∀ g ∈ gs, WFGroup g) (k k' : Nat)
    (hk' : k' ≤ gs.length) :
    mdAdvance gs.flatten ⟨k, byteOff gs k⟩ (byteOff gs k') =
      .ok (if byteOff gs k' > byteOff gs k then ⟨k', byteOff gs k'⟩ else ⟨k, byteOff gs k⟩) := by
  unfold mdAdvance
  simp only []
  by_cases h : byteOff gs k' > byteOff gs k
  · rw [if_pos h, if_pos h]
    have hk : k ≤ k' := by
      apply Nat.le_of_not_lt
      intro hc
      have := byteOff_mono gs (Nat.le_of_lt hc)
      omega
    rw [sliceCount_groups hwf hk hk']
    have : k + (k' - k) = k' := by omega
    simp [bind, Except.bind, pure, Except.pure, this]
  · rw [if_neg h, if_neg h]; rfl

example : Cursor.pushAll sampleGroups.flatten ⟨0, 0⟩ [1, 3, 3, 7, 8] =
    .ok [⟨1, 1⟩, ⟨2, 3⟩, ⟨2, 3⟩, ⟨3, 7⟩, ⟨4, 8⟩] := by decide +kernel
/-- pushing into the middle of `é` is `doc.get(..).unwrap()` on `None` -/
example : Cursor.pushTo sampleGroups.flatten ⟨0, 0⟩ 2 = .error .unwrapNone := by decide +kernel
example : Cursor.pushTo sampleGroups.flatten ⟨2, 3⟩ 1 = .error .assertFail := by decide +kernel

/-- non-vacuity of offsetCursor_exact: from character 1 (byte 1) to character 3 (byte 7) of "aé😀b" -/
example : Cursor.pushTo sampleGroups.flatten ⟨1, 1⟩ 7 = .ok ⟨3, 7⟩ :=
  offsetCursor_exact sampleGroups sampleGroups_wf 1 3 (by decide +kernel) (by decide +kernel)

/-- non-vacuity of markdownOffsets_exact: forward, and an earlier range start -/
example : mdAdvance sampleGroups.flatten ⟨1, 1⟩ 7 = .ok ⟨3, 7⟩ :=
  markdownOffsets_exact sampleGroups sampleGroups_wf 1 3 (by decide +kernel)
example : mdAdvance sampleGroups.flatten ⟨3, 7⟩ 1 = .ok ⟨3, 7⟩ :=
  markdownOffsets_exact sampleGroups sampleGroups_wf 3 1 (by decide +kernel)

end Harper.C04
