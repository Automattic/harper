import Harper.Basic.Span
import Harper.Lemmas.Span
import Harper.Basic.Proto
import Harper.Model.Overlaps
import Harper.Lemmas.SortSweep
import Harper.Lemmas.Overlaps
import Harper.Props.C13
import Harper.Basic.Suffix
import Harper.Tables.NumberSuffix
import Harper.Model.NumberSuffix
import Harper.Lemmas.NumberSuffix
import Harper.Props.C17
import Harper.Model.Stats
import Harper.Lemmas.Keyed
import Harper.Lemmas.Stats
import Harper.Props.C19
import Harper.Model.PosConv
import Harper.Lemmas.PosConv
import Harper.Props.C08
import Harper.Model.Ignore
import Harper.Lemmas.Ignore
import Harper.Props.C14
import Harper.Model.Title
import Harper.Lemmas.Title
import Harper.Props.C18
import Harper.Model.Pattern
import Harper.Lemmas.Pattern
import Harper.Props.C01Pattern
import Harper.Model.EditDistance
import Harper.Model.Dict
import Harper.Lemmas.EditDistance
import Harper.Props.C15
import Harper.Props.C15b
import Harper.Model.LintGroup
import Harper.Lemmas.LintGroup
import Harper.Props.C11
import Harper.Props.C05
import Harper.Model.Wasm
import Harper.Lemmas.Wasm
import Harper.Props.C16
import Harper.Props.C16b
import Harper.Model.Server
import Harper.Lemmas.Server
import Harper.Props.C09
import Harper.Driver.Server
import Harper.Model.Effects
import Harper.Lemmas.Effects
import Harper.Props.C10
import Harper.Driver.Effects
import Harper.Model.ConfigPaths
import Harper.Lemmas.ConfigPaths
import Harper.Lemmas.LexShape
import Harper.Lemmas.Shape
import Harper.Basic.LexerName
import Harper.Basic.Token
import Harper.Driver.All
import Harper.Driver.Condense
import Harper.Driver.DictIO
import Harper.Driver.EditDistance
import Harper.Driver.Ignore
import Harper.Driver.Lex
import Harper.Driver.LexExt
import Harper.Driver.LintGroup
import Harper.Driver.Mask
import Harper.Driver.NumberSuffix
import Harper.Driver.Overlaps
import Harper.Driver.Pattern
import Harper.Driver.PosConv
import Harper.Driver.Spell
import Harper.Driver.Stats
import Harper.Driver.Suggestion
import Harper.Driver.Title
import Harper.Driver.Wasm
import Harper.Lemmas.Chunks
import Harper.Lemmas.Condense
import Harper.Lemmas.CondensePats
import Harper.Lemmas.CondensePattern
import Harper.Lemmas.DictIO
import Harper.Lemmas.DocAppend
import Harper.Lemmas.Lex
import Harper.Lemmas.LexAppend
import Harper.Lemmas.LexExt
import Harper.Lemmas.LexExtAppend
import Harper.Lemmas.Mask
import Harper.Lemmas.Parse
import Harper.Lemmas.Suggestion
import Harper.Model.Chunks
import Harper.Model.Condense
import Harper.Model.DictIO
import Harper.Model.Lex
import Harper.Model.LexExt
import Harper.Model.Mask
import Harper.Model.Spell
import Harper.Lemmas.Spell
import Harper.Model.Suggestion
import Harper.Props.C01
import Harper.Props.C02
import Harper.Props.C02b
import Harper.Props.C02c
import Harper.Props.C03
import Harper.Props.C04
import Harper.Props.C06
import Harper.Props.C07
import Harper.Props.C12
import Harper.Props.C13b
import Harper.Props.C13c
import Harper.Tables.LexerOrder
import Harper.Tables.Punct
import Harper.Driver.Markdown
import Harper.Lemmas.Markdown
import Harper.Lemmas.MarkdownWrap
import Harper.Model.Markdown
import Harper.Props.C02d
import Harper.Model.Rules
import Harper.Driver.Rules
import Harper.Lemmas.Rules
import Harper.Props.C12b
import Harper.Props.C03b
import Harper.Lemmas.RulesPattern
import Harper.Model.Typst
import Harper.Driver.Typst
import Harper.Lemmas.Typst
import Harper.Props.C02e
import Harper.Model.Leaves
import Harper.Driver.Leaves
import Harper.Lemmas.Leaves
import Harper.Props.C01Leaves
import Harper.Props.C12c
import Harper.Props.C03c
import Harper.Model.PatternRules
import Harper.Driver.PatternRules
import Harper.Lemmas.PatternRules
import Harper.Props.C01Rules
import Harper.Props.C03d
import Harper.Props.C12d
import Harper.Model.Rules2
import Harper.Driver.Rules2
import Harper.Lemmas.Rules2
import Harper.Lemmas.Rules2Walk
import Harper.Lemmas.Rules2Pat
import Harper.Props.C01Rules2
import Harper.Props.C03e
import Harper.Props.C12e
import Harper.Model.MergeRules
import Harper.Model.SpellRule
import Harper.Driver.MergeRules
import Harper.Lemmas.MergeRules
import Harper.Lemmas.SpellRule
import Harper.Props.C01Merge
import Harper.Props.C03f
import Harper.Props.C12f
import Harper.Model.DocFull
